/- Lemmas for C14 (model `Barril/Model/Reg.lean`): the dictionary primitives, the registry invariant, and what
an accepted registration does to the registry (`step_spec`), from which every fact about `step` follows. -/
import Barril.Model.Reg

namespace Barril.Reg

instance {ε α : Type} [DecidableEq ε] [DecidableEq α] : DecidableEq (Except ε α)
  | .ok a, .ok b => if h : a = b then isTrue (by rw [h]) else isFalse (fun e => h (by cases e; rfl))
  | .error a, .error b => if h : a = b then isTrue (by rw [h]) else isFalse (fun e => h (by cases e; rfl))
  | .ok _, .error _ => isFalse (fun e => by cases e)
  | .error _, .ok _ => isFalse (fun e => by cases e)

theorem tlGet_append (ts : List (Sym × List UnitRow)) (q k : Sym) (l : List UnitRow) :
    tlGet (ts ++ [(q, l)]) k = (tlGet ts k).or (if q = k then some l else none) := by
  induction ts with
  | nil => simp [tlGet]
  | cons t ts ih => by_cases hk : t.1 = k <;> simp [tlGet, hk, ih]

theorem tlGet_setDefault (ts : List (Sym × List UnitRow)) (q k : Sym) :
    tlGet (tlSetDefault ts q) k = if k = q then some ((tlGet ts q).getD []) else tlGet ts k := by
  unfold tlSetDefault
  by_cases hk : k = q
  · subst hk
    cases h : tlGet ts k <;> simp [h, tlGet_append]
  · have hq : ¬ q = k := fun e => hk e.symm
    cases h : tlGet ts q <;> simp [hk, hq, tlGet_append]

theorem tlGet_modify (f : List UnitRow → List UnitRow) (ts : List (Sym × List UnitRow)) (q k : Sym) :
    tlGet (tlModify f ts q) k = if k = q then (tlGet ts q).map f else tlGet ts k := by
  induction ts with
  | nil => simp [tlModify, tlGet]
  | cons t ts ih =>
    by_cases hk : k = q
    · subst hk
      by_cases h0 : t.1 = k <;> simp [tlModify, tlGet, h0, ih]
    · have hq : ¬ q = k := fun e => hk e.symm
      by_cases h0 : t.1 = q <;> simp [tlModify, tlGet, h0, hk, hq, ih]

theorem tlModify_modify (f g : List UnitRow → List UnitRow) (ts : List (Sym × List UnitRow)) (q : Sym) :
    tlModify g (tlModify f ts q) q = tlModify (fun l => g (f l)) ts q := by
  induction ts with
  | nil => rfl
  | cons t ts ih => by_cases hk : t.1 = q <;> simp [tlModify, hk, ih]

theorem tlGet_after_add (ts : List (Sym × List UnitRow)) (f : List UnitRow → List UnitRow) (q k : Sym) :
    tlGet (tlModify f (tlSetDefault ts q) q) k
      = if k = q then some (f ((tlGet ts q).getD [])) else tlGet ts k := by
  simp only [tlGet_modify, tlGet_setDefault]
  split <;> simp [*]

theorem ixGet_append (ix : List (Sym × UnitRow)) (u : Sym) (w : UnitRow) (v : Sym) :
    ixGet (ix ++ [(u, w)]) v = (ixGet ix v).or (if u = v then some w else none) := by
  induction ix with
  | nil => simp [ixGet]
  | cons e ix ih => by_cases hk : e.1 = v <;> simp [ixGet, hk, ih]

theorem catGet_set (cs : List CatRow) (info : CatRow) (c : Sym) :
    catGet (catSet cs info) c = if info.name = c then some info else catGet cs c := by
  induction cs with
  | nil => simp [catSet, catGet]
  | cons ci cs ih =>
    by_cases hk : info.name = c
    · subst hk
      by_cases h0 : ci.name = info.name <;> simp [catSet, catGet, h0, ih]
    · by_cases h0 : ci.name = info.name <;> simp [catSet, catGet, h0, hk, ih]

theorem catGet_name {cs : List CatRow} {c : Sym} {ci : CatRow} (h : catGet cs c = some ci) : ci.name = c := by
  induction cs with
  | nil => simp [catGet] at h
  | cons c0 cs ih =>
    simp only [catGet] at h
    split at h
    · rename_i hk; cases h; exact hk
    · exact ih h

theorem moveLastToFront_append (l : List UnitRow) (w : UnitRow) : moveLastToFront (l ++ [w]) = w :: l := by
  simp [moveLastToFront]

/-- a category that is well-formed against a registry -/
structure CatOk (r : Registry) (ci : CatRow) : Prop where
  /-- it refers to an existing quantity type … -/
  typeExists : ∃ l, tlGet r.types ci.qtype = some l
    /- … its default unit is drawn from that type … -/
    ∧ ci.defaultUnit ∈ l.map (·.sym)
    /- … and so are its valid units -/
    ∧ ∀ vu, ci.validUnits = some vu → ∀ u ∈ vu, u ∈ l.map (·.sym)
  /-- the default value lies inside the limits -/
  defaultInLimits : minOk ci.minV ci.minExcl ci.defaultValue = true ∧ maxOk ci.maxV ci.maxExcl ci.defaultValue = true

/-- a list of rows of one quantity type whose base rows (registered by `AddUnitBase`) come first -/
def BaseFirst (l : List UnitRow) : Prop := l.any isBaseRow = true → ∃ b t, l = b :: t ∧ isBaseRow b = true

def HeadIdent (l : List UnitRow) : Prop := ∃ b t, l = b :: t ∧ isIdent b = true

/-- the registry invariant, in the form that survives the known finding (AddUnit into a quantity
type that has no base unit): the identity-base clause is "the rows registered as base units are
identities and precede every other row of their type" -/
structure RegInv (r : Registry) : Prop where
  rowsTyped : ∀ qt l, tlGet r.types qt = some l → ∀ w ∈ l, w.qtype = qt
  nonEmpty : ∀ qt l, tlGet r.types qt = some l → l ≠ []
  symsNodup : ∀ qt l, tlGet r.types qt = some l → (l.map (·.sym)).Nodup
  indexSync : ∀ u w, ixGet r.index u = some w ↔ (w.sym = u ∧ ∃ l, tlGet r.types w.qtype = some l ∧ w ∈ l)
  baseIdent : ∀ qt l, tlGet r.types qt = some l → ∀ w ∈ l, isBaseRow w = true → isIdent w = true
  baseFirst : ∀ qt l, tlGet r.types qt = some l → BaseFirst l
  catsOk : ∀ c ci, catGet r.cats c = some ci → CatOk r ci

theorem regInv_empty : RegInv Registry.empty := by
  constructor <;> simp [Registry.empty, tlGet, ixGet, catGet]

theorem RegInv.index_of_mem {r : Registry} (h : RegInv r) {qt : Sym} {l : List UnitRow} {w : UnitRow}
    (hl : tlGet r.types qt = some l) (hw : w ∈ l) : ixGet r.index w.sym = some w :=
  (h.indexSync _ _).mpr ⟨rfl, l, by rw [h.rowsTyped _ _ hl _ hw]; exact hl, hw⟩

/-- **every unit symbol belongs to exactly one quantity type** -/
theorem RegInv.sym_one_type {r : Registry} (h : RegInv r) {q1 q2 : Sym} {l1 l2 : List UnitRow}
    (h1 : tlGet r.types q1 = some l1) (h2 : tlGet r.types q2 = some l2) {w1 w2 : UnitRow}
    (m1 : w1 ∈ l1) (m2 : w2 ∈ l2) (hs : w1.sym = w2.sym) : q1 = q2 ∧ w1 = w2 := by
  have i1 := h.index_of_mem h1 m1
  rw [hs, h.index_of_mem h2 m2] at i1
  cases i1
  exact ⟨(h.rowsTyped _ _ h1 _ m1).symm.trans (h.rowsTyped _ _ h2 _ m2), rfl⟩

theorem getD_lists {r : Registry} {P : List UnitRow → Prop} (q : Sym) (h0 : P [])
    (h : ∀ l, tlGet r.types q = some l → P l) : P ((tlGet r.types q).getD []) := by
  cases hg : tlGet r.types q with
  | none => exact h0
  | some l => exact h l hg

theorem RegInv.free_not_listed {r : Registry} (h : RegInv r) {u : Sym} (hfree : ixGet r.index u = none) (q : Sym) :
    u ∉ ((tlGet r.types q).getD []).map (·.sym) :=
  getD_lists (P := fun l => u ∉ l.map (·.sym)) q (by simp) fun l hl hu => by
    obtain ⟨w, hw, hs⟩ := List.mem_map.mp hu
    have := h.index_of_mem hl hw
    rw [hs, hfree] at this
    cases this

/-- a list with the row `info` put in: in front when it is a base row (`AddUnitBase`), at the end otherwise -/
def putRow (l : List UnitRow) (info : UnitRow) : List UnitRow := if isBaseRow info then info :: l else l ++ [info]

theorem mem_putRow {l : List UnitRow} {info w : UnitRow} : w ∈ putRow l info ↔ w ∈ l ∨ w = info := by
  unfold putRow
  split <;> simp [or_comm]

theorem any_putRow (l : List UnitRow) (info : UnitRow) (p : UnitRow → Bool) :
    (putRow l info).any p = (l.any p || p info) := by
  unfold putRow
  split <;> simp [Bool.or_comm]

theorem baseFirst_putRow {l : List UnitRow} (info : UnitRow) (h : BaseFirst l) : BaseFirst (putRow l info) := by
  unfold putRow
  split
  · rename_i hb
    exact fun _ => ⟨info, l, rfl, hb⟩
  · rename_i hb
    intro ha
    -- the appended row is no base row, so a base row is among the old ones and the old head stays the head
    simp only [List.any_append, List.any_cons, hb, List.any_nil, Bool.or_false] at ha
    obtain ⟨b, t, hl, hbb⟩ := h ha
    exact ⟨b, t ++ [info], by rw [hl]; rfl, hbb⟩

/-- `r'` is `r` with the row `info`, whose symbol is not yet in the index, put into the list of its quantity type
(and into the index) -/
structure Inserted (r : Registry) (info : UnitRow) (r' : Registry) : Prop where
  free : ixGet r.index info.sym = none
  baseIdent : isBaseRow info = true → isIdent info = true
  types : ∀ k, tlGet r'.types k
    = if k = info.qtype then some (putRow ((tlGet r.types info.qtype).getD []) info) else tlGet r.types k
  index : r'.index = r.index ++ [(info.sym, info)]
  cats : r'.cats = r.cats

theorem Inserted.lists {r r' : Registry} {info : UnitRow} (hi : Inserted r info r') {P : Sym → List UnitRow → Prop}
    (hold : ∀ k l, tlGet r.types k = some l → P k l)
    (hnew : P info.qtype (putRow ((tlGet r.types info.qtype).getD []) info)) :
    ∀ k l, tlGet r'.types k = some l → P k l := by
  intro k l hl
  rw [hi.types] at hl
  split at hl
  · rename_i hk
    cases hl
    rw [hk]
    exact hnew
  · exact hold k l hl

theorem Inserted.inv {r r' : Registry} {info : UnitRow} (h : RegInv r) (hi : Inserted r info r') : RegInv r' := by
  have hold : ∀ w ∈ (tlGet r.types info.qtype).getD [], ∃ l, tlGet r.types info.qtype = some l ∧ w ∈ l :=
    getD_lists (P := fun o => ∀ w ∈ o, ∃ l, tlGet r.types info.qtype = some l ∧ w ∈ l) _
      (fun _ hw => nomatch hw) (fun l hl w hw => ⟨l, hl, hw⟩)
  have hfrom : ∀ k l, tlGet r'.types k = some l → ∀ w ∈ l,
      (∃ l0, tlGet r.types k = some l0 ∧ w ∈ l0) ∨ w = info :=
    hi.lists (fun k l hl w hw => Or.inl ⟨l, hl, hw⟩)
      (fun w hw => (mem_putRow.mp hw).imp_left (hold w))
  have hgrow : ∀ k l, tlGet r.types k = some l → ∃ l', tlGet r'.types k = some l' ∧ ∀ w ∈ l, w ∈ l' := by
    intro k l hl
    rw [hi.types]
    split
    · rename_i hk
      exact ⟨_, rfl, fun w hw => mem_putRow.mpr (Or.inl (by rw [← hk, hl]; exact hw))⟩
    · exact ⟨l, hl, fun _ hw => hw⟩
  have hinfo : ∃ l, tlGet r'.types info.qtype = some l ∧ info ∈ l :=
    ⟨_, by rw [hi.types, if_pos rfl], mem_putRow.mpr (Or.inr rfl)⟩
  refine ⟨hi.lists h.rowsTyped ?_, hi.lists h.nonEmpty ?_, hi.lists h.symsNodup ?_, ?_, hi.lists h.baseIdent ?_,
    hi.lists h.baseFirst ?_, ?_⟩
  · intro w hw
    rcases mem_putRow.mp hw with ho | rfl
    · obtain ⟨l, hl, hw'⟩ := hold w ho
      exact h.rowsTyped _ _ hl _ hw'
    · rfl
  · intro he
    have := mem_putRow.mpr (Or.inr rfl : info ∈ (tlGet r.types info.qtype).getD [] ∨ info = info)
    rw [he] at this
    cases this
  · have hnd : (((tlGet r.types info.qtype).getD []).map (·.sym)).Nodup :=
      getD_lists (P := fun l => (l.map (·.sym)).Nodup) _ List.nodup_nil (h.symsNodup _)
    have hnew := h.free_not_listed hi.free info.qtype
    unfold putRow
    split
    · exact List.nodup_cons.mpr ⟨hnew, hnd⟩
    · rw [List.map_append, List.nodup_append]
      refine ⟨hnd, by simp, ?_⟩
      intro a ha b hb hab
      simp only [List.map_cons, List.map_nil, List.mem_singleton] at hb
      exact hnew (hb ▸ hab ▸ ha)
  · intro v w
    rw [hi.index, ixGet_append, Option.or_eq_some_iff]
    constructor
    · rintro (ho | ⟨_, hv⟩)
      · obtain ⟨hs, l, hl, hw⟩ := (h.indexSync v w).mp ho
        obtain ⟨l', hl', hsub⟩ := hgrow _ _ hl
        exact ⟨hs, l', hl', hsub _ hw⟩
      · split at hv
        · rename_i hs
          cases hv
          exact ⟨hs, hinfo⟩
        · cases hv
    · rintro ⟨hs, l, hl, hw⟩
      rcases hfrom _ _ hl w hw with ho | rfl
      · exact Or.inl ((h.indexSync v w).mpr ⟨hs, ho⟩)
      · exact Or.inr ⟨hs ▸ hi.free, if_pos hs⟩
  · intro w hw hb
    rcases mem_putRow.mp hw with ho | rfl
    · obtain ⟨l, hl, hw'⟩ := hold w ho
      exact h.baseIdent _ _ hl _ hw' hb
    · exact hi.baseIdent hb
  · exact baseFirst_putRow info
      (getD_lists (P := BaseFirst) _ (fun ha => by simp at ha) (h.baseFirst _))
  · intro c ci hc
    rw [hi.cats] at hc
    obtain ⟨⟨l, hl, hdu, hvu⟩, hlim⟩ := h.catsOk c ci hc
    obtain ⟨l', hl', hsub⟩ := hgrow _ _ hl
    have hsym : ∀ s, s ∈ l.map (·.sym) → s ∈ l'.map (·.sym) := by
      intro s hs
      obtain ⟨w, hw, rfl⟩ := List.mem_map.mp hs
      exact List.mem_map.mpr ⟨w, hsub w hw, rfl⟩
    exact ⟨⟨l', hl', hsym _ hdu, fun vu hv s hs => hsym _ (hvu vu hv s hs)⟩, hlim⟩

theorem RegInv.setCat {r : Registry} (h : RegInv r) {info : CatRow} (hok : CatOk r info) :
    RegInv ⟨r.types, r.index, catSet r.cats info⟩ := by
  refine ⟨h.rowsTyped, h.nonEmpty, h.symsNodup, h.indexSync, h.baseIdent, h.baseFirst, ?_⟩
  intro c ci hc
  simp only [catGet_set] at hc
  split at hc
  · cases hc
    exact ⟨hok.typeExists, hok.defaultInLimits⟩
  · exact ⟨(h.catsOk c ci hc).typeExists, (h.catsOk c ci hc).defaultInLimits⟩

theorem mkInfo_ok {fb tb : Formula} {dc name q u : Sym} {info : UnitRow} (h : mkInfo fb tb dc name q u = .ok info) :
    info.qtype = q ∧ info.sym = u ∧ isBaseRow info = false := by
  unfold mkInfo at h
  split at h
  · cases h
  · split at h
    · cases h
    · cases h; exact ⟨rfl, rfl, rfl⟩

theorem baseInfo_ok {name q u : Sym} {info : UnitRow} (h : baseInfo name q u = .ok info) :
    info.qtype = q ∧ info.sym = u ∧ isBaseRow info = true ∧ isIdent info = true := by
  cases h
  exact ⟨rfl, rfl, rfl, by simp [isIdent]⟩

/-- in a well-formed registry the second duplicate check of `AddUnit` (the one placed after the index write)
cannot fire: an accepted call appends the new row, every other call leaves the registry as it was -/
theorem addInfo_spec {r : Registry} (h : RegInv r) (qt unit : SArg) (mk : Sym → Sym → Except ErrKind UnitRow) :
    (∃ e, addInfo r qt unit mk = (r, .error e)) ∨
    (∃ q u info, qt = .str q ∧ unit = .str u ∧ mk q u = .ok info ∧ ixGet r.index u = none ∧
      addInfo r qt unit mk =
        (⟨tlModify (· ++ [info]) (tlSetDefault r.types q) q, r.index ++ [(u, info)], r.cats⟩, .ok ())) := by
  unfold addInfo
  cases qt with
  | none => exact Or.inl ⟨_, rfl⟩
  | bad => exact Or.inl ⟨_, rfl⟩
  | str q =>
    cases unit with
    | none => exact Or.inl ⟨_, rfl⟩
    | bad => exact Or.inl ⟨_, rfl⟩
    | str u =>
      simp only
      cases hm : mk q u with
      | error e => exact Or.inl ⟨_, rfl⟩
      | ok info =>
        simp only
        cases hi : ixGet r.index u with
        | some w => exact Or.inl ⟨_, rfl⟩
        | none =>
          have hno : ((tlGet (tlSetDefault r.types q) q).getD []).any (·.sym == u) = false := by
            have := h.free_not_listed hi q
            simpa [tlGet_setDefault] using this
          simp only [hno, Bool.false_eq_true, ↓reduceIte]
          exact Or.inr ⟨q, u, info, rfl, rfl, hm, hi, rfl⟩

theorem addInfo_rejected {r : Registry} (h : RegInv r) {qt unit : SArg} {mk : Sym → Sym → Except ErrKind UnitRow}
    {r' : Registry} {e : ErrKind} (he : addInfo r qt unit mk = (r', .error e)) : r' = r := by
  rcases addInfo_spec h qt unit mk with ⟨e', he'⟩ | ⟨q, u, info, _, _, _, _, he'⟩
  · rw [he'] at he; cases he; rfl
  · rw [he'] at he; cases he

theorem fixValid_mem {lg : List (Sym × Sym)} {qunits vu vs : List Sym} (h : fixValid lg qunits vu = .ok vs) :
    ∀ u ∈ vs, u ∈ qunits := by
  induction vu generalizing vs with
  | nil => cases h; simp
  | cons u us ih =>
    simp only [fixValid] at h
    split at h
    · rename_i hm
      split at h
      · rename_i vs' hv
        cases h
        exact fun x hx => (List.mem_cons.mp hx).elim (fun e => e ▸ hm) (ih hv x)
      · cases h
    · cases h

theorem resolveValid_ok {lg : List (Sym × Sym)} {r : Registry} {qt : Sym} {vu0 : Option (List Sym)} {vs : List Sym}
    (h : resolveValid lg r qt vu0 = .ok (some vs)) : ∃ l, tlGet r.types qt = some l ∧ ∀ u ∈ vs, u ∈ l.map (·.sym) := by
  unfold resolveValid getUnits at h
  split at h
  · cases h
  · cases hg : tlGet r.types qt with
    | none => rw [hg] at h; cases h
    | some l =>
      rw [hg] at h
      simp only at h
      split at h
      · rename_i hf
        cases h
        exact ⟨l, rfl, fixValid_mem hf⟩
      · cases h

theorem resolveDefaultUnit_ok {lg : List (Sym × Sym)} {r : Registry} {qt : Sym} {vu : Option (List Sym)}
    {du0 : Option Sym} {du : Sym} (h : resolveDefaultUnit lg r qt vu du0 = .ok du)
    (hvu : ∀ vs, vu = some vs → ∃ l, tlGet r.types qt = some l ∧ ∀ u ∈ vs, u ∈ l.map (·.sym)) :
    ∃ l, tlGet r.types qt = some l ∧ du ∈ l.map (·.sym) := by
  unfold resolveDefaultUnit getBaseUnit getUnits at h
  cases hg : tlGet r.types qt with
  | none => rw [hg] at h; split at h <;> cases h
  | some l =>
    rw [hg] at h
    refine ⟨l, rfl, ?_⟩
    split at h
    · cases l with
      | nil => cases h
      | cons b t =>
        simp only at h
        split at h
        · rename_i v vs
          obtain ⟨l', hl', hm⟩ := hvu (v :: vs) rfl
          rw [hg] at hl'
          cases hl'
          split at h <;> cases h
          · simp
          · exact hm _ (by simp)
        · cases h; simp
    · simp only at h
      split at h
      · rename_i hm; cases h; exact hm
      · cases h

theorem resolveDefaultValue_ok {lo hi : Option Rat} {loX hiX : Bool} {dv0 : Option Rat} {dv : Rat}
    (h : resolveDefaultValue lo hi loX hiX dv0 = .ok dv) (hlim : dv0 = none → limitsInverted lo hi = false) :
    minOk lo loX dv = true ∧ maxOk hi hiX dv = true := by
  unfold resolveDefaultValue at h
  split at h
  · have hl := hlim rfl
    split at h
    · cases h
    · rename_i hx
      simp only [Bool.or_eq_true, not_or, Bool.not_eq_true] at hx
      obtain ⟨rfl, rfl⟩ := hx
      -- the derived default is the minimum, else the maximum, else 0; `hl` is needed when both limits are given
      cases lo <;> cases hi <;> cases h <;> simp [minOk, maxOk]
      simpa [limitsInverted, Rat.not_lt] using hl
  · split at h
    · cases h
    · split at h
      · cases h
      · rename_i h1 h2
        cases h
        exact ⟨by simpa using h1, by simpa using h2⟩

theorem buildInfo_ok {lg : List (Sym × Sym)} {r : Registry} {c qt : Sym} {a : CatArgs} {info : CatRow}
    (h : buildInfo lg r c qt a = .ok info) (hlim : a.defaultValue = none → limitsInverted a.minV a.maxV = false) :
    CatOk r info ∧ info.minExcl = a.minExcl ∧ info.maxExcl = a.maxExcl := by
  unfold buildInfo at h
  split at h
  · cases h
  · rename_i vu hv
    split at h
    · cases h
    · rename_i du hd
      split at h
      · cases h
      · rename_i dv hdv
        cases h
        have hvu : ∀ vs, vu = some vs → _ := fun vs e => resolveValid_ok (e ▸ hv)
        obtain ⟨l, hl, hdu⟩ := resolveDefaultUnit_ok hd hvu
        refine ⟨⟨⟨l, hl, hdu, ?_⟩, resolveDefaultValue_ok hdv hlim⟩, rfl, rfl⟩
        intro vs hvs u hu
        obtain ⟨l', hl', hm⟩ := hvu vs hvs
        rw [hl] at hl'
        cases hl'
        exact hm u hu

/-- what `from_category` leaves alone: the exclusivity flags; and a default value is always inherited with it -/
theorem inheritFrom_ok {r : Registry} {a a1 : CatArgs} (h : inheritFrom r a = .ok a1) :
    a1.minExcl = a.minExcl ∧ a1.maxExcl = a.maxExcl ∧
      (limitsInverted a.minV a.maxV = false → a1.defaultValue = none → limitsInverted a1.minV a1.maxV = false) := by
  unfold inheritFrom at h
  split at h
  · split at h
    · cases h
    · cases h
      refine ⟨rfl, rfl, fun _ hn => ?_⟩
      cases hd : a.defaultValue <;> simp [orElseO, hd] at hn
  · cases h
    exact ⟨rfl, rfl, fun hl _ => hl⟩

/-- an accepted `AddCategory` (limits not contradictory) stores a well-formed category that carries the exclusivity
flags it was called with; every other call leaves the registry as it was -/
theorem addCategory_spec (lg : List (Sym × Sym)) (r : Registry) (a : CatArgs) :
    (∃ e, addCategory lg r a = (r, .error e)) ∨
    (∃ info, limitsInverted a.minV a.maxV = false ∧ CatOk r info ∧ info.minExcl = a.minExcl ∧ info.maxExcl = a.maxExcl ∧
      addCategory lg r a = (⟨r.types, r.index, catSet r.cats info⟩, .ok info)) := by
  unfold addCategory
  cases a.category with
  | none => exact Or.inl ⟨_, rfl⟩
  | bad => exact Or.inl ⟨_, rfl⟩
  | str c =>
    simp only
    split
    · exact Or.inl ⟨_, rfl⟩
    · split
      · exact Or.inl ⟨_, rfl⟩
      · split
        · exact Or.inl ⟨_, rfl⟩
        · rename_i hli
          simp only [Bool.not_eq_true] at hli
          cases hi : inheritFrom r a with
          | error e => exact Or.inl ⟨_, rfl⟩
          | ok a1 =>
            simp only
            cases hq : a1.qtype with
            | none => exact Or.inl ⟨_, rfl⟩
            | some qt =>
              simp only
              cases hb : buildInfo lg r c qt a1 with
              | error e => exact Or.inl ⟨_, rfl⟩
              | ok info =>
                obtain ⟨f1, f2, hlim⟩ := inheritFrom_ok hi
                obtain ⟨hok, g1, g2⟩ := buildInfo_ok hb (hlim hli)
                exact Or.inr ⟨info, hli, hok, g1.trans f1, g2.trans f2, rfl⟩

section
variable (lg : List (Sym × Sym))

/-- **what a registration call does to a well-formed registry**: it is rejected and leaves the registry as it was,
or it puts one row in (`AddUnitBase` in front of its list, `AddUnit` at the end), or it stores a well-formed category -/
theorem step_spec {r : Registry} (h : RegInv r) (op : RegOp) :
    (∃ e, step lg r op = (r, .error e))
    ∨ (∃ info r', step lg r op = (r', .ok .unit) ∧ Inserted r info r' ∧
        ((∃ name, op = .addUnitBase (.str info.qtype) name (.str info.sym) ∧ isBaseRow info = true) ∨
         (∃ name fb tb dc, op = .addUnit (.str info.qtype) name (.str info.sym) fb tb dc ∧ isBaseRow info = false)))
    ∨ (∃ info, CatOk r info ∧ step lg r op = (⟨r.types, r.index, catSet r.cats info⟩, .ok (.cat info))) := by
  have hcat : ∀ a, (∃ e, addCategory lg r a = (r, .error e)) ∨
      ∃ info, CatOk r info ∧ addCategory lg r a = (⟨r.types, r.index, catSet r.cats info⟩, .ok info) := fun a =>
    (addCategory_spec lg r a).imp_right fun ⟨info, _, hok, _, _, he⟩ => ⟨info, hok, he⟩
  cases op with
  | addUnitBase qt name unit =>
    simp only [step, addUnitBase]
    rcases addInfo_spec h qt unit (baseInfo name) with ⟨e, he⟩ | ⟨q, u, info, rfl, rfl, hm, hfree, he⟩
    · rw [he]; exact Or.inl ⟨e, rfl⟩
    · obtain ⟨rfl, rfl, hb, hid⟩ := baseInfo_ok hm
      rw [he]
      refine Or.inr (Or.inl ⟨info, _, rfl, ⟨hfree, fun _ => hid, fun k => ?_, rfl, rfl⟩, Or.inl ⟨name, rfl, hb⟩⟩)
      simp only [tlModify_modify, tlGet_after_add, moveLastToFront_append, putRow, hb, ↓reduceIte]
  | addUnit qt name unit fb tb dc =>
    simp only [step, addUnit]
    rcases addInfo_spec h qt unit (mkInfo fb tb dc name) with ⟨e, he⟩ | ⟨q, u, info, rfl, rfl, hm, hfree, he⟩
    · rw [he]; exact Or.inl ⟨e, rfl⟩
    · obtain ⟨rfl, rfl, hb⟩ := mkInfo_ok hm
      rw [he]
      refine Or.inr (Or.inl ⟨info, _, rfl, ⟨hfree, fun hb' => (by rw [hb] at hb'; cases hb'), fun k => ?_, rfl, rfl⟩,
        Or.inr ⟨name, fb, tb, dc, rfl, hb⟩⟩)
      simp only [tlGet_after_add, putRow, hb, Bool.false_eq_true, ↓reduceIte]
  | addCategory a =>
    simp only [step]
    rcases hcat a with ⟨e, he⟩ | ⟨info, hok, he⟩ <;> rw [he]
    · exact Or.inl ⟨e, rfl⟩
    · exact Or.inr (Or.inr ⟨info, hok, rfl⟩)
  | addCategoryN a0 n1 n2 n3 =>
    simp only [step]
    rcases hcat (inheritFlags r a0 n1 n2 n3) with ⟨e, he⟩ | ⟨info, hok, he⟩ <;> rw [he]
    · exact Or.inl ⟨e, rfl⟩
    · exact Or.inr (Or.inr ⟨info, hok, rfl⟩)

theorem step_inv {r : Registry} (h : RegInv r) (op : RegOp) : RegInv (step lg r op).1 := by
  rcases step_spec lg h op with ⟨e, he⟩ | ⟨info, r', he, hi, _⟩ | ⟨info, hok, he⟩ <;> rw [he]
  · exact h
  · exact hi.inv h
  · exact h.setCat hok

theorem rejected_id {r r' : Registry} (h : RegInv r) {op : RegOp} {e : ErrKind}
    (hs : step lg r op = (r', .error e)) : r' = r := by
  rcases step_spec lg h op with ⟨e', he⟩ | ⟨_, _, he, _⟩ | ⟨_, _, he⟩ <;> rw [he] at hs <;> cases hs
  rfl

/-- the registry invariant at full strength: additionally the first-listed unit of every
quantity type has identity to-base and from-base functions -/
def FullInv (r : Registry) : Prop := RegInv r ∧ ∀ qt l, tlGet r.types qt = some l → HeadIdent l

def HasBase (r : Registry) : Prop := ∀ qt l, tlGet r.types qt = some l → l.any isBaseRow = true

/-- the registration opens no quantity type with `AddUnit` (the discipline of the shipped fillers:
`AddUnitBase` first) -/
def opensNoType (r : Registry) : RegOp → Bool
  | .addUnit (.str q) _ _ _ _ _ => (tlGet r.types q).isSome
  | _ => true

/-- a history in which every quantity type is opened by `AddUnitBase` -/
def Disciplined : Registry → List RegOp → Prop
  | _, [] => True
  | r, op :: ops => opensNoType r op = true ∧ Disciplined (step lg r op).1 ops

theorem step_preserves_HasBase {r : Registry} (h : RegInv r) (hb : HasBase r) {op : RegOp}
    (hd : opensNoType r op = true) : HasBase (step lg r op).1 := by
  rcases step_spec lg h op with ⟨e, he⟩ | ⟨info, r', he, hi, hop⟩ | ⟨info, _, he⟩ <;> rw [he]
  · exact hb
  · refine hi.lists hb ?_
    rw [any_putRow]
    rcases hop with ⟨name, rfl, hbase⟩ | ⟨name, fb, tb, dc, rfl, hbase⟩
    · rw [hbase, Bool.or_true]
    · -- the type is open already, and its list has a base row
      simp only [opensNoType] at hd
      obtain ⟨old, hg⟩ := Option.isSome_iff_exists.mp hd
      rw [hg, Option.getD_some, hb _ _ hg, Bool.true_or]
  · exact hb

theorem fullInv_of_hasBase {r : Registry} (h : RegInv r) (hb : HasBase r) : FullInv r := by
  refine ⟨h, ?_⟩
  intro qt l hl
  obtain ⟨b, t, hbt, hbase⟩ := h.baseFirst _ _ hl (hb _ _ hl)
  exact ⟨b, t, hbt, h.baseIdent _ _ hl b (by rw [hbt]; simp) hbase⟩

end

end Barril.Reg
