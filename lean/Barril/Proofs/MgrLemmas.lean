/- Helper lemmas for C17 (model `Barril/Model/Mgr.lean`): the invariants of the manager and how every modelled
function moves them; the log a call must leave (`specLog`) and the unit an object must show (`specUnit`); the case
principle over calls (`Op.byKind`) and what a structural call does (`RegMove`, `Shape`, `step_shape`); the decimal
numerals of `GetNewId`. -/
import Barril.Model.Mgr
import Mathlib.Data.List.Nodup

namespace Barril.Mgr

/-! ### invariants -/

/-- Well-formedness of a manager state; holds after EVERY history (`run_preserves_MgrWf`). -/
structure MgrWf (m : Mgr) : Prop where
  /-- address 0 is the null system (id `None`) -/
  null : ∃ o, m.heap[0]? = some o ∧ o.id = none
  /-- every registry entry points to an existing object that carries the id it is registered under -/
  reg_own : ∀ id a, (id, a) ∈ m.reg → ∃ o, m.heap[a]? = some o ∧ o.id = some id
  ids_nodup : (m.reg.map (·.1)).Nodup
  cur_valid : ∀ c, m.cur = some c → c < m.heap.length
  /-- the manager listens to default-unit changes of exactly one object: the current one -/
  listen : ∀ a o, m.heap[a]? = some o → (o.listening = true ↔ m.cur = some a)

/-- "the current system is a registered system or none (then the null system is shown)" -/
def CurRegistered (m : Mgr) : Prop := ∀ c, m.cur = some c → ∃ id, (id, c) ∈ m.reg

/-- The invariant of the property text. -/
structure MgrInv (m : Mgr) : Prop where
  wf : MgrWf m
  cur_reg : CurRegistered m

/-- the argument of a `SetCurrent` call is `None` or a system that is registered at that moment
(what the known finding C17-setcurrent-unregistered is about); every other call is unrestricted -/
def Op.guarded (m : Mgr) : Op → Prop
  | .setCurrent (some a) => ∃ id, (id, a) ∈ m.reg
  | _ => True

theorem init_wf : MgrWf Mgr.init := by
  refine ⟨⟨nullSys, rfl, rfl⟩, ?_, ?_, ?_, ?_⟩
  · intro id a h; cases h
  · exact List.nodup_nil
  · intro c h; cases h
  · intro a o h
    have : a = 0 ∧ o = nullSys := by
      cases a with
      | zero => simp [Mgr.init] at h; exact ⟨rfl, h.symm⟩
      | succ n => simp [Mgr.init] at h
    obtain ⟨rfl, rfl⟩ := this
    simp [nullSys, USys.new, Mgr.init]

theorem init_inv : MgrInv Mgr.init := ⟨init_wf, by intro c h; cases h⟩

/-! ### `UpdateObjects` touches only the value objects -/

@[simp] theorem updateObjects_heap (m : Mgr) : (updateObjects m).heap = m.heap := rfl
@[simp] theorem updateObjects_reg (m : Mgr) : (updateObjects m).reg = m.reg := rfl
@[simp] theorem updateObjects_cur (m : Mgr) : (updateObjects m).cur = m.cur := rfl
@[simp] theorem updateObjects_tmpl (m : Mgr) : (updateObjects m).tmpl = m.tmpl := rfl
@[simp] theorem updateObjects_obsCur (m : Mgr) : (updateObjects m).obsCur = m.obsCur := rfl
@[simp] theorem updateObjects_obsUnit (m : Mgr) : (updateObjects m).obsUnit = m.obsUnit := rfl
theorem updateObjects_objs (m : Mgr) : (updateObjects m).objs = m.objs.map (VObj.refresh m.curSys) := rfl

/-! ### listener registration and `SetCurrent` -/

theorem length_setListening (h : List USys) (a : Nat) (b : Bool) : (setListening h a b).length = h.length := by
  unfold setListening; simp

theorem getElem?_setListening (h : List USys) (a i : Nat) (b : Bool) :
    (setListening h a b)[i]? = (h[i]?).map (fun o => if a = i then { o with listening := b } else o) := by
  unfold setListening
  grind

theorem not_listening {m : Mgr} (hw : MgrWf m) {i : Nat} {o : USys} (ho : m.heap[i]? = some o)
    (hne : m.cur ≠ some i) : o.listening = false :=
  Bool.eq_false_iff.mpr fun hb => hne ((hw.listen i o ho).mp hb)

theorem unlisten_eq {o : USys} (h : o.listening = false) : { o with listening := false } = o := by
  rw [← h]

theorem getElem?_unregisterCurrent {m : Mgr} (hw : MgrWf m) (i : Nat) :
    (unregisterCurrent m)[i]? = (m.heap[i]?).map (fun o => { o with listening := false }) := by
  unfold unregisterCurrent
  cases ho : m.heap[i]? with
  | none => cases m.cur <;> simp [getElem?_setListening, ho]
  | some o =>
    cases hc : m.cur with
    | none =>
      simp only [ho, Option.map_some]
      rw [unlisten_eq (not_listening hw ho (by rw [hc]; exact nofun))]
    | some c =>
      simp only [getElem?_setListening, ho, Option.map_some]
      by_cases hci : c = i
      · rw [if_pos hci]
      · rw [if_neg hci, unlisten_eq (not_listening hw ho (by rw [hc]; exact fun h => hci (Option.some.inj h)))]

theorem getElem?_setCurrent {m : Mgr} (hw : MgrWf m) (x : Option Nat) (i : Nat) :
    (setCurrent m x).1.heap[i]? = (m.heap[i]?).map (fun o => { o with listening := decide (x = some i) }) := by
  cases x with
  | none =>
    simp only [setCurrent, updateObjects_heap, getElem?_unregisterCurrent hw]
    simp
  | some a =>
    simp only [setCurrent, updateObjects_heap, getElem?_setListening, getElem?_unregisterCurrent hw]
    cases m.heap[i]? with
    | none => rfl
    | some o =>
      simp only [Option.map_some]
      congr 1
      by_cases h : a = i <;> simp [h]

theorem length_setCurrent (m : Mgr) (x : Option Nat) : (setCurrent m x).1.heap.length = m.heap.length := by
  cases x <;> cases hc : m.cur <;> simp [setCurrent, unregisterCurrent, hc, length_setListening]

theorem setCurrent_cur (m : Mgr) (x : Option Nat) : (setCurrent m x).1.cur = x := by
  cases x <;> rfl

theorem setCurrent_reg (m : Mgr) (x : Option Nat) : (setCurrent m x).1.reg = m.reg := by
  cases x <;> rfl

theorem setCurrent_tmpl (m : Mgr) (x : Option Nat) : (setCurrent m x).1.tmpl = m.tmpl := by
  cases x <;> rfl

theorem setCurrent_objs (m : Mgr) (x : Option Nat) :
    (setCurrent m x).1.objs = m.objs.map (VObj.refresh (setCurrent m x).1.curSys) := by
  cases x <;> rfl

theorem setCurrent_obsCur (m : Mgr) (x : Option Nat) : (setCurrent m x).1.obsCur = m.obsCur := by
  cases x <;> rfl

theorem setCurrent_obsUnit (m : Mgr) (x : Option Nat) : (setCurrent m x).1.obsUnit = m.obsUnit := by
  cases x <;> rfl

theorem setCurrent_log_addr (m : Mgr) (x : Option Nat) :
    (setCurrent m x).2 = [.current (setCurrent m x).1.currentAddr] := by
  cases x <;> rfl

theorem setCurrent_wf {m : Mgr} (hw : MgrWf m) (x : Option Nat) (hx : ∀ a, x = some a → a < m.heap.length) :
    MgrWf (setCurrent m x).1 := by
  refine ⟨?_, ?_, ?_, ?_, ?_⟩
  · obtain ⟨o, ho, hid⟩ := hw.null
    refine ⟨{ o with listening := decide (x = some 0) }, ?_, hid⟩
    rw [getElem?_setCurrent hw, ho]; rfl
  · intro id a h
    rw [setCurrent_reg] at h
    obtain ⟨o, ho, hid⟩ := hw.reg_own id a h
    refine ⟨{ o with listening := decide (x = some a) }, ?_, hid⟩
    rw [getElem?_setCurrent hw, ho]; rfl
  · rw [setCurrent_reg]; exact hw.ids_nodup
  · intro c hc
    rw [setCurrent_cur] at hc
    rw [length_setCurrent]
    exact hx c hc
  · intro a o ho
    rw [getElem?_setCurrent hw] at ho
    rw [setCurrent_cur]
    cases hh : m.heap[a]? with
    | none => rw [hh] at ho; cases ho
    | some o0 =>
      rw [hh] at ho
      simp only [Option.map_some, Option.some.injEq] at ho
      subst ho
      simp

/-! ### registry -/

theorem regHas_iff (reg : List (Sym × Nat)) (id : Sym) : regHas reg id = true ↔ id ∈ reg.map (·.1) := by
  unfold regHas
  simp only [List.any_eq_true, beq_iff_eq, List.mem_map]

theorem regHas_false_iff (reg : List (Sym × Nat)) (id : Sym) : regHas reg id = false ↔ id ∉ reg.map (·.1) := by
  rw [← regHas_iff]; simp

theorem mem_regErase {reg : List (Sym × Nat)} {id id' : Sym} {a : Nat} :
    (id', a) ∈ regErase reg id ↔ (id', a) ∈ reg ∧ id' ≠ id := by
  unfold regErase; simp

theorem regGet_some {reg : List (Sym × Nat)} {id : Sym} {a : Nat} (h : regGet reg id = some a) :
    (id, a) ∈ reg := by
  unfold regGet at h
  cases hf : reg.find? (·.1 == id) with
  | none => rw [hf] at h; cases h
  | some p =>
    rw [hf] at h
    simp only [Option.map_some, Option.some.injEq] at h
    have hm := List.mem_of_find?_eq_some hf
    have hp := List.find?_some hf
    simp only [beq_iff_eq] at hp
    cases p; simp_all

theorem regGet_none {reg : List (Sym × Nat)} {id : Sym} (h : regGet reg id = none) :
    id ∉ reg.map (·.1) := by
  unfold regGet at h
  simp only [Option.map_eq_none_iff, List.find?_eq_none, beq_iff_eq] at h
  intro hm
  obtain ⟨p, hp, he⟩ := List.mem_map.mp hm
  exact h p hp he

theorem register_wf {m : Mgr} (hw : MgrWf m) {id : Sym} (hid : id ∉ m.reg.map (·.1)) (cap : Sym)
    (d : List (Sym × Sym)) (ro : Bool) : MgrWf (m.register id cap d ro) := by
  obtain ⟨o0, ho0, hid0⟩ := hw.null
  have hpos : 0 < m.heap.length := by
    cases hh : m.heap with
    | nil => rw [hh] at ho0; cases ho0
    | cons x xs => simp
  refine ⟨⟨o0, ?_, hid0⟩, ?_, ?_, ?_, ?_⟩
  · simp only [Mgr.register]; rw [List.getElem?_append_left hpos]; exact ho0
  · intro id' a h
    simp only [Mgr.register, List.mem_append, List.mem_singleton, Prod.mk.injEq] at h
    rcases h with h | ⟨rfl, rfl⟩
    · obtain ⟨o, ho, hoid⟩ := hw.reg_own id' a h
      refine ⟨o, ?_, hoid⟩
      have hlt : a < m.heap.length := (List.getElem?_eq_some_iff.mp ho).1
      simp only [Mgr.register]; rw [List.getElem?_append_left hlt]; exact ho
    · exact ⟨USys.new (some id') cap d ro, by simp [Mgr.register], rfl⟩
  · simp only [Mgr.register, List.map_append, List.map_cons, List.map_nil]
    rw [List.nodup_append]
    refine ⟨hw.ids_nodup, by simp, ?_⟩
    intro a ha b hb
    simp only [List.mem_singleton] at hb
    subst hb
    intro e; subst e; exact hid ha
  · intro c hc
    have := hw.cur_valid c hc
    simp only [Mgr.register, List.length_append, List.length_cons, List.length_nil]
    omega
  · intro a o ho
    simp only [Mgr.register] at ho ⊢
    rcases Nat.lt_or_ge a m.heap.length with h' | h'
    · rw [List.getElem?_append_left h'] at ho
      exact hw.listen a o ho
    · rw [List.getElem?_append_right h'] at ho
      have ha : a = m.heap.length := by
        rcases Nat.eq_or_lt_of_le h' with e | l
        · exact e.symm
        · have : 1 ≤ a - m.heap.length := by omega
          rw [List.getElem?_eq_none (by simpa using this)] at ho; cases ho
      subst ha
      simp only [Nat.sub_self, List.getElem?_cons_zero, Option.some.injEq] at ho
      subst ho
      constructor
      · intro h; cases h
      · intro h; have := hw.cur_valid _ h; omega

theorem unregister_wf {m : Mgr} (hw : MgrWf m) (id : Sym) : MgrWf (m.unregister id) := by
  refine ⟨hw.null, ?_, ?_, hw.cur_valid, hw.listen⟩
  · intro id' a h
    exact hw.reg_own id' a (mem_regErase.mp h).1
  · exact List.Nodup.sublist (List.Sublist.map _ List.filter_sublist) hw.ids_nodup

theorem nextCurrent_mem {reg : List (Sym × Nat)} {a : Nat} (h : nextCurrent reg = some a) :
    ∃ id, (id, a) ∈ reg := by
  cases reg with
  | nil => cases h
  | cons p r =>
    simp only [nextCurrent, Option.some.injEq] at h
    exact ⟨p.1, by subst h; simp⟩

theorem reg_addr_lt {m : Mgr} (hw : MgrWf m) {id : Sym} {a : Nat} (h : (id, a) ∈ m.reg) : a < m.heap.length := by
  obtain ⟨o, ho, _⟩ := hw.reg_own id a h
  exact (List.getElem?_eq_some_iff.mp ho).1

theorem set_wf {m : Mgr} (hw : MgrWf m) {a : Nat} {o o' : USys} (ho : m.heap[a]? = some o)
    (hid : o'.id = o.id) (hl : o'.listening = o.listening) : MgrWf { m with heap := m.heap.set a o' } := by
  have halt : a < m.heap.length := (List.getElem?_eq_some_iff.mp ho).1
  have key : ∀ (i : Nat) (x : USys), m.heap[i]? = some x → ∃ x' : USys, (m.heap.set a o')[i]? = some x' ∧ x'.id = x.id ∧ x'.listening = x.listening := by
    intro i x hx
    rw [List.getElem?_set]
    by_cases hai : a = i
    · subst hai
      simp only [↓reduceIte, halt]
      rw [ho] at hx
      simp only [Option.some.injEq] at hx
      subst hx
      exact ⟨o', rfl, hid, hl⟩
    · simp only [hai, ↓reduceIte]
      exact ⟨x, hx, rfl, rfl⟩
  refine ⟨?_, ?_, hw.ids_nodup, ?_, ?_⟩
  · obtain ⟨o0, ho0, hid0⟩ := hw.null
    obtain ⟨x', hx', hxid, _⟩ := key 0 o0 ho0
    exact ⟨x', hx', by rw [hxid]; exact hid0⟩
  · intro id b h
    obtain ⟨x, hx, hxid⟩ := hw.reg_own id b h
    obtain ⟨x', hx', hxid', _⟩ := key b x hx
    exact ⟨x', hx', by rw [hxid']; exact hxid⟩
  · intro c hc
    simp only [List.length_set]
    exact hw.cur_valid c hc
  · intro i x' hx'
    simp only at hx' ⊢
    have hilt : i < m.heap.length := by simpa using (List.getElem?_eq_some_iff.mp hx').1
    obtain ⟨x, hx⟩ : ∃ x, m.heap[i]? = some x := ⟨m.heap[i], List.getElem?_eq_getElem hilt⟩
    obtain ⟨x'', hx'', _, hxl⟩ := key i x hx
    rw [hx''] at hx'
    simp only [Option.some.injEq] at hx'
    subst hx'
    rw [hxl]
    exact hw.listen i x hx

/-! ### dicts -/

theorem dhas_iff (d : Dict) (k : Sym) : dhas d k = true ↔ k ∈ dkeys d := by
  induction d with
  | nil => simp [dhas, dkeys]
  | cons p r ih =>
    obtain ⟨k', v⟩ := p
    simp only [dhas, Bool.or_eq_true, beq_iff_eq, ih, dkeys, List.map_cons, List.mem_cons]
    constructor
    · rintro (h | h)
      · exact Or.inl h.symm
      · exact Or.inr h
    · rintro (h | h)
      · exact Or.inl h.symm
      · exact Or.inr h

theorem covers_iff (d : Dict) (req : List Sym) : covers d req = true ↔ ∀ k ∈ req, k ∈ dkeys d := by
  unfold covers
  simp only [List.all_eq_true, dhas_iff]

/-! ### value objects, observers, caption / read-only flag -/

/-- the calls on value objects, observers and the flags of a unit system: they never touch `_current`, the
registry or the template and invoke no callback -/
def Op.isAux : Op → Bool
  | .register .. | .registerAgain .. | .kill .. | .objSetUnit .. | .updateObjects | .resetInstance
  | .observeCurrent | .observeUnit | .setCaption .. | .setReadOnly .. => true
  | _ => false

/-- the calls whose subject is a value object (or `UpdateObjects()` itself) -/
def Op.isObjectOp : Op → Bool
  | .register .. | .registerAgain .. | .kill .. | .objSetUnit .. | .updateObjects => true
  | _ => false

def Op.isObserverOp : Op → Bool
  | .resetInstance | .observeCurrent | .observeUnit => true
  | _ => false

theorem step_aux_log (db : Db) (m : Mgr) {op : Op} (ha : op.isAux = true) : (step db m op).log = [] := by
  cases op
  case register | updateObjects | resetInstance | observeCurrent | observeUnit => rfl
  case registerAgain | kill | objSetUnit | setCaption | setReadOnly =>
    simp only [step, registerAgain, killObj, objSetUnit, setCaption, setReadOnly]
    (repeat' split) <;> rfl
  all_goals cases ha

theorem step_aux_shape (db : Db) (m : Mgr) {op : Op} (ha : op.isAux = true) :
    (∃ l b1 b2, (step db m op).mgr = { m with objs := l, obsCur := b1, obsUnit := b2 }) ∨
    (∃ a o o', (step db m op).mgr = { m with heap := m.heap.set a o' } ∧ m.heap[a]? = some o ∧
      o'.id = o.id ∧ o'.listening = o.listening ∧ o'.mapping = o.mapping) := by
  cases op
  case register | updateObjects | resetInstance | observeCurrent | observeUnit => exact .inl ⟨_, _, _, rfl⟩
  case registerAgain | kill | objSetUnit =>
    simp only [step, registerAgain, killObj, objSetUnit]
    (repeat' split) <;> exact .inl ⟨_, _, _, rfl⟩
  case setCaption a cap | setReadOnly a b =>
    simp only [step, setCaption, setReadOnly]
    split
    · exact .inl ⟨_, _, _, rfl⟩
    · rename_i o ho; exact .inr ⟨a, o, _, rfl, ho, rfl, rfl, rfl⟩
  all_goals cases ha

theorem step_aux_cur (db : Db) (m : Mgr) {op : Op} (ha : op.isAux = true) : (step db m op).mgr.cur = m.cur := by
  rcases step_aux_shape db m ha with ⟨_, _, _, h⟩ | ⟨_, _, _, h, _⟩ <;> rw [h]

theorem step_aux_reg (db : Db) (m : Mgr) {op : Op} (ha : op.isAux = true) : (step db m op).mgr.reg = m.reg := by
  rcases step_aux_shape db m ha with ⟨_, _, _, h⟩ | ⟨_, _, _, h, _⟩ <;> rw [h]

theorem step_aux_objs (db : Db) (m : Mgr) {op : Op} (ha : op.isAux = true) (hop : op.isObjectOp = false) :
    (step db m op).mgr.objs = m.objs := by
  cases op
  case resetInstance | observeCurrent | observeUnit => rfl
  case setCaption | setReadOnly =>
    simp only [step, setCaption, setReadOnly]
    split <;> rfl
  case register | registerAgain | kill | objSetUnit | updateObjects => cases hop
  all_goals cases ha

theorem step_aux_obs (db : Db) (m : Mgr) {op : Op} (ha : op.isAux = true) (hop : op.isObserverOp = false) :
    (step db m op).mgr.obsCur = m.obsCur ∧ (step db m op).mgr.obsUnit = m.obsUnit := by
  cases op
  case register | updateObjects => exact ⟨rfl, rfl⟩
  case registerAgain | kill | objSetUnit | setCaption | setReadOnly =>
    simp only [step, registerAgain, killObj, objSetUnit, setCaption, setReadOnly]
    (repeat' split) <;> exact ⟨rfl, rfl⟩
  case resetInstance | observeCurrent | observeUnit => cases hop
  all_goals cases ha

theorem step_aux_wf (db : Db) {m : Mgr} (hw : MgrWf m) {op : Op} (ha : op.isAux = true) : MgrWf (step db m op).mgr := by
  rcases step_aux_shape db m ha with ⟨l, b1, b2, h⟩ | ⟨a, o, o', h, ho, hid, hl, _⟩ <;> rw [h]
  · exact ⟨hw.null, hw.reg_own, hw.ids_nodup, hw.cur_valid, hw.listen⟩
  · exact set_wf hw ho hid hl

/-! #### how the manager rewrites one object -/

theorem update_alive (s : USys) (o : VObj) : (o.update s).alive = o.alive := by
  unfold VObj.update
  split
  · split <;> rfl
  · rfl

theorem update_wraps (s : USys) (o : VObj) : (o.update s).wraps = o.wraps := by
  unfold VObj.update
  split
  · split <;> rfl
  · rfl

theorem update_cat (s : USys) (o : VObj) : (o.update s).cat = o.cat := by
  unfold VObj.update
  split
  · split <;> rfl
  · rfl

theorem refresh_alive (s : Option USys) (o : VObj) : (VObj.refresh s o).alive = o.alive := by
  cases s <;> simp [VObj.refresh, update_alive]

theorem refresh_wraps (s : Option USys) (o : VObj) : (VObj.refresh s o).wraps = o.wraps := by
  cases s <;> simp [VObj.refresh, update_wraps]

theorem refresh_cat (s : Option USys) (o : VObj) : (VObj.refresh s o).cat = o.cat := by
  cases s <;> simp [VObj.refresh, update_cat]

theorem update_idem (s : USys) (o : VObj) : (o.update s).update s = o.update s := by
  unfold VObj.update
  cases ha : o.alive with
  | false => simp [ha]
  | true =>
    cases hd : s.getDefaultUnit o.cat with
    | none => simp [ha, hd]
    | some u => simp [hd]

theorem refresh_idem (s : Option USys) (o : VObj) : VObj.refresh s (VObj.refresh s o) = VObj.refresh s o := by
  cases s with
  | none => rfl
  | some s => exact update_idem s o

/-! #### weak references: `_object_refs` holds wraps of live objects only -/

/-- a live registered object has at least one wrap, a dead one has none left -/
def VObj.ok (o : VObj) : Prop := (o.alive = true → 1 ≤ o.wraps) ∧ (o.alive = false → o.wraps = 0)

/-- "an object that died is dropped" as a state invariant -/
def ObjsWf (m : Mgr) : Prop := ∀ o ∈ m.objs, o.ok

theorem refresh_ok {s : Option USys} {o : VObj} (h : o.ok) : (VObj.refresh s o).ok := by
  unfold VObj.ok at h ⊢
  rw [refresh_alive, refresh_wraps]; exact h

theorem init_objsWf : ObjsWf Mgr.init := by intro o h; cases h

theorem objsWf_map_refresh {l : List VObj} (s : Option USys) (h : ∀ o ∈ l, o.ok) :
    ∀ o ∈ l.map (VObj.refresh s), o.ok := by
  intro o ho
  obtain ⟨o', ho', rfl⟩ := List.mem_map.mp ho
  exact refresh_ok (h o' ho')

theorem objsWf_set {l : List VObj} (h : ∀ o ∈ l, o.ok) (i : Nat) {o' : VObj} (ho' : o'.ok) :
    ∀ o ∈ l.set i o', o.ok := by
  intro o ho
  rcases List.mem_or_eq_of_mem_set ho with h1 | h1
  · exact h o h1
  · subst h1; exact ho'

theorem setCurrent_objsWf {m : Mgr} (h : ObjsWf m) (x : Option Nat) : ObjsWf (setCurrent m x).1 := by
  unfold ObjsWf
  rw [setCurrent_objs]
  exact objsWf_map_refresh _ h

/-! ### reading calls; the three kinds of call -/

/-- the calls that only read (and `SetDefaultUnitSystemClass`, which changes nothing that is modelled) -/
def Op.isQuery : Op → Bool
  | .getDefaultUnit .. | .sysEq .. | .convertToCurrent .. | .convertScalarToCurrent ..
  | .getCategoryDefaultUnit .. | .getQuantityDefaultUnit .. | .getNewId | .getById .. | .getUnitSystems
  | .getCurrent | .sysEqOther .. | .setSystemClass .. => true
  | _ => false

theorem step_query (db : Db) (m : Mgr) {op : Op} (hq : op.isQuery = true) :
    (step db m op).mgr = m ∧ (step db m op).log = [] := by
  cases op <;> simp only [Op.isQuery, Bool.false_eq_true] at hq <;> simp only [step]
  all_goals (repeat' split) <;> exact ⟨rfl, rfl⟩

/-- every call reads, or is about a value object / an observer / a flag, or is one of the six that touch the
registry, the current system, a mapping or the template -/
theorem Op.byKind {P : Op → Prop} (query : ∀ op, op.isQuery = true → P op) (aux : ∀ op, op.isAux = true → P op)
    (setTemplate : ∀ mp, P (.setTemplate mp)) (add : ∀ id cap mp ro, P (.add id cap mp ro))
    (remove : ∀ id, P (.remove id)) (setCurrent : ∀ a, P (.setCurrent a))
    (setDefaultUnit : ∀ a c u, P (.setDefaultUnit a c u)) (removeCategory : ∀ a c, P (.removeCategory a c)) :
    ∀ op, P op := by
  intro op
  cases op
  case setTemplate => exact setTemplate _
  case add => exact add ..
  case remove => exact remove _
  case setCurrent => exact setCurrent _
  case setDefaultUnit => exact setDefaultUnit ..
  case removeCategory => exact removeCategory ..
  case getDefaultUnit | sysEq | convertToCurrent | convertScalarToCurrent | getCategoryDefaultUnit
    | getQuantityDefaultUnit | getNewId | getById | getUnitSystems | getCurrent | sysEqOther | setSystemClass =>
    exact query _ rfl
  all_goals exact aux _ rfl

/-! ### the prescribed notifications -/

/-- `category in system._units_mapping` for the object at `a` -/
def hasCategory (m : Mgr) (a : Nat) (c : Sym) : Bool :=
  match m.heap[a]? with
  | some o => dhas o.mapping c
  | none => false

/-- The notifications the property text prescribes for an ACCEPTED call made in state `m` that led to
state `m'`: one `on_current` (with the system `GetCurrent()` now returns) per selection — every
`SetCurrent`, an add while none is current, a removal of the current system — and one
`on_unit_changed` per `SetDefaultUnit` / effective `RemoveCategory` on the CURRENT system; nothing
for any other system, nothing for any other call. -/
def specLog (m m' : Mgr) : Op → List Event
  | .setCurrent _ => [.current m'.currentAddr]
  | .add _ _ _ _ => if m.cur = none then [.current m'.currentAddr] else []
  | .remove id => if m.currentId = some id then [.current m'.currentAddr] else []
  | .setDefaultUnit a c u => if m.cur = some a then [.unitChanged c (some u)] else []
  | .removeCategory a c => if m.cur = some a ∧ hasCategory m a c = true then [.unitChanged c none] else []
  | _ => []

theorem specLog_nil {op : Op} (h : op.isQuery = true ∨ op.isAux = true) (m m' : Mgr) : specLog m m' op = [] := by
  cases op <;> first | rfl | (rcases h with h | h <;> cases h)

/-! ### acceptance -/

theorem resolveMapping_ok_iff (tmpl : Option USys) (mp : Option (List (Sym × Sym))) :
    (∃ d, resolveMapping tmpl mp = .ok d) ↔
      ∀ t d, tmpl = some t → mp = some d → ∀ k ∈ dkeys t.mapping, k ∈ dkeys d := by
  cases tmpl with
  | none => cases mp <;> simp [resolveMapping]
  | some t =>
    cases mp with
    | none => simp [resolveMapping]
    | some d =>
      simp only [resolveMapping]
      by_cases hc : covers d (dkeys t.mapping) = true
      · simp only [hc, ↓reduceIte]
        constructor
        · intro _ t' d' ht hd
          cases ht; cases hd
          exact (covers_iff _ _).mp hc
        · intro _; exact ⟨d, rfl⟩
      · simp only [hc]
        constructor
        · rintro ⟨d', h⟩; cases h
        · intro h
          exact absurd ((covers_iff _ _).mpr (h t d rfl rfl)) hc

theorem resolveMapping_error_kind {tmpl : Option USys} {mp : Option (List (Sym × Sym))} {e : ErrKind}
    (h : resolveMapping tmpl mp = .error e) : e = .key := by
  cases tmpl <;> cases mp <;> simp only [resolveMapping] at h
  · cases h
  · cases h
  · cases h
  · split at h
    · cases h
    · cases h; rfl

theorem addUnitSystem_accepted {m : Mgr} {id cap : Sym} {mp : Option (List (Sym × Sym))} {ro : Bool}
    {d : List (Sym × Sym)} (h1 : regHas m.reg id = false) (h2 : resolveMapping m.tmpl mp = .ok d) :
    addUnitSystem m id cap mp ro =
      match m.cur with
      | none =>
        ⟨(setCurrent (m.register id cap d ro) (some m.heap.length)).1, .ok (.sys m.heap.length),
         (setCurrent (m.register id cap d ro) (some m.heap.length)).2⟩
      | some _ => ⟨m.register id cap d ro, .ok (.sys m.heap.length), []⟩ := by
  simp only [addUnitSystem, h1, h2, Bool.false_eq_true, ↓reduceIte]
  cases m.cur <;> rfl

theorem addUnitSystem_out (m : Mgr) (id cap : Sym) (mp : Option (List (Sym × Sym))) (ro : Bool) :
    (addUnitSystem m id cap mp ro).out =
      if regHas m.reg id then .error .key else
      match resolveMapping m.tmpl mp with
      | .error e => .error e
      | .ok _ => .ok (.sys m.heap.length) := by
  by_cases h1 : regHas m.reg id = true
  · simp [addUnitSystem, h1, Res.reject]
  · have h1' : regHas m.reg id = false := by simpa using h1
    cases h2 : resolveMapping m.tmpl mp with
    | error e => simp [addUnitSystem, h1', h2, Res.reject]
    | ok d =>
      rw [addUnitSystem_accepted h1' h2]
      cases m.cur <;> simp [h1']

theorem removeUnitSystem_out (m : Mgr) (id : Sym) :
    (removeUnitSystem m id).out = if regHas m.reg id then .ok .none else .error .key := by
  unfold removeUnitSystem
  by_cases h1 : regHas m.reg id = true
  · simp only [h1, Bool.not_true, Bool.false_eq_true, ↓reduceIte]
    split <;> rfl
  · have h1' : regHas m.reg id = false := by simpa using h1
    simp [h1', Res.reject]

/-! ### the id of the current system; who hears a default-unit change -/

theorem currentId_eq_iff {m : Mgr} (hw : MgrWf m) {id : Sym} {c : Nat} (hc : m.cur = some c)
    (hreg : ∃ id', (id', c) ∈ m.reg) : m.currentId = some id ↔ (id, c) ∈ m.reg := by
  obtain ⟨id', hm⟩ := hreg
  obtain ⟨o, ho, hoid⟩ := hw.reg_own id' c hm
  have : m.currentId = some id' := by simp [Mgr.currentId, hc, ho, hoid]
  rw [this]
  constructor
  · intro e; cases e; exact hm
  · intro h
    obtain ⟨o2, ho2, hoid2⟩ := hw.reg_own id c h
    rw [ho] at ho2; cases ho2
    rw [hoid] at hoid2; exact hoid2

theorem currentId_some_cur {m : Mgr} {id : Sym} (h : m.currentId = some id) : m.cur.isSome = true := by
  unfold Mgr.currentId at h
  cases hc : m.cur with
  | none => rw [hc] at h; cases h
  | some c => rfl

theorem fire_of_wf {m : Mgr} (hw : MgrWf m) {a : Nat} {o : USys} (ho : m.heap[a]? = some o) (c : Sym)
    (u : Option Sym) : o.fire c u = if m.cur = some a then [.unitChanged c u] else [] := by
  unfold USys.fire
  by_cases hl : o.listening = true
  · rw [if_pos hl, if_pos ((hw.listen a o ho).mp hl)]
  · rw [if_neg hl, if_neg (fun h => hl ((hw.listen a o ho).mpr h))]

/-! ### `GetNewId` -/

/-- value of a most-significant-first list of ASCII digits -/
def decValue (l : List Nat) : Nat := l.foldl (fun acc d => 10 * acc + (d - 48)) 0

theorem decValue_decDigitsFuel (f n : Nat) (h : n < f) : decValue (decDigitsFuel f n) = n := by
  induction f generalizing n with
  | zero => omega
  | succ f ih =>
    simp only [decDigitsFuel]
    split
    · simp [decValue]
    · rename_i h10
      rw [decValue, List.foldl_append, ← decValue, ih (n / 10) (by omega)]
      simp only [List.foldl_cons, List.foldl_nil]
      omega

theorem decValue_decDigits (n : Nat) : decValue (decDigits n) = n :=
  decValue_decDigitsFuel (n + 1) n (by omega)

theorem decDigitsFuel_range (f n : Nat) : ∀ d ∈ decDigitsFuel f n, 48 ≤ d ∧ d ≤ 57 := by
  induction f generalizing n with
  | zero => intro d hd; simp [decDigitsFuel] at hd
  | succ f ih =>
    intro d hd
    simp only [decDigitsFuel] at hd
    split at hd
    · simp only [List.mem_singleton] at hd; omega
    · simp only [List.mem_append, List.mem_singleton] at hd
      rcases hd with hd | hd
      · exact ih _ d hd
      · omega

theorem decDigits_injective {a b : Nat} (h : decDigits a = decDigits b) : a = b := by
  rw [← decValue_decDigits a, ← decValue_decDigits b, h]

theorem byte_split {d d' X Y : Nat} (h1 : d < 256) (h2 : d' < 256) (h : d + 256 * X = d' + 256 * Y) :
    d = d' ∧ X = Y := by omega

theorem ofBytes_injective : ∀ (a b : List Nat), (∀ d ∈ a, 1 ≤ d ∧ d < 256) → (∀ d ∈ b, 1 ≤ d ∧ d < 256) →
    Sym.ofBytes a = Sym.ofBytes b → a = b
  | [], [], _, _, _ => rfl
  | [], d :: r, _, hb, h => by
    have := hb d (by simp)
    have h' : (0 : Nat) = d + 256 * Sym.ofBytes r := h
    omega
  | d :: r, [], ha, _, h => by
    have := ha d (by simp)
    have h' : d + 256 * Sym.ofBytes r = (0 : Nat) := h
    omega
  | d :: r, d' :: r', ha, hb, h => by
    have h1 := ha d (by simp)
    have h2 := hb d' (by simp)
    obtain ⟨hd, hr⟩ := byte_split (X := Sym.ofBytes r) (Y := Sym.ofBytes r') h1.2 h2.2 h
    rw [hd, ofBytes_injective r r' (fun x hx => ha x (by simp [hx])) (fun x hx => hb x (by simp [hx])) hr]

theorem newIdCandidate_injective {a b : Nat} (h : newIdCandidate a = newIdCandidate b) : a = b := by
  unfold newIdCandidate at h
  have hpre : ∀ d ∈ systemPrefix, 1 ≤ d ∧ d < 256 := by decide
  have hdig : ∀ n, ∀ d ∈ decDigits n, 1 ≤ d ∧ d < 256 := by
    intro n d hd
    have := decDigitsFuel_range (n + 1) n d hd
    omega
  have hall : ∀ n, ∀ d ∈ systemPrefix ++ decDigits n, 1 ≤ d ∧ d < 256 := by
    intro n d hd
    rcases List.mem_append.mp hd with h' | h'
    · exact hpre d h'
    · exact hdig n d h'
  have := ofBytes_injective _ _ (hall a) (hall b) h
  exact decDigits_injective (List.append_cancel_left this)

theorem findNewId_some {fuel count : Nat} {ids : List Sym} {s : Sym} (h : findNewId fuel count ids = some s) :
    s ∉ ids ∧ ∃ n, count ≤ n ∧ s = newIdCandidate n ∧ ∀ k, count ≤ k → k < n → newIdCandidate k ∈ ids := by
  induction fuel generalizing count with
  | zero => cases h
  | succ fuel ih =>
    rw [findNewId] at h
    by_cases hc : ids.contains (newIdCandidate count) = true
    · rw [if_pos hc] at h
      obtain ⟨hs, n, hn, hsn, hall⟩ := ih h
      refine ⟨hs, n, Nat.le_of_succ_le hn, hsn, fun k hk1 hk2 => ?_⟩
      rcases Nat.eq_or_lt_of_le hk1 with rfl | l
      · exact List.contains_iff_mem.mp hc
      · exact hall k l hk2
    · rw [if_neg hc] at h
      -- `cases h` would evaluate the candidate: a `Sym` is a `Nat`
      obtain rfl := Option.some.inj h
      exact ⟨fun hm => hc (List.contains_iff_mem.mpr hm), count, Nat.le_refl _, rfl,
        fun k h1 h2 => absurd h2 (Nat.not_lt.mpr h1)⟩

theorem findNewId_none {fuel count : Nat} {ids : List Sym} (h : findNewId fuel count ids = none) :
    ∀ k, count ≤ k → k < count + fuel → newIdCandidate k ∈ ids := by
  induction fuel generalizing count with
  | zero => intro k h1 h2; omega
  | succ fuel ih =>
    simp only [findNewId] at h
    split at h
    · rename_i hc
      intro k hk1 hk2
      rcases Nat.eq_or_lt_of_le hk1 with e | l
      · subst e; simpa using hc
      · exact ih h k (by omega) (by omega)
    · cases h

/-- pigeonhole: `ids.length + 1` candidates cannot all be in use -/
theorem findNewId_total (count : Nat) (ids : List Sym) : ∃ s, findNewId (ids.length + 1) count ids = some s := by
  cases h : findNewId (ids.length + 1) count ids with
  | some s => exact ⟨s, rfl⟩
  | none =>
    exfalso
    have hall := findNewId_none h
    let l := (List.range (ids.length + 1)).map (fun i => newIdCandidate (count + i))
    have hn : l.Nodup := by
      apply List.Nodup.map_on _ List.nodup_range
      intro a _ b _ hab
      have := newIdCandidate_injective hab
      omega
    have hs : l ⊆ ids := by
      intro x hx
      obtain ⟨i, hi, rfl⟩ := List.mem_map.mp hx
      exact hall (count + i) (by omega) (by have := List.mem_range.mp hi; omega)
    have := List.Nodup.length_le_of_subset hn hs
    simp only [l, List.length_map, List.length_range] at this
    omega


/-! ### dict updates -/

theorem dget_dset_self (d : Dict) (k v : Sym) : dget (dset d k v) k = some v := by
  induction d with
  | nil => simp [dset, dget]
  | cons p r ih =>
    obtain ⟨k', v'⟩ := p
    simp only [dset]
    split
    · rename_i h; simp [dget, h]
    · rename_i h; simp [dget, h, ih]

theorem dget_dset_ne (d : Dict) {k k2 : Sym} (v : Sym) (hne : k2 ≠ k) : dget (dset d k v) k2 = dget d k2 := by
  induction d with
  | nil =>
    have : (k == k2) = false := by simpa using fun e => hne e.symm
    simp [dset, dget, this]
  | cons p r ih =>
    obtain ⟨k', v'⟩ := p
    simp only [dset]
    split
    · rename_i h
      have hk : k' = k := by simpa using h
      have : (k' == k2) = false := by simpa [hk] using fun e => hne e.symm
      simp [dget, this]
    · simp only [dget, ih]

/-! ### dict well-formedness: keys are unique -/

theorem dkeys_dset (d : Dict) (k v : Sym) :
    dkeys (dset d k v) = if dhas d k then dkeys d else dkeys d ++ [k] := by
  induction d with
  | nil => simp [dset, dkeys, dhas]
  | cons p r ih =>
    obtain ⟨k', v'⟩ := p
    simp only [dset, dhas]
    by_cases h : (k' == k) = true
    · simp [h, dkeys]
    · have h' : (k' == k) = false := by simpa using h
      simp only [h', Bool.false_eq_true, ↓reduceIte, Bool.false_or]
      simp only [dkeys, List.map_cons] at ih ⊢
      rw [ih]
      split <;> simp

theorem nodup_dset {d : Dict} (h : (dkeys d).Nodup) (k v : Sym) : (dkeys (dset d k v)).Nodup := by
  rw [dkeys_dset]
  split
  · exact h
  · rename_i hk
    have hk' : k ∉ dkeys d := fun hm => hk ((dhas_iff d k).mpr hm)
    rw [List.nodup_append]
    refine ⟨h, by simp, ?_⟩
    intro a ha b hb
    simp only [List.mem_singleton] at hb
    subst hb
    intro e; subst e; exact hk' ha

theorem derase_sublist (d : Dict) (k : Sym) : (derase d k).Sublist d := by
  induction d with
  | nil => exact List.Sublist.refl _
  | cons p r ih =>
    obtain ⟨k', v'⟩ := p
    simp only [derase]
    split
    · exact List.sublist_cons_self _ _
    · exact List.Sublist.cons_cons _ ih

theorem nodup_derase {d : Dict} (h : (dkeys d).Nodup) (k : Sym) : (dkeys (derase d k)).Nodup :=
  List.Nodup.sublist (List.Sublist.map _ (derase_sublist d k)) h

theorem nodup_foldl_dset (l : List (Sym × Sym)) {d : Dict} (h : (dkeys d).Nodup) :
    (dkeys (l.foldl (fun d p => dset d p.1 p.2) d)).Nodup := by
  induction l generalizing d with
  | nil => exact h
  | cons p r ih => exact ih (nodup_dset h p.1 p.2)

theorem nodup_dofList (l : List (Sym × Sym)) : (dkeys (dofList l)).Nodup :=
  nodup_foldl_dset l List.nodup_nil

theorem dget_none_of_not_mem {d : Dict} {k : Sym} (h : k ∉ dkeys d) : dget d k = none := by
  induction d with
  | nil => rfl
  | cons p r ih =>
    obtain ⟨k', v'⟩ := p
    simp only [dkeys, List.map_cons, List.mem_cons, not_or] at h
    have : (k' == k) = false := by simpa using fun e => h.1 e.symm
    simp only [dget, this, Bool.false_eq_true, ↓reduceIte]
    exact ih h.2

theorem dget_derase_self {d : Dict} (h : (dkeys d).Nodup) (k : Sym) : dget (derase d k) k = none := by
  induction d with
  | nil => rfl
  | cons p r ih =>
    obtain ⟨k', v'⟩ := p
    simp only [dkeys, List.map_cons, List.nodup_cons] at h
    simp only [derase]
    split
    · rename_i hk
      have hk' : k' = k := by simpa using hk
      exact dget_none_of_not_mem (by rw [← hk']; exact h.1)
    · rename_i hk
      simp only [dget, hk]
      exact ih h.2

theorem dget_derase_ne (d : Dict) {k k2 : Sym} (hne : k2 ≠ k) : dget (derase d k) k2 = dget d k2 := by
  induction d with
  | nil => rfl
  | cons p r ih =>
    obtain ⟨k', v'⟩ := p
    simp only [derase]
    split
    · rename_i hk
      have hk' : k' = k := by simpa using hk
      have : (k' == k2) = false := by simpa [hk'] using fun e => hne e.symm
      simp [dget, this]
    · simp only [dget, ih]

/-- every unit system (and the template) is a proper dict: no category twice -/
structure DictsWf (m : Mgr) : Prop where
  heap : ∀ (a : Nat) (o : USys), m.heap[a]? = some o → (dkeys o.mapping).Nodup
  tmpl : ∀ t : USys, m.tmpl = some t → (dkeys t.mapping).Nodup

theorem init_dictsWf : DictsWf Mgr.init := by
  refine ⟨?_, by intro t h; cases h⟩
  intro a o h
  cases a with
  | zero => simp [Mgr.init] at h; subst h; exact nodup_dofList []
  | succ n => simp [Mgr.init] at h

theorem setListening_mapping {h : List USys} {a i : Nat} {b : Bool} {o' : USys}
    (ho : (setListening h a b)[i]? = some o') : ∃ o, h[i]? = some o ∧ o'.mapping = o.mapping := by
  rw [getElem?_setListening] at ho
  cases hh : h[i]? with
  | none => rw [hh] at ho; cases ho
  | some o =>
    rw [hh] at ho
    simp only [Option.map_some, Option.some.injEq] at ho
    refine ⟨o, rfl, ?_⟩
    subst ho
    split <;> rfl

theorem setCurrent_mapping {m : Mgr} {x : Option Nat} {i : Nat} {o' : USys}
    (ho : (setCurrent m x).1.heap[i]? = some o') : ∃ o, m.heap[i]? = some o ∧ o'.mapping = o.mapping := by
  have hu : ∀ o1, (unregisterCurrent m)[i]? = some o1 → ∃ o, m.heap[i]? = some o ∧ o1.mapping = o.mapping := by
    intro o1 h1
    unfold unregisterCurrent at h1
    split at h1
    · exact ⟨o1, h1, rfl⟩
    · exact setListening_mapping h1
  cases x with
  | none => exact hu o' ho
  | some a =>
    obtain ⟨o1, h1, e1⟩ := setListening_mapping (h := unregisterCurrent m) ho
    obtain ⟨o, h2, e2⟩ := hu o1 h1
    exact ⟨o, h2, e1.trans e2⟩

theorem setCurrent_dictsWf {m : Mgr} (hd : DictsWf m) (x : Option Nat) : DictsWf (setCurrent m x).1 := by
  refine ⟨?_, by rw [setCurrent_tmpl]; exact hd.tmpl⟩
  intro a o' ho
  obtain ⟨o, h1, e⟩ := setCurrent_mapping ho
  rw [e]; exact hd.heap a o h1

theorem register_dictsWf {m : Mgr} (hd : DictsWf m) (id cap : Sym) (d : List (Sym × Sym)) (ro : Bool) :
    DictsWf (m.register id cap d ro) := by
  refine ⟨?_, hd.tmpl⟩
  intro a o ho
  simp only [Mgr.register] at ho
  rcases Nat.lt_or_ge a m.heap.length with h' | h'
  · rw [List.getElem?_append_left h'] at ho
    exact hd.heap a o ho
  · rw [List.getElem?_append_right h'] at ho
    cases hk : a - m.heap.length with
    | zero =>
      rw [hk] at ho
      simp only [List.getElem?_cons_zero, Option.some.injEq] at ho
      subst ho
      exact nodup_dofList d
    | succ n => rw [hk] at ho; simp at ho

theorem set_dictsWf {m : Mgr} (hd : DictsWf m) (a : Nat) {o' : USys} (h : (dkeys o'.mapping).Nodup) :
    DictsWf { m with heap := m.heap.set a o' } := by
  refine ⟨?_, hd.tmpl⟩
  intro i o ho
  simp only [List.getElem?_set] at ho
  split at ho
  · split at ho
    · cases ho; exact h
    · cases ho
  · exact hd.heap i o ho


/-! ### the unit a registered object is given -/

/-- The unit the manager gives a registered object when it brings the objects to the current system
(state `m`): the current system's default unit of the object's category — if some system is current, the
object is alive and there is such a default; otherwise the object keeps its unit (in particular while
NO system is current, whatever the null system holds). -/
def specUnit (m : Mgr) (o : VObj) : Sym :=
  if o.alive then
    match m.cur with
    | none => o.unit
    | some _ =>
      match m.currentDefault o.cat with
      | some u => u
      | none => o.unit
  else o.unit

theorem refresh_curSys_spec {m : Mgr} (hw : MgrWf m) (o : VObj) :
    VObj.refresh m.curSys o = { o with unit := specUnit m o } := by
  unfold specUnit Mgr.curSys
  cases hc : m.cur with
  | none => simp only [VObj.refresh, ite_self]
  | some c =>
    have hlt := hw.cur_valid c hc
    have hs : m.heap[c]? = some m.heap[c] := List.getElem?_eq_getElem hlt
    simp only [hs, VObj.refresh, VObj.update, Mgr.currentDefault, Mgr.currentAddr, hc]
    cases ha : o.alive with
    | false =>
      simp only [Bool.false_eq_true, ↓reduceIte]
      rw [← ha]
    | true =>
      cases hd : (m.heap[c]).getDefaultUnit o.cat with
      | none =>
        simp only [↓reduceIte]
        rw [← ha]
      | some u => simp

def Event.isCurrent : Event → Bool
  | .current _ => true
  | _ => false

theorem follow_of_silent {m : Mgr} {r : Res} (ho : r.mgr.objs = m.objs) (hl : r.log.any Event.isCurrent = false) :
    r.mgr.objs =
      if r.log.any Event.isCurrent then m.objs.map (fun o => { o with unit := specUnit r.mgr o }) else m.objs := by
  simp [hl, ho]

/-! ### auxiliary calls: rejection, and the invariants of mappings and value objects -/

theorem curRegistered_of_eq {m m' : Mgr} (hc : m'.cur = m.cur) (hr : m'.reg = m.reg) (h : CurRegistered m) :
    CurRegistered m' := by
  intro c h'
  rw [hc] at h'
  rw [hr]
  exact h c h'

theorem step_aux_rejected (db : Db) (m : Mgr) {op : Op} (ha : op.isAux = true) {e : ErrKind}
    (h : (step db m op).out = .error e) : (step db m op).mgr = m := by
  cases op <;> simp only [Op.isAux, Bool.false_eq_true] at ha
  case register c u => simp [step, registerNew] at h
  case registerAgain i =>
    simp only [step, registerAgain] at h ⊢
    split
    · rfl
    · rename_i o ho
      simp only [ho] at h
      split
      · rename_i hal; simp [hal] at h
      · rfl
  case kill i =>
    simp only [step, killObj] at h ⊢
    split
    · rfl
    · rename_i o ho; simp [ho] at h
  case objSetUnit i u =>
    simp only [step, objSetUnit] at h ⊢
    split
    · rfl
    · rename_i o ho
      simp only [ho] at h
      split
      · rename_i hal; simp [hal] at h
      · rfl
  case updateObjects => simp [step] at h
  case resetInstance => simp [step, resetInstance] at h
  case observeCurrent => simp [step] at h
  case observeUnit => simp [step] at h
  case setCaption a cap =>
    simp only [step, setCaption] at h ⊢
    split
    · rfl
    · rename_i o ho; simp [ho] at h
  case setReadOnly a b =>
    simp only [step, setReadOnly] at h ⊢
    split
    · rfl
    · rename_i o ho; simp [ho] at h

theorem step_aux_dictsWf (db : Db) {m : Mgr} (hd : DictsWf m) {op : Op} (ha : op.isAux = true) :
    DictsWf (step db m op).mgr := by
  rcases step_aux_shape db m ha with ⟨l, b1, b2, h⟩ | ⟨a, o, o', h, ho, _, _, hm⟩ <;> rw [h]
  · exact ⟨hd.heap, hd.tmpl⟩
  · exact set_dictsWf hd a (by rw [hm]; exact hd.heap a o ho)

theorem step_aux_objsWf (db : Db) {m : Mgr} (h : ObjsWf m) {op : Op} (ha : op.isAux = true) :
    ObjsWf (step db m op).mgr := by
  cases op <;> simp only [Op.isAux, Bool.false_eq_true] at ha
  case register c u =>
    intro o ho
    simp only [step, registerNew, List.mem_append, List.mem_singleton] at ho
    rcases ho with ho | rfl
    · exact h o ho
    · exact refresh_ok ⟨fun _ => Nat.le_refl 1, fun hf => by cases hf⟩
  case registerAgain i =>
    simp only [step, registerAgain]
    split
    · exact h
    · rename_i o ho
      split
      · rename_i hal
        apply objsWf_set h
        apply refresh_ok
        exact ⟨fun _ => by simp, fun hf => by simp [hal] at hf⟩
      · exact h
  case kill i =>
    simp only [step, killObj]
    split
    · exact h
    · apply objsWf_set h
      exact ⟨fun hf => (by cases hf), fun _ => rfl⟩
  case objSetUnit i u =>
    simp only [step, objSetUnit]
    split
    · exact h
    · rename_i o ho
      split
      · apply objsWf_set h
        exact h o (List.mem_of_getElem? ho)
      · exact h
  case updateObjects => exact objsWf_map_refresh _ h
  case resetInstance => exact h
  case observeCurrent => exact h
  case observeUnit => exact h
  case setCaption a cap =>
    simp only [step, setCaption]
    split <;> exact h
  case setReadOnly a b =>
    simp only [step, setReadOnly]
    split <;> exact h

/-! ### the shape of a structural call

Each of the six calls that touch the registry, the current system, a mapping or the template is rejected with
nothing changed, or makes one registry-level change (`RegMove`), after which it either stops, having invoked
`on_current` for nobody, or ends in `SetCurrent(x)`. -/

inductive RegMove (m : Mgr) : Mgr → Prop
  | same : RegMove m m
  | tmpl (mp : List (Sym × Sym)) :
    RegMove m { m with tmpl := some (USys.new (some symTemplate) symTemplateCaption mp true) }
  | register {id : Sym} (hid : id ∉ m.reg.map (·.1)) (cap : Sym) (d : List (Sym × Sym)) (ro : Bool) :
    RegMove m (m.register id cap d ro)
  | unregister (id : Sym) : RegMove m (m.unregister id)
  | setMapping {a : Nat} {o : USys} (ho : m.heap[a]? = some o) (d : Dict)
    (hd : (dkeys o.mapping).Nodup → (dkeys d).Nodup) : RegMove m { m with heap := m.heap.set a { o with mapping := d } }

inductive Shape (m : Mgr) : Res → Prop
  | reject (e : ErrKind) : Shape m (Res.reject m e)
  | plain {m0 : Mgr} (h : RegMove m m0) (o : Out) (log : List Event) (hlog : log.any Event.isCurrent = false) :
    Shape m ⟨m0, .ok o, log⟩
  /-- in a well-formed state the system selected exists -/
  | select {m0 : Mgr} (h : RegMove m m0) (x : Option Nat) (hx : MgrWf m → ∀ a, x = some a → a < m0.heap.length)
    (o : Out) : Shape m ⟨(setCurrent m0 x).1, .ok o, (setCurrent m0 x).2⟩

theorem fire_not_current (o : USys) (c : Sym) (u : Option Sym) : (o.fire c u).any Event.isCurrent = false := by
  unfold USys.fire
  split <;> rfl

theorem step_shape (db : Db) (m : Mgr) (op : Op) :
    op.isQuery = true ∨ op.isAux = true ∨ Shape m (step db m op) := by
  induction op using Op.byKind with
  | query op hq => exact .inl hq
  | aux op ha => exact .inr (.inl ha)
  | setTemplate mp =>
    refine .inr (.inr ?_)
    simp only [step, setTemplate]
    split
    · exact .plain (.tmpl mp) _ _ rfl
    · exact .reject _
  | add id cap mp ro =>
    refine .inr (.inr ?_)
    simp only [step, addUnitSystem]
    split
    · exact .reject _
    · rename_i hid
      have hid' : id ∉ m.reg.map (·.1) := (regHas_false_iff _ _).mp (by simpa using hid)
      split
      · exact .reject _
      · split
        · refine .select (.register hid' ..) _ ?_ _
          intro _ a ha
          cases ha
          simp [Mgr.register]
        · exact .plain (.register hid' ..) _ _ rfl
  | remove id =>
    refine .inr (.inr ?_)
    simp only [step, removeUnitSystem]
    split
    · exact .reject _
    · split
      · refine .select (.unregister id) _ ?_ _
        intro hw a ha
        obtain ⟨id', hm⟩ := nextCurrent_mem ha
        exact reg_addr_lt (unregister_wf hw id) hm
      · exact .plain (.unregister id) _ _ rfl
  | setCurrent a =>
    refine .inr (.inr ?_)
    cases a with
    | none => exact .select .same none (fun _ a h => by cases h) _
    | some a =>
      simp only [step]
      split
      · rename_i h
        exact .select .same (some a) (fun _ b hb => by cases hb; exact h) _
      · exact .reject _
  | setDefaultUnit a c u =>
    refine .inr (.inr ?_)
    simp only [step, setDefaultUnit]
    split
    · exact .reject _
    · rename_i o ho
      exact .plain (.setMapping ho _ (nodup_dset · c u)) _ _ (fire_not_current ..)
  | removeCategory a c =>
    refine .inr (.inr ?_)
    simp only [step, removeCategory]
    split
    · exact .reject _
    · rename_i o ho
      split
      · exact .plain (.setMapping ho _ (nodup_derase · c)) _ _ (fire_not_current ..)
      · exact .plain .same _ _ rfl

theorem RegMove.wf {m m0 : Mgr} (h : RegMove m m0) (hw : MgrWf m) : MgrWf m0 := by
  cases h with
  | same => exact hw
  | tmpl mp => exact ⟨hw.null, hw.reg_own, hw.ids_nodup, hw.cur_valid, hw.listen⟩
  | register hid cap d ro => exact register_wf hw hid cap d ro
  | unregister id => exact unregister_wf hw id
  | setMapping ho d _ => exact set_wf hw ho rfl rfl

theorem RegMove.dictsWf {m m0 : Mgr} (h : RegMove m m0) (hd : DictsWf m) : DictsWf m0 := by
  cases h with
  | same => exact hd
  | tmpl mp => exact ⟨hd.heap, by intro t ht; cases ht; exact nodup_dofList mp⟩
  | register hid cap d ro => exact register_dictsWf hd _ cap d ro
  | unregister id => exact ⟨hd.heap, hd.tmpl⟩
  | setMapping ho d hn => exact set_dictsWf hd _ (hn (hd.heap _ _ ho))

theorem RegMove.frame {m m0 : Mgr} (h : RegMove m m0) :
    m0.objs = m.objs ∧ m0.obsCur = m.obsCur ∧ m0.obsUnit = m.obsUnit ∧ m0.cur = m.cur := by
  cases h <;> exact ⟨rfl, rfl, rfl, rfl⟩

theorem Shape.wf {m : Mgr} {r : Res} (h : Shape m r) (hw : MgrWf m) : MgrWf r.mgr := by
  cases h with
  | reject e => exact hw
  | plain h o log _ => exact h.wf hw
  | select h x hx o => exact setCurrent_wf (h.wf hw) x (hx hw)

theorem Shape.dictsWf {m : Mgr} {r : Res} (h : Shape m r) (hd : DictsWf m) : DictsWf r.mgr := by
  cases h with
  | reject e => exact hd
  | plain h o log _ => exact h.dictsWf hd
  | select h x hx o => exact setCurrent_dictsWf (h.dictsWf hd) x

theorem Shape.objsWf {m : Mgr} {r : Res} (h : Shape m r) (ho : ObjsWf m) : ObjsWf r.mgr := by
  have hm : ∀ {m0 : Mgr}, RegMove m m0 → ObjsWf m0 := fun h' => by unfold ObjsWf; rw [h'.frame.1]; exact ho
  cases h with
  | reject e => exact ho
  | plain h o log _ => exact hm h
  | select h x hx o => exact setCurrent_objsWf (hm h) x

theorem Shape.obs {m : Mgr} {r : Res} (h : Shape m r) :
    r.mgr.obsCur = m.obsCur ∧ r.mgr.obsUnit = m.obsUnit := by
  cases h with
  | reject e => exact ⟨rfl, rfl⟩
  | plain h o log _ => exact ⟨h.frame.2.1, h.frame.2.2.1⟩
  | select h x hx o =>
    exact ⟨(setCurrent_obsCur _ x).trans h.frame.2.1, (setCurrent_obsUnit _ x).trans h.frame.2.2.1⟩

theorem Shape.follow {m : Mgr} {r : Res} (h : Shape m r) (hw' : MgrWf r.mgr) :
    r.mgr.objs =
      if r.log.any Event.isCurrent then m.objs.map (fun o => { o with unit := specUnit r.mgr o }) else m.objs := by
  cases h with
  | reject e => exact follow_of_silent rfl rfl
  | plain h o log hlog => exact follow_of_silent h.frame.1 hlog
  | select h x hx o =>
    -- the call ended in `SetCurrent(x)`, which brought the objects to the new current system
    rename_i m0
    have hfun : (fun o => ({ o with unit := specUnit (setCurrent m0 x).1 o } : VObj))
        = VObj.refresh (setCurrent m0 x).1.curSys := funext fun o => (refresh_curSys_spec hw' o).symm
    have hany : (setCurrent m0 x).2.any Event.isCurrent = true := by rw [setCurrent_log_addr]; rfl
    simp only [hany, ↓reduceIte]
    rw [hfun, setCurrent_objs, h.frame.1]

theorem Shape.notified {m : Mgr} {r : Res} (h : Shape m r) (hne : r.mgr.cur ≠ m.cur) :
    r.log = [.current r.mgr.currentAddr] := by
  cases h with
  | reject e => exact absurd rfl hne
  | plain h o log _ => exact absurd h.frame.2.2.2 hne
  | select h x hx o => exact setCurrent_log_addr _ x

theorem Shape.rejected {m : Mgr} {r : Res} (h : Shape m r) {e : ErrKind} (he : r.out = .error e) :
    r.mgr = m ∧ r.log = [] := by
  cases h with
  | reject e => exact ⟨rfl, rfl⟩
  | plain h o log _ => cases he
  | select h x hx o => cases he

end Barril.Mgr
