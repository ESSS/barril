/-
The continued-fraction loop of `FractionValue.CreateFromFloat` in exact arithmetic: it returns the
reduced fraction of its target.  Invariant (integer Möbius form): with `fractional_part = c / e`,
`target.num = pCur·c + pPrev·e`, `target.den = qCur·c + qPrev·e`, determinant `±1`.
-/
import Barril.Proofs.FracLemmas

namespace Barril.Frac

/-- the loop invariant at the head of every pass after the first -/
structure CFInv (t : Rat) (s : CFState) (c e : Int) : Prop where
  he : 0 < e
  hce : e < c
  hf : s.f = (c : Rat) / (e : Rat)
  hp0 : 0 ≤ s.pPrev
  hp1 : 0 ≤ s.pCur
  hq0 : 0 ≤ s.qPrev
  hq1 : 1 ≤ s.qCur
  hnum : t.num = s.pCur * c + s.pPrev * e
  hden : (t.den : Int) = s.qCur * c + s.qPrev * e
  hdet : s.pCur * s.qPrev - s.pPrev * s.qCur = 1 ∨ s.pCur * s.qPrev - s.pPrev * s.qCur = -1
  hprev : s.prevCalc = some ((s.pCur : Rat) / (s.qCur : Rat))

theorem floor_div_eq {e l r : Int} (he : 0 < e) (hr0 : 0 ≤ r) (hre : r < e) :
    (((e * l + r : Int) : Rat) / (e : Rat)).floor = l := by
  have he' : (0 : Rat) < (e : Rat) := by exact_mod_cast he
  rw [floor_eq, Int.floor_eq_iff, le_div_iff₀ he', div_lt_iff₀ he']
  constructor <;> norm_cast <;> linarith

theorem div_eq_rat_iff {p q : Int} (hq : q ≠ 0) (t : Rat) :
    (p : Rat) / (q : Rat) = t ↔ p * t.den = t.num * q := by
  conv_lhs => rw [← Rat.num_div_den t]
  rw [div_eq_div_iff (by exact_mod_cast hq) (by exact_mod_cast t.den_nz)]
  norm_cast

theorem cfStep_inv {t : Rat} {s : CFState} {c e l r maxNum : Int} (hI : CFInv t s c e)
    (hc : c = e * l + r) (hr0 : 0 ≤ r) (hre : r < e) (hmax : t.num ≤ maxNum) :
    (r = 0 → cfStep t maxNum s = .ok (.inl (t.num, (t.den : Int)))) ∧
    (r ≠ 0 → ∃ s', cfStep t maxNum s = .ok (.inr s') ∧ CFInv t s' e r) := by
  obtain ⟨he, hce, hf, hp0, hp1, hq0, hq1, hnum, hden, hdet, hprev⟩ := hI
  have hl : 0 < l := (mul_pos_iff_of_pos_left he).mp (by omega)
  have hfl : s.f.floor = l := by rw [hf, hc, floor_div_eq he hr0 hre]
  obtain ⟨p, hp⟩ : ∃ p, p = l * s.pCur + s.pPrev := ⟨_, rfl⟩
  obtain ⟨q, hq⟩ : ∃ q, q = l * s.qCur + s.qPrev := ⟨_, rfl⟩
  have hp_nn : 0 ≤ p := hp ▸ add_nonneg (mul_nonneg hl.le hp1) hp0
  have hq_pos : 0 < q := hq ▸ add_pos_of_pos_of_nonneg (mul_pos hl (by omega)) hq0
  have hnum' : t.num = p * e + s.pCur * r := by rw [hnum, hc, hp]; ring
  have hden' : (t.den : Int) = q * e + s.qCur * r := by rw [hden, hc, hq]; ring
  have hdet' : p * s.qCur - s.pCur * q = 1 ∨ p * s.qCur - s.pCur * q = -1 := by
    have : p * s.qCur - s.pCur * q = -(s.pCur * s.qPrev - s.pPrev * s.qCur) := by rw [hp, hq]; ring
    omega
  have hp_le : ¬ maxNum < (p.natAbs : Int) := by
    have := le_mul_of_one_le_right hp_nn he
    have := mul_nonneg hp1 hr0
    omega
  have hprev_ne : s.prevCalc ≠ some ((p : Rat) / (q : Rat)) := by
    rw [hprev, Ne, Option.some.injEq, div_eq_div_iff (by exact_mod_cast (by omega : s.qCur ≠ 0))
      (by exact_mod_cast hq_pos.ne')]
    norm_cast
    omega
  -- the convergent is `t` exactly when the remainder vanishes: `p·den − num·q = ±r`
  have hcv : (p : Rat) / (q : Rat) = t ↔ r = 0 := by
    have : p * t.den - t.num * q = r * (p * s.qCur - s.pCur * q) := by rw [hden', hnum']; ring
    rw [div_eq_rat_iff hq_pos.ne', ← sub_eq_zero, this]
    rcases hdet' with h | h <;> rw [h] <;> omega
  have hstep : cfStep t maxNum s =
      (if (p : Rat) / (q : Rat) = t then .ok (.inl ((p.natAbs : Int), (q.natAbs : Int)))
       else if s.f - (l : Rat) = 0 then .error .other
       else .ok (.inr ⟨1 / (s.f - (l : Rat)), s.pCur, p, s.qCur, q, some ((p : Rat) / (q : Rat)), p.natAbs, q.natAbs⟩)) := by
    unfold cfStep
    simp only [hfl, ← hp, ← hq]
    rw [if_neg hp_le, if_neg hq_pos.ne', if_neg hprev_ne]
  constructor
  · intro hr
    rw [hstep, if_pos (hcv.mpr hr), Int.natAbs_of_nonneg hp_nn, Int.natAbs_of_nonneg hq_pos.le]
    -- `e` divides numerator and denominator of the reduced target, so `e = 1`
    rw [hr, mul_zero, add_zero] at hnum' hden'
    have hd := Int.dvd_coe_gcd (Dvd.intro_left p hnum'.symm) (Dvd.intro_left q hden'.symm)
    rw [show Int.gcd t.num t.den = 1 from t.reduced, Nat.cast_one] at hd
    rw [hnum', hden', Int.eq_one_of_dvd_one he.le hd, mul_one, mul_one]
  · intro hr
    have heR : (e : Rat) ≠ 0 := by exact_mod_cast he.ne'
    have hrR : (r : Rat) ≠ 0 := by exact_mod_cast hr
    have hfl' : s.f - (l : Rat) = (r : Rat) / (e : Rat) := by
      rw [hf, hc]; push_cast; field_simp; ring
    refine ⟨_, by rw [hstep, if_neg (mt hcv.mp hr), if_neg (hfl' ▸ div_ne_zero hrR heR)], ?_⟩
    exact ⟨by omega, hre, by simp only [hfl', one_div, inv_div], hp1, hp_nn, (by omega : 0 ≤ s.qCur),
      hq_pos, hnum', hden', hdet', rfl⟩

theorem two_mul_emod_lt {e r : Int} (hr : 0 < r) (hre : r < e) : 2 * (e % r) < e := by
  have h1 : r ≤ r * (e / r) := le_mul_of_one_le_right hr.le ((Int.le_ediv_iff_mul_le hr).mpr (by omega))
  have h2 := Int.emod_add_mul_ediv e r
  have h3 := Int.emod_lt_of_pos e hr
  omega

/-- the loop ends within `m + 1` passes when divisor times remainder is below `2^m`: that product
at least halves with every pass -/
theorem cfLoop_inv {t : Rat} {maxNum : Int} (hmax : t.num ≤ maxNum) :
    ∀ (m : Nat) (s : CFState) (c e : Int), CFInv t s c e → e * (c % e) < 2 ^ m → ∀ fuel, m < fuel →
      cfLoop t maxNum fuel s = .ok (t.num, (t.den : Int)) := by
  have hstep {s c e} (hI : CFInv t s c e) :=
    cfStep_inv hI (Int.mul_ediv_add_emod c e).symm (Int.emod_nonneg c hI.he.ne') (Int.emod_lt_of_pos c hI.he) hmax
  intro m
  induction m with
  | zero =>
    intro s c e hI hm fuel hfuel
    obtain ⟨f1, rfl⟩ : ∃ f1, fuel = f1 + 1 := ⟨fuel - 1, by omega⟩
    have hr : c % e = 0 := by
      by_contra h
      have := mul_pos hI.he (lt_of_le_of_ne (Int.emod_nonneg c hI.he.ne') (Ne.symm h))
      omega
    rw [cfLoop, (hstep hI).1 hr]
  | succ m ih =>
    intro s c e hI hm fuel hfuel
    obtain ⟨f1, rfl⟩ : ∃ f1, fuel = f1 + 1 := ⟨fuel - 1, by omega⟩
    by_cases hr : c % e = 0
    · rw [cfLoop, (hstep hI).1 hr]
    · obtain ⟨s', hs', hI'⟩ := (hstep hI).2 hr
      rw [cfLoop, hs']
      refine ih s' _ _ hI' ?_ f1 (by omega)
      have := mul_lt_mul_of_pos_left (two_mul_emod_lt hI'.he hI'.hce) hI'.he
      rw [pow_succ] at hm
      linarith

/-- **the loop of `CreateFromFloat` returns the reduced fraction of its target** `0 < t < 1`
whenever the numerator bound does not cut it short and the target's numerator is below `2^498` -/
theorem cfLoop_exact {t : Rat} (h0 : 0 < t) (h1 : t < 1) {maxNum : Int} (hmax : t.num ≤ maxNum)
    (hsize : t.num < 2 ^ 498) :
    cfLoop t maxNum 998 (cfInit t) = .ok (t.num, (t.den : Int)) := by
  have hnum : 0 < t.num := Rat.num_pos.mpr h0
  have hlt : t.num < (t.den : Int) := by simpa using (Rat.lt_iff t 1).mp h1
  have hfl : t.floor = 0 := by rw [floor_eq, Int.floor_eq_zero_iff]; exact ⟨h0.le, h1⟩
  -- the first pass only turns `t` into `1 / t`; from then on the invariant holds, with `c / e = den / num`
  have hstep : cfStep t maxNum (cfInit t) = .ok (.inr ⟨1 / (t - 0), 1, 0, 0, 1, some 0, 0, 1⟩) := by
    simp [cfStep, cfInit, hfl, not_lt.mpr (hnum.le.trans hmax), h0.ne, h0.ne']
  have hI : CFInv t ⟨1 / (t - 0), 1, 0, 0, 1, some 0, 0, 1⟩ t.den t.num :=
    ⟨hnum, hlt, by rw [sub_zero, one_div, ← inv_div, num_div_den'], by norm_num, by norm_num,
      by norm_num, by norm_num, by simp, by simp, Or.inr (by norm_num), by simp⟩
  have hm : t.num * ((t.den : Int) % t.num) < 2 ^ 996 :=
    calc t.num * ((t.den : Int) % t.num) < t.num * t.num :=
          mul_lt_mul_of_pos_left (Int.emod_lt_of_pos _ hnum) hnum
      _ < 2 ^ 498 * 2 ^ 498 := mul_lt_mul'' hsize hsize hnum.le hnum.le
      _ = 2 ^ 996 := by rw [← pow_add]
  rw [cfLoop, hstep]
  exact cfLoop_inv hmax 996 _ _ _ hI hm 997 (by norm_num)

theorem createFromFloat_of_int {d : Rat} (hd : d.den = 1) : createFromFloat d = .ok ⟨d, ⟨0⟩⟩ := by
  unfold createFromFloat
  rw [if_pos hd, fv_init_default]

theorem abs_den (d : Rat) : |d|.den = d.den := by
  rcases abs_choice d with h | h <;> rw [h]
  exact Rat.den_neg_eq_den d

theorem fract_abs {d : Rat} (hd : d.den ≠ 1) : 0 < |d| - (⌊|d|⌋ : Rat) ∧ |d| - (⌊|d|⌋ : Rat) < 1 := by
  refine ⟨sub_pos.mpr (lt_of_le_of_ne (Int.floor_le _) fun h => hd ?_), sub_lt_iff_lt_add'.mpr (Int.lt_floor_add_one _)⟩
  rw [← abs_den, ← h]
  exact Rat.den_intCast _

/-- the wrapper around the loop, given what the digit handling delivers -/
theorem createFromFloat_of_parts {d : Rat} (hd : d.den ≠ 1) {dp fdp : DecParts}
    (h1 : decParts |d| = some dp)
    (h2 : getFractionalPart |d| dp = |d| - (⌊|d|⌋ : Rat))
    (h3 : decParts (|d| - (⌊|d|⌋ : Rat)) = some fdp)
    (h4 : (|d| - (⌊|d|⌋ : Rat)).num ≤ getMaxNumerator fdp)
    (h5 : (|d| - (⌊|d|⌋ : Rat)).num < 2 ^ 498) :
    ∃ v, createFromFloat d = .ok v ∧ v.value = d := by
  obtain ⟨ht0, ht1⟩ := fract_abs hd
  set t := |d| - (⌊|d|⌋ : Rat) with ht
  have hne : t.num ≠ (t.den : Int) := ne_of_lt (by simpa using (Rat.lt_iff t 1).mp ht1)
  unfold createFromFloat
  rw [if_neg hd]
  simp only [absR_eq_abs, h1, h2, floor_eq, h3, cfLoop_exact ht0 ht1 h4 h5, if_neg hne]
  -- both signs: the pair is `sign · num / den`, exactly `sign · t`
  have key : ∀ sg : Rat, sg = 1 ∨ sg = -1 → sg * |d| = d →
      ∃ v, FV.init (some (sg * (⌊|d|⌋ : Rat))) (.pair (.fin (sg * (t.num : Rat))) (.fin ((t.den : Int) : Rat))) = .ok v
        ∧ v.value = d := by
    intro sg hsg hd'
    have e1 : sg * (t.num : Rat) = ((if sg = 1 then t.num else -t.num : Int) : Rat) := by
      rcases hsg with rfl | rfl <;> norm_num
    refine ⟨⟨sg * (⌊|d|⌋ : Rat), ⟨sg * t⟩⟩, ?_, ?_⟩
    · simp only [FV.init, setFraction]
      rw [e1, init_fin_fin _ _ (by exact_mod_cast t.den_nz), normalise_int, ← e1, mul_div_assoc, num_div_den']
    · simp only [FV.value, Frac.toFloat, ht]
      rw [← mul_add, add_sub_cancel, hd']
  by_cases hneg : d < 0
  · rw [if_pos hneg]
    exact key (-1) (Or.inr rfl) (by rw [abs_of_neg hneg]; ring)
  · rw [if_neg hneg]
    exact key 1 (Or.inl rfl) (by rw [abs_of_nonneg (not_lt.mp hneg)]; ring)

end Barril.Frac
