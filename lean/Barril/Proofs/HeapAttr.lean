import Lean

/-- the lemmas `Step L (f …) Q` about the functions of `Model/Heap.lean` (`Proofs/HeapLemmas.lean`), by which `step_auto`
closes a call -/
register_simp_attr effect
