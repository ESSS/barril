/-
Lemmas for C07 (model `Barril/Model/Intern.lean`).  The heap: `HeapExt` (only growth) and `Edit` (what the two
writing loops of the arithmetic routines may change: cells of their working copies, never a list/tuple flag).
The invariant of reachable states (`ObjOk`, `Inv`, `SInv`) and `Good`: every creation routine keeps it, only
extends the state (`Ext`) and returns a live object; `run_sinv` carries this over histories.  Then what holds
on reachable states: repeated requests, equality = same content, pickle round trip, no tuple `TypeError`.
-/
import Barril.Model.Intern
import Barril.Proofs.ConvBasics
namespace Barril.Intern

theorem lookupKey_cons (a : Key × Nat) (rest : List (Key × Nat)) (k : Key) :
    lookupKey (a :: rest) k = if a.1 == k then some a.2 else lookupKey rest k := by
  unfold lookupKey
  rw [List.find?_cons]
  cases h : a.1 == k <;> simp

theorem lookupKey_setKey_self (c : List (Key × Nat)) (k : Key) (i : Nat) :
    lookupKey (setKey c k i) k = some i := by
  induction c with
  | nil => simp [setKey, lookupKey]
  | cons a rest ih =>
    unfold setKey
    cases h : a.1 == k
    · simp [lookupKey_cons, h, ih]
    · simp [lookupKey_cons, h]

theorem setKey_of_lookup_none {c : List (Key × Nat)} {k : Key} (i : Nat) (h : lookupKey c k = none) :
    setKey c k i = c ++ [(k, i)] := by
  induction c with
  | nil => rfl
  | cons a rest ih =>
    unfold setKey
    rw [lookupKey_cons] at h
    cases hk : a.1 == k
    · simp [hk] at h
      simp [ih h]
    · simp [hk] at h

theorem lookupKey_append (c t : List (Key × Nat)) (k : Key) :
    lookupKey (c ++ t) k = match lookupKey c k with
      | some j => some j
      | none => lookupKey t k := by
  induction c with
  | nil => simp [lookupKey]
  | cons a rest ih =>
    rw [List.cons_append, lookupKey_cons, lookupKey_cons]
    cases hk : a.1 == k
    · simp [ih]
    · simp

theorem lookupKey_append_of_some {c t : List (Key × Nat)} {k : Key} {i : Nat} (h : lookupKey c k = some i) :
    lookupKey (c ++ t) k = some i := by
  rw [lookupKey_append, h]

/-- `h'` extends `h`: at least as long and identical on the old addresses -/
def HeapExt (h h' : Heap) : Prop := h.length ≤ h'.length ∧ ∀ r, r < h.length → h'[r]? = h[r]?

theorem HeapExt.refl (h : Heap) : HeapExt h h := ⟨Nat.le_refl _, fun _ _ => rfl⟩

theorem HeapExt.trans {a b c : Heap} (h1 : HeapExt a b) (h2 : HeapExt b c) : HeapExt a c :=
  ⟨Nat.le_trans h1.1 h2.1, fun r hr => by rw [h2.2 r (Nat.lt_of_lt_of_le hr h1.1), h1.2 r hr]⟩

theorem HeapExt.append (h t : Heap) : HeapExt h (h ++ t) :=
  ⟨by simp, fun r hr => by simp [List.getElem?_append_left hr]⟩

theorem allocMany_heap (h : Heap) (items : List (Sym × Cell)) :
    (allocMany h items).1 = h ++ items.map (·.2) := by
  induction items generalizing h with
  | nil => simp [allocMany]
  | cons a rest ih => obtain ⟨k, c⟩ := a; simp [allocMany, ih]

theorem allocMany_refs (h : Heap) (items : List (Sym × Cell)) :
    ∀ kr ∈ (allocMany h items).2, h.length ≤ kr.2 ∧ kr.2 < h.length + items.length := by
  induction items generalizing h with
  | nil => simp [allocMany]
  | cons a rest ih =>
    obtain ⟨k, c⟩ := a
    intro kr hkr
    simp only [allocMany, List.mem_cons] at hkr
    rcases hkr with rfl | hkr
    · simp
    · have := ih (h ++ [c]) kr hkr
      simp only [List.length_append, List.length_cons, List.length_nil] at this ⊢
      omega

theorem allocMany_keys (h : Heap) (items : List (Sym × Cell)) :
    (allocMany h items).2.map (·.1) = items.map (·.1) := by
  induction items generalizing h with
  | nil => simp [allocMany]
  | cons a rest ih => obtain ⟨k, c⟩ := a; simp [allocMany, ih]

theorem readMap_ext {h h' : Heap} {m : Map} (hm : ∀ kr ∈ m, kr.2 < h.length) (he : HeapExt h h') :
    readMap h' m = readMap h m := by
  induction m with
  | nil => rfl
  | cons a rest ih =>
    obtain ⟨k, r⟩ := a
    have hr : r < h.length := hm (k, r) (by simp)
    have ih' := ih (fun kr hkr => hm kr (by simp [hkr]))
    simp only [readMap, he.2 r hr, ih']

theorem readMap_allocMany (h : Heap) (items : List (Sym × Cell)) :
    readMap (allocMany h items).1 (allocMany h items).2 = some items := by
  induction items generalizing h with
  | nil => simp [allocMany, readMap]
  | cons a rest ih =>
    obtain ⟨k, c⟩ := a
    simp only [allocMany, readMap]
    have h1 : (allocMany (h ++ [c]) rest).1[h.length]? = some c := by
      rw [allocMany_heap]
      simp
    rw [h1, ih]

theorem readMap_mem {h : Heap} {m : Map} {cs : List (Sym × Cell)} (hr : readMap h m = some cs) :
    ∀ kr ∈ m, ∃ c, h[kr.2]? = some c ∧ (kr.1, c) ∈ cs := by
  induction m generalizing cs with
  | nil => intro kr hkr; cases hkr
  | cons a rest ih =>
    obtain ⟨k, r⟩ := a
    simp only [readMap] at hr
    split at hr
    · rename_i c cs' hc hrest
      cases hr
      intro kr hkr
      rcases List.mem_cons.mp hkr with rfl | hkr
      · exact ⟨c, hc, List.mem_cons_self ..⟩
      · obtain ⟨c', h1, h2⟩ := ih hrest kr hkr
        exact ⟨c', h1, List.mem_cons_of_mem _ h2⟩
    · cases hr

theorem readMap_some_wf {h : Heap} {m : Map} {cs : List (Sym × Cell)} (hr : readMap h m = some cs) :
    ∀ kr ∈ m, kr.2 < h.length := fun kr hkr =>
  let ⟨_, hc, _⟩ := readMap_mem hr kr hkr
  (List.getElem?_eq_some_iff.mp hc).1

theorem readMap_wf_some {h : Heap} {m : Map} (hm : ∀ kr ∈ m, kr.2 < h.length) :
    ∃ cs, readMap h m = some cs := by
  induction m with
  | nil => exact ⟨[], rfl⟩
  | cons a rest ih =>
    obtain ⟨k, r⟩ := a
    have hr : r < h.length := hm (k, r) (by simp)
    obtain ⟨cs, hcs⟩ := ih (fun kr hkr => hm kr (by simp [hkr]))
    refine ⟨(k, h[r]) :: cs, ?_⟩
    simp [readMap, List.getElem?_eq_getElem hr, hcs]


/-! ### the two writing loops only touch the addresses of the map they are given, and never turn a
list into a tuple -/

theorem odGet_mem {α : Type} {m : List (Sym × α)} {k : Sym} {v : α} (h : odGet m k = some v) :
    ∃ k', (k', v) ∈ m := by
  unfold odGet at h
  cases hf : m.find? (·.1 == k) with
  | none => simp [hf] at h
  | some a =>
    simp [hf] at h
    exact ⟨a.1, by rw [← h]; exact List.mem_of_find?_eq_some hf⟩

def Unfrozen (h : Heap) (m : Map) : Prop := ∀ kr ∈ m, ∀ c, h[kr.2]? = some c → c.frozen = false

theorem Unfrozen.tail {h : Heap} {a : Sym × Nat} {m : Map} (hu : Unfrozen h (a :: m)) : Unfrozen h m :=
  fun kr hkr => hu kr (List.mem_cons_of_mem _ hkr)

theorem unfrozen_of_read {h : Heap} {m : Map} {cs : List (Sym × Cell)} (hr : readMap h m = some cs)
    (hu : ∀ kc ∈ cs, kc.2.frozen = false) : Unfrozen h m := fun kr hkr c hc => by
  obtain ⟨c', h1, h2⟩ := readMap_mem hr kr hkr
  rw [h1] at hc; cases hc
  exact hu _ h2

/-- `h'` is `h` with cells at addresses `≥ n` overwritten, each keeping its list/tuple flag -/
structure Edit (n : Nat) (h h' : Heap) : Prop where
  len : h'.length = h.length
  flag : ∀ (a : Nat) (c' : Cell), h'[a]? = some c' → ∃ c : Cell, h[a]? = some c ∧ c.frozen = c'.frozen
  low : ∀ a, a < n → h'[a]? = h[a]?

theorem Edit.refl (n : Nat) (h : Heap) : Edit n h h := ⟨rfl, fun _ c hc => ⟨c, hc, rfl⟩, fun _ _ => rfl⟩

theorem Edit.trans {n : Nat} {a b c : Heap} (e1 : Edit n a b) (e2 : Edit n b c) : Edit n a c :=
  ⟨e2.len.trans e1.len, fun x c' hc => by
      obtain ⟨c1, h1, f1⟩ := e2.flag x c' hc
      obtain ⟨c0, h0, f0⟩ := e1.flag x c1 h1
      exact ⟨c0, h0, f0.trans f1⟩,
    fun x hx => (e2.low x hx).trans (e1.low x hx)⟩

theorem Edit.set {n r : Nat} {h : Heap} {c c' : Cell} (hn : n ≤ r) (hc : h[r]? = some c)
    (hf : c'.frozen = c.frozen) : Edit n h (h.set r c') := by
  refine ⟨List.length_set .., fun a x hx => ?_, fun a ha => List.getElem?_set_ne (by omega)⟩
  by_cases hra : r = a
  · subst hra
    rw [List.getElem?_set_self (List.getElem?_eq_some_iff.mp hc).1] at hx
    cases hx
    exact ⟨c, hc, hf.symm⟩
  · rw [List.getElem?_set_ne hra] at hx
    exact ⟨x, hx, rfl⟩

theorem Unfrozen.edit {n : Nat} {h h' : Heap} {m : Map} (hu : Unfrozen h m) (e : Edit n h h') :
    Unfrozen h' m := fun kr hkr c hc => by
  obtain ⟨c0, h0, f0⟩ := e.flag kr.2 c hc
  rw [← f0]; exact hu kr hkr c0 h0

theorem HeapExt.edit {h h1 h2 : Heap} (he : HeapExt h h1) (e : Edit h.length h1 h2) : HeapExt h h2 :=
  ⟨e.len ▸ he.1, fun r hr => by rw [e.low r hr, he.2 r hr]⟩

theorem convertCheck_err_units {db : Db} {cq a b : Sym} {e : ErrKind}
    (h : convertCheck db cq a b = .error e) : e = .units := by
  unfold convertCheck at h
  split at h
  · cases h
  · split at h
    · rename_i e' ht
      cases h
      unfold Db.typeOf at ht
      split at ht
      · cases ht
      · split at ht
        · cases ht
        · cases ht; rfl
    · split at h
      · rename_i hg; cases h; exact Db.getInfo_error_units hg
      · split at h
        · rename_i hg; cases h; exact Db.getInfo_error_units hg
        · cases h

theorem matchPass_spec {db : Db} {n : Nat} (m : Map) : ∀ (h : Heap) (found : List (Sym × Sym)),
    (∀ kr ∈ m, n ≤ kr.2) →
    (∀ h' f', matchPass db h found m = .ok (h', f') → Edit n h h') ∧
    (Unfrozen h m → matchPass db h found m ≠ .error .type) := by
  induction m with
  | nil =>
    intro h found _
    exact ⟨fun h' f' e => by cases e; exact Edit.refl n h, nofun⟩
  | cons a rest ih =>
    obtain ⟨cat, r⟩ := a
    intro h found hrefs
    have hrest : ∀ kr ∈ rest, n ≤ kr.2 := fun kr hkr => hrefs kr (List.mem_cons_of_mem _ hkr)
    simp only [matchPass]
    split
    · exact ⟨nofun, nofun⟩
    · rename_i cell hcell
      split
      · exact ⟨nofun, nofun⟩
      · split
        · obtain ⟨i1, i2⟩ := ih h _ hrest
          exact ⟨i1, fun hu => i2 hu.tail⟩
        · rename_i used _
          split
          · rename_i e he
            exact ⟨nofun, fun _ hh => by cases hh; cases convertCheck_err_units he⟩
          · split
            · rename_i hfz
              refine ⟨nofun, fun hu _ => ?_⟩
              rw [hu (cat, r) (List.mem_cons_self ..) cell hcell] at hfz
              cases hfz
            · have he : Edit n h (h.set r { cell with unit := used }) :=
                Edit.set (hrefs (cat, r) (List.mem_cons_self ..)) hcell rfl
              obtain ⟨i1, i2⟩ := ih (h.set r _) found hrest
              exact ⟨fun h' f' e => he.trans (i1 h' f' e), fun hu => i2 (hu.tail.edit he)⟩

theorem matchQuantities_spec {db : Db} {n : Nat} {h : Heap} {m1 m2 : Map}
    (h1 : ∀ kr ∈ m1, n ≤ kr.2) (h2 : ∀ kr ∈ m2, n ≤ kr.2) :
    (∀ h', matchQuantities db h m1 m2 = .ok h' → Edit n h h') ∧
    (Unfrozen h m1 → Unfrozen h m2 → matchQuantities db h m1 m2 ≠ .error .type) := by
  obtain ⟨a1, b1⟩ := matchPass_spec (db := db) m1 h [] h1
  unfold matchQuantities
  split
  · rename_i e he
    exact ⟨nofun, fun u1 _ hh => by cases hh; exact b1 u1 he⟩
  · rename_i ha f1 he1
    obtain ⟨a2, b2⟩ := matchPass_spec (db := db) m2 ha f1 h2
    split
    · rename_i e he
      exact ⟨nofun, fun _ u2 hh => by cases hh; exact b2 (u2.edit (a1 _ _ he1)) he⟩
    · rename_i hb f2 he2
      exact ⟨fun h' hh => by cases hh; exact (a1 _ _ he1).trans (a2 _ _ he2), nofun⟩

theorem mergePass_spec {div : Bool} {n : Nat} (m2 : Map) : ∀ (h : Heap) (m1 : Map),
    n ≤ h.length → (∀ kr ∈ m1, n ≤ kr.2) →
    (∀ h' m1', mergePass div h m1 m2 = .ok (h', m1') →
      h.length ≤ h'.length ∧ ∀ r, r < n → h'[r]? = h[r]?) ∧
    (Unfrozen h m1 → mergePass div h m1 m2 ≠ .error .type) := by
  induction m2 with
  | nil =>
    intro h m1 _ _
    exact ⟨fun h' m1' e => by cases e; exact ⟨Nat.le_refl _, fun _ _ => rfl⟩, nofun⟩
  | cons a rest ih =>
    obtain ⟨c2, r2⟩ := a
    intro h m1 hn hrefs
    simp only [mergePass]
    split
    · exact ⟨nofun, nofun⟩
    · rename_i cell2 _
      split
      · obtain ⟨i1, i2⟩ := ih (h ++ [⟨cell2.unit, opExp div 0 cell2.exp, false⟩]) (m1 ++ [(c2, h.length)])
          (by simp; omega)
          (fun kr hkr => by
            rcases List.mem_append.mp hkr with hkr | hkr
            · exact hrefs kr hkr
            · cases List.mem_singleton.mp hkr; exact hn)
        refine ⟨fun h' m1' e => ?_, fun hu => i2 fun kr hkr c hc => ?_⟩
        · obtain ⟨hl, hf⟩ := i1 h' m1' e
          exact ⟨by simp at hl; omega, fun r hr => by rw [hf r hr, List.getElem?_append_left (by omega)]⟩
        · by_cases hlt : kr.2 < h.length
          · rw [List.getElem?_append_left hlt] at hc
            rcases List.mem_append.mp hkr with hkr | hkr
            · exact hu kr hkr c hc
            · cases List.mem_singleton.mp hkr; exact absurd hlt (Nat.lt_irrefl _)
          · rw [List.getElem?_append_right (Nat.le_of_not_lt hlt)] at hc
            cases List.mem_singleton.mp (List.mem_of_getElem? hc); rfl
      · rename_i r1 hget
        obtain ⟨k', hk'⟩ := odGet_mem hget
        split
        · exact ⟨nofun, nofun⟩
        · rename_i cell1 hcell1
          split
          · split
            · rename_i hfz
              refine ⟨nofun, fun hu _ => ?_⟩
              rw [hu _ hk' cell1 hcell1] at hfz
              cases hfz
            · have he : Edit n h (h.set r1 { cell1 with exp := opExp div cell1.exp cell2.exp }) := Edit.set (hrefs _ hk') hcell1 rfl
              obtain ⟨i1, i2⟩ := ih (h.set r1 _) m1 (by simpa using hn) hrefs
              refine ⟨fun h' m1' e => ?_, fun hu => i2 (hu.edit he)⟩
              obtain ⟨hl, hf⟩ := i1 h' m1' e
              exact ⟨by simpa using hl, fun r hr => by rw [hf r hr, he.low r hr]⟩
          · exact ⟨nofun, nofun⟩


/-! ### the invariant of reachable states -/

/-- what holds of the object with identity `i` in a reachable state -/
structure ObjOk (db : Db) (s : State) (i : Nat) (q : Quantity) : Prop where
  /-- no dangling references -/
  wf : ∀ kr ∈ q.map, kr.2 < s.heap.length
  /-- a simple quantity is one `[unit, 1]` list under its category, the unit valid for it -/
  simple : q.derived = false → ∃ cat r u, q.map = [(cat, r)] ∧ s.heap[r]? = some ⟨u, 1, false⟩ ∧
    db.categoryUnitValid cat u = true
  /-- a derived quantity is not of the "simple" shape and is interned under its composing key -/
  derived : q.derived = true → ∃ cs, readMap s.heap q.map = some cs ∧ dictIsSingleOne cs = none ∧
    lookupKey s.cache (.comp (content cs) q.caption) = some i ∧ (∀ kc ∈ cs, kc.2.frozen = false) ∧
    validateItems db cs = .ok ()

structure Inv (db : Db) (s : State) : Prop where
  objs : ∀ i q, s.objs[i]? = some q → ObjOk db s i q
  range : ∀ k i, (k, i) ∈ s.cache → i < s.objs.length
  /-- a `(category, unit, caption)` entry points to the simple quantity that request resolves to -/
  simpleKey : ∀ cat u cap j, lookupKey s.cache (.simple (some cat) (some u) cap) = some j →
    ∃ q r u', s.objs[j]? = some q ∧ q.derived = false ∧ q.map = [(cat, r)] ∧
      s.heap[r]? = some ⟨u', 1, false⟩ ∧ resolveSimpleUnit db cat u = .ok u' ∧ q.caption = capStr cap
  empty : ∀ i, s.empty = some i → i < s.objs.length

/-- `s'` extends `s`: nothing that existed was altered -/
structure Ext (s s' : State) : Prop where
  heap : HeapExt s.heap s'.heap
  objs : ∃ t, s'.objs = s.objs ++ t
  cache : ∃ t, s'.cache = s.cache ++ t
  empty : ∀ i, s.empty = some i → s'.empty = some i

theorem Ext.refl (s : State) : Ext s s := ⟨HeapExt.refl _, ⟨[], by simp⟩, ⟨[], by simp⟩, fun _ h => h⟩

theorem Ext.trans {a b c : State} (h1 : Ext a b) (h2 : Ext b c) : Ext a c := by
  obtain ⟨t1, e1⟩ := h1.objs
  obtain ⟨t2, e2⟩ := h2.objs
  obtain ⟨u1, f1⟩ := h1.cache
  obtain ⟨u2, f2⟩ := h2.cache
  exact ⟨h1.heap.trans h2.heap, ⟨t1 ++ t2, by rw [e2, e1, List.append_assoc]⟩,
    ⟨u1 ++ u2, by rw [f2, f1, List.append_assoc]⟩, fun i h => h2.empty i (h1.empty i h)⟩

theorem Ext.heapOnly (s : State) {h' : Heap} (hh : HeapExt s.heap h') : Ext s { s with heap := h' } :=
  ⟨hh, ⟨[], by simp⟩, ⟨[], by simp⟩, fun _ h => h⟩

theorem Ext.objs_len {s s' : State} (h : Ext s s') : s.objs.length ≤ s'.objs.length := by
  obtain ⟨t, e⟩ := h.objs; rw [e]; simp

theorem Ext.objs_get {s s' : State} (h : Ext s s') {i : Nat} {q : Quantity} (hq : s.objs[i]? = some q) :
    s'.objs[i]? = some q := by
  obtain ⟨t, e⟩ := h.objs
  have hi : i < s.objs.length := (List.getElem?_eq_some_iff.mp hq).1
  rw [e, List.getElem?_append_left hi, hq]

theorem ext_create (s : State) (cells : List Cell) (q : Quantity) (newKeys : List Key) :
    Ext s ⟨s.heap ++ cells, s.objs ++ [q], s.cache ++ newKeys.map (fun k => (k, s.objs.length)), s.empty⟩ :=
  ⟨HeapExt.append _ _, ⟨_, rfl⟩, ⟨_, rfl⟩, fun _ h => h⟩

theorem ObjOk.ext {db : Db} {s s' : State} {i : Nat} {q : Quantity} (h : ObjOk db s i q) (he : Ext s s') :
    ObjOk db s' i q := by
  refine ⟨fun kr hkr => Nat.lt_of_lt_of_le (h.wf kr hkr) he.heap.1, fun hd => ?_, fun hd => ?_⟩
  · obtain ⟨cat, r, u, hm, hr, hv⟩ := h.simple hd
    exact ⟨cat, r, u, hm, (he.heap.2 r (h.wf (cat, r) (by simp [hm]))).trans hr, hv⟩
  · obtain ⟨cs, hr, hs, hl, rest⟩ := h.derived hd
    obtain ⟨t, ht⟩ := he.cache
    exact ⟨cs, by rw [readMap_ext h.wf he.heap, hr], hs, ht ▸ lookupKey_append_of_some hl, rest⟩

theorem Inv.simpleKey_ext {db : Db} {s s' : State} (hs : Inv db s) (he : Ext s s') {cat u : Sym} {cap : Option Sym}
    {j : Nat} (hl : lookupKey s.cache (.simple (some cat) (some u) cap) = some j) :
    ∃ q r u', s'.objs[j]? = some q ∧ q.derived = false ∧ q.map = [(cat, r)] ∧
      s'.heap[r]? = some ⟨u', 1, false⟩ ∧ resolveSimpleUnit db cat u = .ok u' ∧ q.caption = capStr cap := by
  obtain ⟨q, r, u', h1, h2, h3, h4, h5, h6⟩ := hs.simpleKey cat u cap j hl
  have hr : r < s.heap.length := (hs.objs j q h1).wf (cat, r) (by simp [h3])
  exact ⟨q, r, u', he.objs_get h1, h2, h3, (he.heap.2 r hr).trans h4, h5, h6⟩

theorem Inv.heapExt {db : Db} {s : State} (hs : Inv db s) {h' : Heap} (hh : HeapExt s.heap h') :
    Inv db { s with heap := h' } :=
  have he := Ext.heapOnly s hh
  ⟨fun i q hq => (hs.objs i q hq).ext he, hs.range, fun _ _ _ _ hl => hs.simpleKey_ext he hl, hs.empty⟩

theorem Inv.create {db : Db} {s : State} (hs : Inv db s) (cells : List Cell) (q : Quantity)
    (newKeys : List Key)
    (hq : ObjOk db ⟨s.heap ++ cells, s.objs ++ [q], s.cache ++ newKeys.map (fun k => (k, s.objs.length)), s.empty⟩
      s.objs.length q)
    (hsk : ∀ cat u cap, Key.simple (some cat) (some u) cap ∈ newKeys → q.derived = false ∧ ∃ r u',
      q.map = [(cat, r)] ∧ (s.heap ++ cells)[r]? = some ⟨u', 1, false⟩ ∧
      resolveSimpleUnit db cat u = .ok u' ∧ q.caption = capStr cap) :
    Inv db ⟨s.heap ++ cells, s.objs ++ [q], s.cache ++ newKeys.map (fun k => (k, s.objs.length)), s.empty⟩ := by
  have he := ext_create s cells q newKeys
  refine ⟨fun i q' hq' => ?_, fun k i hki => ?_, fun cat u cap j hl => ?_,
    fun i hi => Nat.lt_of_lt_of_le (hs.empty i hi) he.objs_len⟩
  · by_cases hi : i < s.objs.length
    · exact (hs.objs i q' (by simpa [List.getElem?_append_left hi] using hq')).ext he
    · have hlen : (s.objs ++ [q])[i]? = some q' := hq'
      have hi2 : i = s.objs.length := by
        have := (List.getElem?_eq_some_iff.mp hlen).1
        simp at this; omega
      subst hi2
      have : q' = q := by simpa using hlen.symm
      exact this ▸ hq
  · rcases List.mem_append.mp hki with hki | hki
    · exact Nat.lt_of_lt_of_le (hs.range k i hki) he.objs_len
    · obtain ⟨k', _, e⟩ := List.mem_map.mp hki
      cases e; simp
  · have hl' := hl
    simp only at hl'
    rw [lookupKey_append] at hl'
    cases hold : lookupKey s.cache (.simple (some cat) (some u) cap) with
    | some j0 =>
      rw [hold] at hl'; cases hl'
      exact hs.simpleKey_ext he hold
    | none =>
      rw [hold] at hl'
      obtain ⟨k', hmem, e⟩ := List.mem_map.mp (lookup_some hl')
      cases e
      obtain ⟨hd, r, u', h3, h4, h5, h6⟩ := hsk cat u cap hmem
      exact ⟨q, r, u', by simp, hd, h3, h4, h5, h6⟩


/-! ### `ObtainQuantity` keeps the invariant and only extends the state -/

theorem compKey_eq (items : List (Sym × Cell)) (cap : Option Sym) :
    compKey items cap = .comp (content items) (capStr cap) := by
  unfold compKey capTruthy capKey capStr
  cases cap with
  | none => simp
  | some c => by_cases hc : c = 0 <;> simp [hc]

theorem resolveSimpleUnit_valid {db : Db} {cat unit u : Sym} (h : resolveSimpleUnit db cat unit = .ok u) :
    db.categoryUnitValid cat u = true := by
  unfold resolveSimpleUnit at h
  split at h
  · cases h; assumption
  · split at h
    · split at h
      · cases h; assumption
      · cases h
    · cases h

theorem resolveSimpleUnit_of_valid {db : Db} {cat u : Sym} (h : db.categoryUnitValid cat u = true) :
    resolveSimpleUnit db cat u = .ok u := by
  unfold resolveSimpleUnit; simp [h]

theorem newSimple_spec (db : Db) (s : State) (cat unit : Sym) (cap : Option Sym) :
    (∃ e, newSimple db s cat unit cap = (s, .error e)) ∨
    (∃ u, resolveSimpleUnit db cat unit = .ok u ∧
      newSimple db s cat unit cap =
        (⟨s.heap ++ [⟨u, 1, false⟩], s.objs ++ [⟨[(cat, s.heap.length)], capStr cap, false⟩], s.cache, s.empty⟩,
         .ok s.objs.length)) := by
  unfold newSimple
  split
  · exact .inl ⟨_, rfl⟩
  · split
    · exact .inl ⟨_, rfl⟩
    · rename_i u hu
      split
      · exact .inl ⟨_, rfl⟩
      · exact .inr ⟨u, hu, rfl⟩

theorem content_thaw (items : List (Sym × Cell)) : content (thaw items) = content items := by
  simp [content, thaw, List.map_map, Function.comp_def]

theorem thaw_unfrozen (items : List (Sym × Cell)) : ∀ kc ∈ thaw items, kc.2.frozen = false := by
  intro kc hkc
  simp only [thaw, List.mem_map] at hkc
  obtain ⟨a, _, rfl⟩ := hkc
  rfl

theorem validateItems_thaw (db : Db) (items : List (Sym × Cell)) :
    validateItems db (thaw items) = validateItems db items := by
  induction items with
  | nil => rfl
  | cons a rest ih =>
    obtain ⟨k, c⟩ := a
    simp only [thaw, List.map_cons, validateItems] at ih ⊢
    cases db.catByName k with
    | none => rfl
    | some ci =>
      simp only
      cases db.checkQuantityTypeUnit ci.qtype c.unit with
      | error e => rfl
      | ok _ => simpa [thaw] using ih

theorem dictIsSingleOne_thaw (items : List (Sym × Cell)) :
    dictIsSingleOne (thaw items) = none ↔ dictIsSingleOne items = none := by
  cases items with
  | nil => simp [thaw, dictIsSingleOne]
  | cons a rest =>
    cases rest with
    | nil => by_cases h : a.2.exp = 1 <;> simp [thaw, dictIsSingleOne, h]
    | cons _ _ => simp [thaw, dictIsSingleOne]

theorem newDerived_spec (db : Db) (s : State) (items : List (Sym × Cell)) (od : Bool) (cap : Option Sym) :
    (∃ e, newDerived db s items od cap = (s, .error e)) ∨
    (newDerived db s items od cap =
        (⟨s.heap ++ (thaw items).map (·.2), s.objs ++ [⟨(allocMany s.heap (thaw items)).2, capStr cap, true⟩], s.cache, s.empty⟩,
         .ok s.objs.length)) := by
  unfold newDerived
  split
  · exact .inl ⟨_, rfl⟩
  · split
    · exact .inl ⟨_, rfl⟩
    · refine .inr ?_
      simp only [State.push, allocMany_heap]

/-- the conclusion shared by all creation routines -/
structure Good (db : Db) (s s' : State) (r : Except ErrKind Nat) : Prop where
  inv : Inv db s'
  ext : Ext s s'
  res : ∀ i, r = .ok i → i < s'.objs.length

theorem Good.same {db : Db} {s : State} (hs : Inv db s) (e : ErrKind) : Good db s s (.error e) :=
  ⟨hs, Ext.refl s, nofun⟩

theorem Good.live {db : Db} {s : State} (hs : Inv db s) {i : Nat} (hi : i < s.objs.length) :
    Good db s s (.ok i) :=
  ⟨hs, Ext.refl s, fun j hj => by cases hj; exact hi⟩

theorem Good.hit {db : Db} {s : State} (hs : Inv db s) {k : Key} {i : Nat} (h : lookupKey s.cache k = some i) :
    Good db s s (.ok i) :=
  Good.live hs (hs.range k i (lookup_some h))

theorem Good.trans {db : Db} {a b c : State} {r1 r2 : Except ErrKind Nat} (h1 : Good db a b r1)
    (h2 : Good db b c r2) : Good db a c r2 := ⟨h2.inv, h1.ext.trans h2.ext, h2.res⟩

theorem Good.simple {db : Db} {s : State} (hs : Inv db s) {cat unit u : Sym} (cap : Option Sym)
    (hu : resolveSimpleUnit db cat unit = .ok u) (ks : List Key)
    (hks : ∀ c v cp, Key.simple (some c) (some v) cp ∈ ks → c = cat ∧ v = unit ∧ cp = cap) :
    Good db s ⟨s.heap ++ [⟨u, 1, false⟩], s.objs ++ [⟨[(cat, s.heap.length)], capStr cap, false⟩],
      s.cache ++ ks.map (fun k => (k, s.objs.length)), s.empty⟩ (.ok s.objs.length) := by
  refine ⟨Inv.create hs [⟨u, 1, false⟩] ⟨[(cat, s.heap.length)], capStr cap, false⟩ ks
      ⟨by simp, fun _ => ⟨cat, s.heap.length, u, rfl, by simp, resolveSimpleUnit_valid hu⟩,
       fun hd => by simp at hd⟩ ?_,
    ext_create s _ _ ks, fun i hi => by cases hi; simp⟩
  intro c v cp hmem
  obtain ⟨rfl, rfl, rfl⟩ := hks c v cp hmem
  exact ⟨rfl, s.heap.length, u, rfl, by simp, hu, rfl⟩

theorem cacheNew_simple_good {db : Db} {s : State} (hs : Inv db s) (cat unit : Sym) (cap : Option Sym)
    (ku : Option Sym) (hku : ku = none ∨ ku = some unit)
    (hmiss : lookupKey s.cache (.simple (some cat) ku cap) = none) :
    Good db s (cacheNew (newSimple db s cat unit cap) (.simple (some cat) ku cap)).1
      (cacheNew (newSimple db s cat unit cap) (.simple (some cat) ku cap)).2 := by
  rcases newSimple_spec db s cat unit cap with ⟨e, he⟩ | ⟨u, hu, hok⟩
  · rw [he]; exact Good.same hs e
  · rw [hok]
    simp only [cacheNew, setKey_of_lookup_none _ hmiss]
    refine Good.simple hs cap hu [_] fun c v cp hmem => ?_
    simp only [List.mem_singleton, Key.simple.injEq] at hmem
    obtain ⟨h1, h2, rfl⟩ := hmem
    cases h1
    rcases hku with hk | hk <;> rw [hk] at h2 <;> cases h2
    exact ⟨rfl, rfl, rfl⟩

theorem cacheNew2_simple_good {db : Db} {s : State} (hs : Inv db s) (cat unit : Sym) (cap : Option Sym)
    (ku : Option Sym)
    (hmiss2 : lookupKey s.cache (.simple (some cat) (some unit) cap) = none)
    (hmiss : lookupKey s.cache (.simple none ku cap) = none) :
    Good db s
      (cacheNew2 (newSimple db s cat unit cap) (.simple (some cat) (some unit) cap) (.simple none ku cap)).1
      (cacheNew2 (newSimple db s cat unit cap) (.simple (some cat) (some unit) cap) (.simple none ku cap)).2 := by
  rcases newSimple_spec db s cat unit cap with ⟨e, he⟩ | ⟨u, hu, hok⟩
  · rw [he]; exact Good.same hs e
  · have hm : lookupKey (s.cache ++ [(Key.simple (some cat) (some unit) cap, s.objs.length)])
        (.simple none ku cap) = none := by
      rw [lookupKey_append, hmiss]; simp [lookupKey]
    rw [hok]
    simp only [cacheNew2, setKey_of_lookup_none _ hmiss2, setKey_of_lookup_none _ hm, List.append_assoc,
      List.cons_append, List.nil_append]
    refine Good.simple hs cap hu [_, _] fun c v cp hmem => ?_
    simp only [List.mem_cons, Key.simple.injEq, List.mem_nil_iff, or_false] at hmem
    rcases hmem with ⟨h1, h2, rfl⟩ | ⟨h1, _, _⟩
    · cases h1; cases h2; exact ⟨rfl, rfl, rfl⟩
    · cases h1

theorem cacheNew_derived_good {db : Db} {s : State} (hs : Inv db s) (items : List (Sym × Cell)) (od : Bool)
    (cap : Option Sym) (hshape : dictIsSingleOne items = none) (hval : validateItems db items = .ok ())
    (hmiss : lookupKey s.cache (compKey items cap) = none) :
    Good db s (cacheNew (newDerived db s items od cap) (compKey items cap)).1
      (cacheNew (newDerived db s items od cap) (compKey items cap)).2 := by
  rcases newDerived_spec db s items od cap with ⟨e, he⟩ | hok
  · rw [he]; exact Good.same hs e
  · rw [hok]
    simp only [cacheNew, setKey_of_lookup_none _ hmiss]
    refine ⟨Inv.create hs ((thaw items).map (·.2)) ⟨(allocMany s.heap (thaw items)).2, capStr cap, true⟩
      [compKey items cap] ⟨?_, fun hd => by simp at hd, fun _ => ⟨thaw items, ?_, ?_, ?_, thaw_unfrozen items, ?_⟩⟩ ?_,
      ext_create s _ _ [_], fun i hi => by cases hi; simp⟩
    · intro kr hkr
      simpa using (allocMany_refs s.heap (thaw items) kr hkr).2
    · rw [← allocMany_heap]; exact readMap_allocMany s.heap (thaw items)
    · rw [dictIsSingleOne_thaw]; exact hshape
    · show lookupKey (s.cache ++ [(compKey items cap, s.objs.length)]) _ = _
      rw [lookupKey_append, content_thaw, ← compKey_eq, hmiss]
      simp [lookupKey]
    · rw [validateItems_thaw]; exact hval
    · intro cat' u' cap' hmem
      rw [compKey_eq] at hmem
      simp at hmem

theorem obtainDefaultCat_good {db : Db} {s : State} (hs : Inv db s) (unit : Sym) (cap : Option Sym)
    (ku : Option Sym) (hmiss : lookupKey s.cache (.simple none ku cap) = none) :
    Good db s (obtainDefaultCat db s unit cap (.simple none ku cap)).1
      (obtainDefaultCat db s unit cap (.simple none ku cap)).2 := by
  unfold obtainDefaultCat
  split
  · exact Good.same hs _
  · simp only
    split
    · exact Good.same hs _
    · split
      · rename_i i hi; exact Good.hit hs hi
      · rename_i hm2
        split
        · exact Good.same hs _
        · exact cacheNew2_simple_good hs _ _ cap ku hm2 hmiss

theorem obtainKey_good {db : Db} {s : State} (hs : Inv db s) (u : Option Sym) (c : CatArg) (cap : Option Sym) :
    Good db s (obtainKey db s u c cap).1 (obtainKey db s u c cap).2 := by
  unfold obtainKey
  split
  · exact Good.same hs _
  · split <;> exact Good.same hs _
  · rename_i cat
    simp only
    split
    · rename_i i hi; exact Good.hit hs hi
    · rename_i hmiss
      split
      · split
        · exact Good.same hs _
        · exact cacheNew_simple_good hs cat _ cap none (.inl rfl) hmiss
      · rename_i unit
        exact cacheNew_simple_good hs cat unit cap (some unit) (.inr rfl) hmiss
  · simp only
    split
    · rename_i i hi; exact Good.hit hs hi
    · rename_i hmiss
      split
      · exact Good.same hs _
      · exact obtainDefaultCat_good hs _ cap _ hmiss

theorem obtainDict_good {db : Db} {s : State} (hs : Inv db s) (items : List (Sym × Cell)) (od : Bool)
    (c : CatArg) (cap : Option Sym) :
    Good db s (obtainDict db s items od c cap).1 (obtainDict db s items od c cap).2 := by
  unfold obtainDict
  split
  · split
    · exact obtainKey_good hs _ _ cap
    · rename_i hshape
      split
      · rename_i i hi; exact Good.hit hs hi
      · rename_i hmiss
        split
        · exact Good.same hs _
        · rename_i hval
          exact cacheNew_derived_good hs items od cap hshape hval hmiss
  · exact Good.same hs _

/-- **`ObtainQuantity` keeps the invariant, alters nothing that exists and returns a live object** -/
theorem obtain_good {db : Db} {s : State} (hs : Inv db s) (u : UnitArg) (c : CatArg) (cap : Option Sym) :
    Good db s (obtain db s u c cap).1 (obtain db s u c cap).2 := by
  unfold obtain
  split
  · exact Good.same hs _
  · exact obtainDict_good hs _ _ _ cap
  · exact obtainKey_good hs _ _ cap
  · exact obtainKey_good hs _ _ cap
  · exact Good.same hs _


/-! ### the other creation routines and the arithmetic routines -/

theorem createEmpty_good {db : Db} {s : State} (hs : Inv db s) :
    Good db s (createEmpty db s).1 (createEmpty db s).2 := by
  unfold createEmpty
  split
  · rename_i i hi; exact Good.live hs (hs.empty i hi)
  · rename_i hnone
    have g := obtain_good hs (.dict [] true) .none none
    split
    · rename_i s1 i heq
      rw [heq] at g
      refine ⟨⟨fun j q h => ?_, g.inv.range, g.inv.simpleKey, fun j hj => by cases hj; exact g.res i rfl⟩,
        ⟨g.ext.heap, g.ext.objs, g.ext.cache, fun j hj => by rw [hnone] at hj; cases hj⟩, g.res⟩
      have o := g.inv.objs j q h
      exact ⟨o.wf, o.simple, o.derived⟩
    · rename_i s1 e heq
      rw [heq] at g; exact g

theorem createDerived_good {db : Db} {s : State} (hs : Inv db s) (items : List (Sym × Cell))
    (cap : Option Sym) : Good db s (createDerived db s items cap).1 (createDerived db s items cap).2 := by
  unfold createDerived
  split
  · exact Good.same hs _
  · exact obtain_good hs _ _ _

theorem copyInstance_good {db : Db} {s : State} (hs : Inv db s) (caption : Sym) (m : Map) :
    Good db s (copyInstance db s caption m).1 (copyInstance db s caption m).2 := by
  unfold copyInstance
  split
  · exact Good.same hs _
  · exact obtain_good hs _ _ _

theorem copyMap_spec {h h' : Heap} {m m' : Map} (hc : copyMap h m = some (h', m')) :
    HeapExt h h' ∧ ∀ kr ∈ m', h.length ≤ kr.2 := by
  unfold copyMap at hc
  split at hc
  · cases hc
  · rename_i cs _
    simp only [Option.some.injEq] at hc
    obtain ⟨rfl, rfl⟩ : (allocMany h cs).1 = h' ∧ (allocMany h cs).2 = m' := by rw [hc]; exact ⟨rfl, rfl⟩
    rw [allocMany_heap]
    exact ⟨HeapExt.append _ _, fun kr hkr => (allocMany_refs h cs kr hkr).1⟩

/-- the working copies of both routines: two copies, then the unit matching; every write lands in
a copy -/
theorem copies_match_frame {db : Db} {h h1 h2 h3 : Heap} {ma mb m1 m2 : Map}
    (hc1 : copyMap h ma = some (h1, m1)) (hc2 : copyMap h1 mb = some (h2, m2))
    (hm : matchQuantities db h2 m1 m2 = .ok h3) :
    HeapExt h h3 ∧ (∀ kr ∈ m1, h.length ≤ kr.2) := by
  obtain ⟨e1, r1⟩ := copyMap_spec hc1
  obtain ⟨e2, r2⟩ := copyMap_spec hc2
  have r2' : ∀ kr ∈ m2, h.length ≤ kr.2 := fun kr hkr => Nat.le_trans e1.1 (r2 kr hkr)
  exact ⟨(e1.trans e2).edit ((matchQuantities_spec r1 r2').1 h3 hm), r1⟩

theorem pickSame_res {s : State} {j1 j2 i : Nat} (h : pickSame s j1 j2 = .ok i) : i = j1 ∨ i = j2 := by
  unfold pickSame at h
  split at h
  · split at h
    · cases h; exact .inl rfl
    · split at h
      · cases h; exact .inr rfl
      · split at h
        · cases h; exact .inl rfl
        · cases h
  · cases h

theorem opSame_good {db : Db} {s : State} (hs : Inv db s) (i1 i2 : Nat) :
    Good db s (opSame db s i1 i2).1 (opSame db s i1 i2).2 := by
  unfold opSame
  split
  · rename_i q1 q2 hq1 hq2
    split
    · exact Good.live hs (List.getElem?_eq_some_iff.mp hq1).1
    · split
      · exact Good.same hs _
      · rename_i h1 m1 hc1
        split
        · exact Good.same hs _
        · rename_i h2 m2 hc2
          split
          · exact Good.same hs _
          · rename_i h3 hm
            obtain ⟨hext, _⟩ := copies_match_frame hc1 hc2 hm
            have g3 : Good db s { s with heap := h3 } (.error .other) :=
              ⟨hs.heapExt hext, Ext.heapOnly s hext, nofun⟩
            have g4 := g3.trans (copyInstance_good g3.inv q1.caption m1)
            split
            · rename_i s4 e heq
              rw [heq] at g4; exact g4
            · rename_i s4 j1 heq
              rw [heq] at g4
              have g5 := copyInstance_good g4.inv q2.caption m2
              split
              · rename_i s5 e heq5
                rw [heq5] at g5; exact g4.trans g5
              · rename_i s5 j2 heq5
                rw [heq5] at g5
                refine ⟨g5.inv, g4.ext.trans g5.ext, fun i hi => ?_⟩
                rcases pickSame_res hi with rfl | rfl
                · exact Nat.lt_of_lt_of_le (g4.res _ rfl) g5.ext.objs_len
                · exact g5.res _ rfl
  · exact Good.same hs _

theorem opNew_good {db : Db} {s : State} (hs : Inv db s) (div : Bool) (i1 i2 : Nat) :
    Good db s (opNew db s div i1 i2).1 (opNew db s div i1 i2).2 := by
  unfold opNew
  split
  · split
    · exact Good.same hs _
    · rename_i h1 m1 hc1
      split
      · exact Good.same hs _
      · rename_i h2 m2 hc2
        split
        · exact Good.same hs _
        · rename_i h3 hm
          obtain ⟨hext, hr1⟩ := copies_match_frame hc1 hc2 hm
          split
          · exact Good.same hs _
          · rename_i h4 m1' hmerge
            obtain ⟨l4, f4⟩ := (mergePass_spec (n := s.heap.length) m2 h3 m1 hext.1 hr1).1 h4 m1' hmerge
            have hext4 : HeapExt s.heap h4 :=
              ⟨Nat.le_trans hext.1 l4, fun r hr => by rw [f4 r hr, hext.2 r hr]⟩
            split
            · exact Good.same hs _
            · rename_i cs _
              have g := createDerived_good (hs.heapExt hext4) (dropZeros cs) none
              exact ⟨g.inv, (Ext.heapOnly s hext4).trans g.ext, g.res⟩
  · exact Good.same hs _


/-! ### sessions -/

/-- `Good` for a session step: its answer is an `Out`, of which only `.ok i` names an object (`skip`: the
harness does not run the step) -/
structure GoodStep (db : Db) (s s' : State) (o : Out) : Prop where
  inv : Inv db s'
  ext : Ext s s'
  res : ∀ i, o = .ok i → i < s'.objs.length

theorem Good.toOut {db : Db} {s s' : State} {r : Except ErrKind Nat} (g : Good db s s' r) :
    GoodStep db s s' (toOut r) :=
  ⟨g.inv, g.ext, fun i hi => by cases r <;> simp [Intern.toOut] at hi; exact g.res _ (by rw [hi])⟩

/-- the invariant of a session: a reachable state and results that name live objects -/
structure SInv (db : Db) (ss : Session) : Prop where
  inv : Inv db ss.st
  results : ∀ r i, resolve ss.results r = some i → i < ss.st.objs.length

theorem sinv_init (db : Db) : SInv db {} :=
  ⟨⟨fun i q h => by simp at h, fun k i h => by simp at h, fun _ _ _ _ h => by simp [lookupKey] at h,
    fun i h => by simp at h⟩, fun r i h => by simp [resolve] at h⟩

theorem operand_res {g : Guard} {ss : Session} {a : Operand} {i : Nat} (h : operand g ss a = some (some i)) :
    ∃ r, resolve ss.results r = some i := by
  unfold operand at h
  split at h
  · cases h
  · rename_i r
    split at h
    · cases h
    · rename_i j hj
      split at h
      · cases h; exact ⟨r, hj⟩
      · cases h

theorem operandObj_good {db : Db} {s : State} (hs : Inv db s) {o : Option Nat}
    (ho : ∀ i, o = some i → i < s.objs.length) : Good db s (operandObj db s o).1 (operandObj db s o).2 := by
  unfold operandObj
  split
  · exact Good.live hs (ho _ rfl)
  · exact createEmpty_good hs

theorem binary_good {db : Db} {g : Guard} {ss : Session} (hss : SInv db ss) (a b : Operand)
    (f : State → Nat → Nat → State × Except ErrKind Nat)
    (hf : ∀ s, Inv db s → ∀ i j, Good db s (f s i j).1 (f s i j).2) :
    GoodStep db ss.st (binary db g ss a b f).1 (binary db g ss a b f).2 := by
  have live : ∀ {x : Operand} {o : Option Nat}, operand g ss x = some o → ∀ i, o = some i → i < ss.st.objs.length :=
    fun hx i hi => by subst hi; obtain ⟨r, hr⟩ := operand_res hx; exact hss.results r i hr
  unfold binary
  split
  · rename_i oa ob ha hb
    have g1 := operandObj_good hss.inv (live ha)
    split
    · rename_i s1 e heq
      rw [heq] at g1; exact g1.toOut
    · rename_i s1 i1 heq
      rw [heq] at g1
      have g2 := g1.trans (operandObj_good g1.inv fun i hi => Nat.lt_of_lt_of_le (live hb i hi) g1.ext.objs_len)
      split
      · rename_i s2 e heq2
        rw [heq2] at g2; exact g2.toOut
      · rename_i s2 i2 heq2
        rw [heq2] at g2
        exact (g2.trans (hf s2 g2.inv i1 i2)).toOut
  · exact ⟨hss.inv, Ext.refl _, nofun⟩

/-- **every public operation keeps the invariant and alters nothing that exists** -/
theorem stepState_good {db : Db} {g : Guard} {ss : Session} (hss : SInv db ss) (op : Op) :
    GoodStep db ss.st (stepState db g ss op).1 (stepState db g ss op).2 := by
  have skip : GoodStep db ss.st ss.st .skip := ⟨hss.inv, Ext.refl _, nofun⟩
  have err : ∀ e, GoodStep db ss.st ss.st (.err e) := fun e => ⟨hss.inv, Ext.refl _, nofun⟩
  have held : ∀ {q i}, resolve ss.results q = some i → GoodStep db ss.st ss.st (.ok i) :=
    fun hi => ⟨hss.inv, Ext.refl _, fun j hj => by cases hj; exact hss.results _ _ hi⟩
  cases op with
  | obtain u c cap => exact (obtain_good hss.inv u c cap).toOut
  | empty => exact (createEmpty_good hss.inv).toOut
  | derived items cap => exact (createDerived_good hss.inv items cap).toOut
  | mkcopy q items =>
    simp only [stepState]
    split
    · exact skip
    · split
      · exact err _
      · exact (obtain_good hss.inv _ _ _).toOut
  | pickle q =>
    simp only [stepState]
    split
    · exact skip
    · split
      · exact err _
      · split
        · exact err _
        · exact (obtain_good hss.inv _ _ _).toOut
  | setcap q cap =>
    simp only [stepState]
    split
    · exact skip
    · rename_i i hi
      split
      · exact err _
      · exact held hi
  | withunit q u =>
    simp only [stepState]
    split
    · exact skip
    · split
      · exact err _
      · split
        · exact skip
        · split
          · split
            · exact (obtain_good hss.inv (.str u) (.str _) none).toOut
            · exact err _
          · exact (obtain_good hss.inv (.str u) .none none).toOut
  | same a b => exact binary_good hss a b _ (fun s hs i j => opSame_good hs i j)
  | new div a b => exact binary_good hss a b _ (fun s hs i j => opNew_good hs div i j)
  | ident q | reinit q a cap =>
    simp only [stepState]
    split
    · exact skip
    · rename_i i hi; exact held hi

theorem resolve_append {results : List (Option Nat)} {x : Option Nat} {r i : Nat}
    (h : resolve (results ++ [x]) r = some i) : resolve results r = some i ∨ x = some i := by
  unfold resolve at h ⊢
  by_cases hr : r < results.length
  · rw [List.getElem?_append_left hr] at h; exact .inl h
  · rw [List.getElem?_append_right (by omega)] at h
    split at h
    · rename_i j hj
      cases h
      exact .inr (List.mem_singleton.mp (List.mem_of_getElem? hj)).symm
    · cases h

theorem step_sinv {db : Db} {g : Guard} {ss : Session} (hss : SInv db ss) (op : Op) :
    SInv db (step db g ss op).1 ∧ Ext ss.st (step db g ss op).1.st := by
  have gd := stepState_good (g := g) hss op
  refine ⟨⟨gd.inv, fun r i hr => ?_⟩, gd.ext⟩
  rcases resolve_append hr with h | h
  · exact Nat.lt_of_lt_of_le (hss.results r i h) gd.ext.objs_len
  · apply gd.res
    cases ho : (stepState db g ss op).2 <;> simp [ho, outResult] at h
    rw [h]

/-- **over every history**: the invariant holds and the final state extends every earlier one -/
theorem run_sinv {db : Db} {g : Guard} (ops : List Op) {ss : Session} (hss : SInv db ss) :
    SInv db (run db g ss ops) ∧ Ext ss.st (run db g ss ops).st := by
  induction ops generalizing ss with
  | nil => exact ⟨hss, Ext.refl _⟩
  | cons op rest ih =>
    obtain ⟨h1, e1⟩ := step_sinv (g := g) hss op
    obtain ⟨h2, e2⟩ := ih h1
    exact ⟨h2, e1.trans e2⟩


/-! ### idempotence of `ObtainQuantity` -/

theorem cacheNew_lookup {r : State × Except ErrKind Nat} {k : Key} {s1 : State} {i : Nat}
    (h : cacheNew r k = (s1, .ok i)) : lookupKey s1.cache k = some i := by
  obtain ⟨s, e⟩ := r
  cases e with
  | error e => simp [cacheNew] at h
  | ok j =>
    simp only [cacheNew, Prod.mk.injEq, Except.ok.injEq] at h
    obtain ⟨rfl, rfl⟩ := h
    exact lookupKey_setKey_self _ _ _

theorem cacheNew2_eq (r : State × Except ErrKind Nat) (k2 k : Key) :
    cacheNew2 r k2 k = cacheNew (cacheNew r k2) k := by
  obtain ⟨s, _ | _⟩ := r <;> rfl

theorem obtainKey_hit {db : Db} {s : State} {u : Option Sym} {co : Option Sym} {cap : Option Sym} {i : Nat}
    (h : lookupKey s.cache (.simple co u cap) = some i) :
    obtainKey db s u (match co with | some c => .str c | none => .none) cap = (s, .ok i) := by
  cases co <;> simp [obtainKey, h]

theorem obtainKey_idem {db : Db} {s s1 : State} {u : Option Sym} {c : CatArg} {cap : Option Sym} {i : Nat}
    (h : obtainKey db s u c cap = (s1, .ok i)) : obtainKey db s1 u c cap = (s1, .ok i) := by
  -- a hit leaves the state alone (`h0` again); a creation stores the object under the first key looked up
  have h0 := h
  unfold obtainKey at h
  split at h
  · cases h
  · split at h <;> cases h
  · -- category given: key `(cat, u, cap)`
    rename_i cat
    simp only at h
    split at h
    · cases h; exact h0
    · split at h
      · split at h
        · cases h
        · exact obtainKey_hit (co := some cat) (cacheNew_lookup h)
      · exact obtainKey_hit (co := some cat) (cacheNew_lookup h)
  · -- no category: key `(None, u, cap)`, then the key with the default category
    simp only at h
    split at h
    · cases h; exact h0
    · split at h
      · cases h
      · unfold obtainDefaultCat at h
        split at h
        · cases h
        · simp only at h
          split at h
          · cases h
          · split at h
            · cases h; exact h0
            · split at h
              · cases h
              · exact obtainKey_hit (co := none) (cacheNew_lookup (cacheNew2_eq .. ▸ h))

theorem obtainDict_idem {db : Db} {s s1 : State} {items : List (Sym × Cell)} {od : Bool} {c : CatArg}
    {cap : Option Sym} {i : Nat} (h : obtainDict db s items od c cap = (s1, .ok i)) :
    obtainDict db s1 items od c cap = (s1, .ok i) := by
  have h0 := h
  unfold obtainDict at h
  split at h
  · split at h
    · rename_i kc hkc
      simp only [obtainDict, hkc]
      exact obtainKey_idem h
    · rename_i hshape
      split at h
      · cases h; exact h0
      · split at h
        · cases h
        · simp only [obtainDict, hshape, cacheNew_lookup h]
  · cases h

/-! ### equality and hash -/

theorem qeq_true {h : Heap} {a b : Quantity} (he : qeq h a b = true) :
    ∃ cs, readMap h a.map = some cs ∧ readMap h b.map = some cs ∧ a.caption = b.caption := by
  unfold qeq at he
  split at he
  · rename_i x y hx hy
    simp only [Bool.and_eq_true, beq_iff_eq] at he
    exact ⟨x, hx, he.1 ▸ hy, he.2⟩
  · cases he

/-- equal quantities have the same composing map and caption -/
theorem qeq_contentEq {h : Heap} {a b : Quantity} (he : qeq h a b = true) : contentEq h a b = true := by
  obtain ⟨cs, ha, hb, hc⟩ := qeq_true he
  simp [contentEq, ha, hb, hc]

theorem view_ext {s s' : State} (he : Ext s s') {q : Quantity} (hwf : ∀ kr ∈ q.map, kr.2 < s.heap.length) :
    view s'.heap q = view s.heap q := by
  simp only [view, readMap_ext hwf he.heap]

theorem qeq_ext {s s' : State} (he : Ext s s') {a b : Quantity} (ha : ∀ kr ∈ a.map, kr.2 < s.heap.length)
    (hb : ∀ kr ∈ b.map, kr.2 < s.heap.length) : qeq s'.heap a b = qeq s.heap a b := by
  simp only [qeq, readMap_ext ha he.heap, readMap_ext hb he.heap]

theorem hashKey_ext {s s' : State} (he : Ext s s') {a : Quantity} (ha : ∀ kr ∈ a.map, kr.2 < s.heap.length) :
    hashKey s'.heap a = hashKey s.heap a := by
  simp only [hashKey, readMap_ext ha he.heap]


/-! ### what a live quantity holds: lists only, and units of its categories' quantity types -/

theorem simple_read {db : Db} {s : State} {i : Nat} {q : Quantity} (ho : ObjOk db s i q) (hd : q.derived = false) :
    ∃ cat r u, q.map = [(cat, r)] ∧ s.heap[r]? = some ⟨u, 1, false⟩ ∧ db.categoryUnitValid cat u = true ∧
      readMap s.heap q.map = some [(cat, ⟨u, 1, false⟩)] := by
  obtain ⟨cat, r, u, hm, hr, hv⟩ := ho.simple hd
  exact ⟨cat, r, u, hm, hr, hv, by simp [hm, readMap, hr]⟩

theorem validateItems_valid {db : Db} : ∀ {cs : List (Sym × Cell)}, validateItems db cs = .ok () →
    ∀ kc ∈ cs, db.categoryUnitValid kc.1 kc.2.unit = true
  | [], _, kc, hkc => by simp at hkc
  | (k, c) :: rest, h, kc, hkc => by
    simp only [validateItems] at h
    cases hc : db.catByName k with
    | none => simp [hc] at h
    | some ci =>
      simp only [hc] at h
      cases hu : db.checkQuantityTypeUnit ci.qtype c.unit with
      | error e => simp [hu] at h
      | ok _ =>
        simp only [hu] at h
        simp only [List.mem_cons] at hkc
        rcases hkc with rfl | hkc
        · simp [Db.categoryUnitValid, hc, hu]
        · exact validateItems_valid h kc hkc

theorem live_read {db : Db} {s : State} (hs : Inv db s) {i : Nat} {q : Quantity} (hq : s.objs[i]? = some q) :
    ∃ cs, readMap s.heap q.map = some cs ∧
      ∀ kc ∈ cs, kc.2.frozen = false ∧ db.categoryUnitValid kc.1 kc.2.unit = true := by
  have o := hs.objs i q hq
  cases hd : q.derived
  · obtain ⟨cat, r, u, _, _, hv, hr⟩ := simple_read o hd
    exact ⟨_, hr, fun kc hkc => by cases List.mem_singleton.mp hkc; exact ⟨rfl, hv⟩⟩
  · obtain ⟨cs, hr, _, _, hu, hv⟩ := o.derived hd
    exact ⟨cs, hr, fun kc hkc => ⟨hu kc hkc, validateItems_valid hv kc hkc⟩⟩

theorem live_cells {db : Db} {s : State} (hs : Inv db s) {i : Nat} {q : Quantity} (hq : s.objs[i]? = some q) :
    ∃ cs, readMap s.heap q.map = some cs ∧ ∀ kc ∈ cs, kc.2.frozen = false :=
  let ⟨cs, hr, h⟩ := live_read hs hq
  ⟨cs, hr, fun kc hkc => (h kc hkc).1⟩

theorem thaw_eq_of_content (x : List (Sym × Cell)) :
    thaw x = (content x).map (fun t => (t.1, ⟨t.2.1, t.2.2, false⟩)) := by
  simp [thaw, content, List.map_map, Function.comp_def]

theorem thaw_of_unfrozen {x : List (Sym × Cell)} (h : ∀ kc ∈ x, kc.2.frozen = false) : thaw x = x := by
  have : ∀ kc ∈ x, (fun kc : Sym × Cell => (kc.1, (⟨kc.2.unit, kc.2.exp, false⟩ : Cell))) kc = id kc :=
    fun kc hkc => by
      obtain ⟨k, u, e, f⟩ := kc
      cases (h _ hkc : f = false); rfl
  rw [thaw, List.map_congr_left this, List.map_id]

theorem unfrozen_eq_of_content {x y : List (Sym × Cell)} (hx : ∀ kc ∈ x, kc.2.frozen = false)
    (hy : ∀ kc ∈ y, kc.2.frozen = false) (h : content x = content y) : x = y := by
  rw [← thaw_of_unfrozen hx, ← thaw_of_unfrozen hy, thaw_eq_of_content, thaw_eq_of_content, h]

theorem live_qeq_iff {db : Db} {s : State} (hs : Inv db s) {i j : Nat} {a b : Quantity}
    (ha : s.objs[i]? = some a) (hb : s.objs[j]? = some b) :
    qeq s.heap a b = contentEq s.heap a b := by
  obtain ⟨x, hx, ux⟩ := live_cells hs ha
  obtain ⟨y, hy, uy⟩ := live_cells hs hb
  simp only [qeq, contentEq, hx, hy]
  congr 1
  rw [Bool.eq_iff_iff]
  simp only [beq_iff_eq]
  exact ⟨fun e => e ▸ rfl, unfrozen_eq_of_content ux uy⟩

/-- **derived quantities are interned**: a live derived quantity and a live quantity with the same composing
map and caption are one object (both derived: one composing key, one cache entry; the other simple: its one
`[unit, 1]` cell is not a derived quantity's shape) -/
theorem derived_interned {db : Db} {s : State} (hs : Inv db s) {i j : Nat} {a b : Quantity}
    (ha : s.objs[i]? = some a) (hb : s.objs[j]? = some b) (hda : a.derived = true)
    (h : contentEq s.heap a b = true) : i = j := by
  rw [← live_qeq_iff hs ha hb] at h
  obtain ⟨cs, hx, hy, hcap⟩ := qeq_true h
  obtain ⟨cs1, hr1, hshape, hl1, _⟩ := (hs.objs i a ha).derived hda
  rw [hx] at hr1; cases hr1
  cases hdb : b.derived
  · obtain ⟨c, r, u, _, _, _, hr⟩ := simple_read (hs.objs j b hb) hdb
    rw [hy] at hr; cases hr
    simp [dictIsSingleOne] at hshape
  · obtain ⟨cs2, hr2, _, hl2, _⟩ := (hs.objs j b hb).derived hdb
    rw [hy] at hr2; cases hr2
    rw [hcap, hl2] at hl1
    exact (Option.some.inj hl1).symm

/-! ### pickle round trip -/

theorem getInfo_flags {db : Db} {qt u : Sym} {r : UnitRow} (h : db.getInfo qt u false false = .ok r)
    (a b : Bool) : db.getInfo qt u a b = .ok r := by
  unfold Db.getInfo at h ⊢
  split at h
  · exact h
  · split at h
    · cases h
    · rename_i hty
      rw [if_neg hty]
      split at h
      · exact h
      · exfalso
        simp [Db.infoUnknown, Db.infoLegacy] at h

theorem newSimple_of_valid {db : Db} (s : State) {cat u : Sym} (cap : Option Sym)
    (hv : db.categoryUnitValid cat u = true) :
    newSimple db s cat u cap =
      (⟨s.heap ++ [⟨u, 1, false⟩], s.objs ++ [⟨[(cat, s.heap.length)], capStr cap, false⟩], s.cache, s.empty⟩,
       .ok s.objs.length) := by
  have hr := resolveSimpleUnit_of_valid hv
  cases hci : db.catByName cat with
  | none => simp [Db.categoryUnitValid, hci] at hv
  | some ci =>
    cases hg : db.getInfo ci.qtype u false false with
    | error e => simp [Db.categoryUnitValid, hci, Db.checkQuantityTypeUnit, hg] at hv
    | ok r => simp only [newSimple, hci, hr, getInfo_flags hg true true, State.push]

/-- **a pickle round trip returns an equal quantity** (the identical object for a derived one; for
a simple one possibly another object, equal to it) and never fails -/
theorem pickle_roundtrip {db : Db} {s : State} (hs : Inv db s) {i : Nat} {q : Quantity}
    (hq : s.objs[i]? = some q) :
    ∃ st s' j q', reduce s q = some st ∧ obtainReduced db s st = (s', .ok j) ∧ s'.objs[j]? = some q' ∧
      qeq s'.heap q' q = true ∧ (q.derived = true → j = i ∧ s' = s) := by
  have oq := hs.objs i q hq
  obtain ⟨capR, hcapR, hcs⟩ : ∃ capR, (if (q.caption != 0) = true then some q.caption else none) = capR ∧
      capStr capR = q.caption :=
    ⟨_, rfl, by by_cases h : q.caption = 0 <;> simp [capStr, h]⟩
  cases hd : q.derived
  · obtain ⟨cat, r, u, hmap, hcell, hv, hread⟩ := simple_read oq hd
    have hred : reduce s q = some ([(cat, ⟨u, 1, false⟩)], capR) := by
      simp only [reduce, cellsOf, hread, Option.map_some, hcapR]
    refine ⟨([(cat, ⟨u, 1, false⟩)], capR), ?_⟩
    simp only [hred, true_and, obtainReduced, obtain, normSeq, obtainDict, dictIsSingleOne, beq_self_eq_true,
      ↓reduceIte, obtainKey]
    cases hl : lookupKey s.cache (.simple (some cat) (some u) capR) with
    | some j =>
      obtain ⟨q', r', u', h1, h2, h3, h4, h5, h6⟩ := hs.simpleKey _ _ _ _ hl
      rw [resolveSimpleUnit_of_valid hv] at h5
      cases h5
      refine ⟨s, j, q', rfl, h1, ?_, fun h => by cases h⟩
      rw [hcs] at h6
      simp [qeq, h3, readMap, h4, hread, h6]
    | none =>
      simp only [newSimple_of_valid s _ hv, cacheNew]
      refine ⟨_, _, ⟨[(cat, s.heap.length)], capStr capR, false⟩, rfl, by simp, ?_, fun h => by cases h⟩
      have : (s.heap ++ [(⟨u, 1, false⟩ : Cell)])[r]? = s.heap[r]? :=
        List.getElem?_append_left (List.getElem?_eq_some_iff.mp hcell).1
      simp [qeq, readMap, hmap, this, hcell, hcs]
  · obtain ⟨cs, hread, hshape, hl⟩ := oq.derived hd
    refine ⟨(cs, capR), s, i, q, ?_, ?_, hq, by simp [qeq, hread], fun _ => ⟨rfl, rfl⟩⟩
    · simp only [reduce, cellsOf, hread, Option.map_some, hcapR]
    · simp only [obtainReduced, obtain, normSeq, obtainDict, hshape, compKey_eq, hcs, hl.1]


/-! ### no tuple `TypeError` in the arithmetic of live quantities -/

theorem copies_no_type {db : Db} {s : State} (hs : Inv db s) {i1 i2 : Nat} {q1 q2 : Quantity}
    (hq1 : s.objs[i1]? = some q1) (hq2 : s.objs[i2]? = some q2) {h1 h2 : Heap} {m1 m2 : Map}
    (hc1 : copyMap s.heap q1.map = some (h1, m1)) (hc2 : copyMap h1 q2.map = some (h2, m2)) :
    matchQuantities db h2 m1 m2 ≠ .error .type ∧
    ∀ h3, matchQuantities db h2 m1 m2 = .ok h3 → ∀ div, mergePass div h3 m1 m2 ≠ .error .type := by
  obtain ⟨cs1, hr1, u1⟩ := live_cells hs hq1
  obtain ⟨cs2, hr2, u2⟩ := live_cells hs hq2
  have e1 := (copyMap_spec hc1).1
  have e2 := (copyMap_spec hc2).1
  have hr2' : readMap h1 q2.map = some cs2 := by rw [readMap_ext (hs.objs i2 q2 hq2).wf e1, hr2]
  simp only [copyMap, hr1, Option.some.injEq] at hc1
  simp only [copyMap, hr2', Option.some.injEq] at hc2
  -- both copies read back as the cells they were made of
  have a1 := readMap_allocMany s.heap cs1
  have a2 := readMap_allocMany h1 cs2
  rw [hc1] at a1; rw [hc2] at a2
  have U1 : Unfrozen h2 m1 := unfrozen_of_read (by rw [readMap_ext (readMap_some_wf a1) e2]; exact a1) u1
  have U2 : Unfrozen h2 m2 := unfrozen_of_read a2 u2
  have any : ∀ m : Map, ∀ kr ∈ m, 0 ≤ kr.2 := fun _ _ _ => Nat.zero_le _
  obtain ⟨ed, nt⟩ := matchQuantities_spec (db := db) (h := h2) (any m1) (any m2)
  exact ⟨nt U1 U2, fun h3 hh div =>
    (mergePass_spec m2 h3 m1 (Nat.zero_le _) (any m1)).2 (U1.edit (ed h3 hh))⟩

end Barril.Intern
