/-
What C11's statements are written in (engine `Fixed`) and the lemmas behind them: the size invariants `Inv` and
`CInv`, the acceptance condition `accepts` of the internal constructor, `Elementwise` conversion, Python indexing and
slices, and `Faithful`, the hypothesis of the Curve read theorems.
-/
import Barril.Model.Fixed

namespace Barril.Fixed

/-- the size invariant of a FixedArray state: `len(values) == dimension >= 2` -/
def Inv (fa : FixedArr) : Prop := (fa.vals.xs.length : Int) = fa.dim ∧ 2 ≤ fa.dim

instance (fa : FixedArr) : Decidable (Inv fa) := by unfold Inv; infer_instance

/-- the size invariant of a Curve: image and domain have the same number of points (`len`) -/
def CInv (c : Curve) : Prop := c.image.len = c.domain.len

instance (c : Curve) : Decidable (CInv c) := by unfold CInv; infer_instance

theorem checkValues_ok {values : ValArg} {d : Int} {v : Vals} (h : checkValues values d = .ok v) :
    values = .sized v ∧ (v.xs.length : Int) = d := by
  unfold checkValues at h
  split at h
  · cases h
  · split at h
    · cases h
    · rename_i hlen
      cases h
      exact ⟨rfl, by simpa using hlen⟩

theorem internalCreate_ok {cls : ClsAttr} {inst : Option Int} {q : Qty} {values value : Option ValArg}
    {dimension : Option Int} {fa : FixedArr}
    (h : internalCreate cls inst q values dimension value = .ok fa) :
    ∃ vs, mergeValue values value = .ok vs ∧ resolveDim cls inst dimension vs = .ok fa.dim ∧
      vs = .sized fa.vals ∧ fa.q = q ∧ Inv fa := by
  unfold internalCreate at h
  split at h
  · cases h
  · rename_i vs hvs
    split at h
    · cases h
    · rename_i d hd
      split at h
      · cases h
      · rename_i hd2
        split at h
        · cases h
        · rename_i v hv
          cases h
          obtain ⟨h1, h2⟩ := checkValues_ok hv
          refine ⟨vs, hvs, hd, h1, rfl, ?_, ?_⟩
          · exact h2
          · show 2 ≤ d
            omega

theorem internalCreate_inv {cls : ClsAttr} {inst : Option Int} {q : Qty} {values value : Option ValArg}
    {dimension : Option Int} {fa : FixedArr}
    (h : internalCreate cls inst q values dimension value = .ok fa) : Inv fa := by
  obtain ⟨_, _, _, _, _, hi⟩ := internalCreate_ok h
  exact hi

theorem createWithQuantity_ok {cls : ClsAttr} {q : Qty} {values value : Option ValArg}
    {dimension : Option Int} {o : Obj} (h : createWithQuantity cls q values dimension value = .ok o) :
    o.cls = cls ∧ internalCreate cls none q values dimension value = .ok o.st := by
  unfold createWithQuantity at h
  split at h
  · cases h
  · rename_i st hst
    cases h
    exact ⟨rfl, hst⟩

theorem createWithQuantity_inv {cls : ClsAttr} {q : Qty} {values value : Option ValArg}
    {dimension : Option Int} {o : Obj} (h : createWithQuantity cls q values dimension value = .ok o) :
    Inv o.st :=
  internalCreate_inv (createWithQuantity_ok h).2

theorem init_ok {db : Db} {cls : ClsAttr} {dim : Int} {args : InitArgs} {o : Obj}
    (h : init db cls dim args = .ok o) :
    2 ≤ dim ∧ o.cls = cls ∧ ∃ q v, initQuantity db dim args = .ok (q, v) ∧
      internalCreate cls (some dim) q (some v) none none = .ok o.st := by
  unfold init at h
  split at h
  · cases h
  · rename_i hd
    split at h
    · cases h
    · rename_i q v hq
      split at h
      · cases h
      · rename_i st hst
        cases h
        exact ⟨by omega, rfl, q, v, hq, hst⟩

theorem init_inv {db : Db} {cls : ClsAttr} {dim : Int} {args : InitArgs} {o : Obj}
    (h : init db cls dim args = .ok o) : Inv o.st := by
  obtain ⟨_, _, _, _, _, hc⟩ := init_ok h
  exact internalCreate_inv hc

theorem init_dim {db : Db} {cls : ClsAttr} {dim : Int} {args : InitArgs} {o : Obj}
    (h : init db cls dim args = .ok o) : o.st.dim = dim := by
  obtain ⟨_, _, q, v, _, hc⟩ := init_ok h
  obtain ⟨vs, hm, hr, _, _, _⟩ := internalCreate_ok hc
  simp only [mergeValue] at hm
  cases hm
  simp only [resolveDim, lookupDim] at hr
  cases hr
  rfl

theorem init_qty_ok {db : Db} {cls : ClsAttr} {dim : Int} {q : Qty} {v : Vals} {o : Obj}
    (h : init db cls dim (.catFirst (.qty q) (some (.sized v)) none) = .ok o) :
    o = ⟨cls, ⟨dim, v, q⟩⟩ ∧ (v.xs.length : Int) = dim ∧ 2 ≤ dim := by
  obtain ⟨hd, hcls, q', v', hq, hc⟩ := init_ok h
  simp only [initQuantity, Option.getD] at hq
  cases hq
  obtain ⟨vs, hm, hr, hv, hqq, hi⟩ := internalCreate_ok hc
  simp only [mergeValue] at hm
  cases hm
  simp only [resolveDim, lookupDim] at hr
  cases hr
  cases hv
  refine ⟨?_, ?_, hd⟩
  · cases o with
    | mk c st =>
      cases st with
      | mk d vv qq =>
        simp only at hcls hqq
        subst hcls hqq
        rfl
  · exact hi.1

theorem runRoute_inv {db : Db} {r : Route} {o : Obj} (h : runRoute db r = .ok o) : Inv o.st := by
  cases r with
  | init cls dim args => exact init_inv h
  | cwq cls q values dimension value => exact createWithQuantity_inv h
  | cea cls dimension values => exact createWithQuantity_inv h
  | «internal» cls inst q values dimension value =>
    simp only [runRoute] at h
    split at h
    · cases h
    · rename_i st hst
      cases h
      exact internalCreate_inv hst


def agrees (x : Option Int) (n : Nat) : Bool :=
  match x with
  | none => true
  | some d => d == (n : Int)

def Attr.pinned : Attr → Option Int
  | .val n => Option.some n
  | _ => Option.none

/-- the constructor accepts a container of length `n` exactly when `n ≥ 2` and every dimension that
is stated (the keyword, a non-`None` attribute) equals `n` -/
def accepts (a : Attr) (dimension : Option Int) (n : Nat) : Bool :=
  decide (2 ≤ n) && agrees dimension n && agrees a.pinned n

theorem internalCreate_sized {cls : ClsAttr} {inst : Option Int} {q : Qty} {values value : Option ValArg}
    {dimension : Option Int} {v : Vals}
    (hm : mergeValue values value = .ok (.sized v))
    (hattr : lookupDim cls inst = .absent → dimension ≠ none) :
    internalCreate cls inst q values dimension value =
      if accepts (lookupDim cls inst) dimension v.xs.length then .ok ⟨v.xs.length, v, q⟩ else .error .value := by
  -- once a dimension `d` is settled on, the container is stored exactly when `d` is its length and at least 2
  have tail : ∀ d : Int,
      (if d < 2 then Except.error ErrKind.value else
        match checkValues (.sized v) d with
        | .error e => .error e
        | .ok w => (.ok ⟨d, w, q⟩ : Except ErrKind FixedArr)) =
      if 2 ≤ v.xs.length ∧ d = v.xs.length then .ok ⟨v.xs.length, v, q⟩ else .error .value := by
    intro d
    unfold checkValues
    by_cases h2 : (v.xs.length : Int) = d
    · subst h2
      by_cases h1 : 2 ≤ v.xs.length
      · have : ¬ (v.xs.length : Int) < 2 := by omega
        simp [h1, this]
      · have : (v.xs.length : Int) < 2 := by omega
        simp [h1, this]
    · have : ¬ d = (v.xs.length : Int) := fun h => h2 h.symm
      by_cases h1 : d < 2 <;> simp [h1, h2, this]
  unfold internalCreate
  rw [hm]
  simp only
  cases hl : lookupDim cls inst <;> cases dimension <;> simp only [resolveDim, hl, pyLen]
  · exact absurd rfl (hattr hl)
  · -- no attribute: the keyword is the dimension
    exact (tail _).trans (by simp [accepts, agrees, Attr.pinned])
  · -- the attribute is `None`, no keyword: the length itself
    exact (tail _).trans (by simp [accepts, agrees, Attr.pinned])
  · -- the attribute is `None`: the keyword
    exact (tail _).trans (by simp [accepts, agrees, Attr.pinned])
  · -- no keyword: the pinned dimension
    exact (tail _).trans (by simp [accepts, agrees, Attr.pinned])
  · rename_i m d
    by_cases h0 : d = m
    · subst h0
      simp only [ne_eq, not_true_eq_false, if_false]
      exact (tail _).trans (by simp [accepts, agrees, Attr.pinned])
    · -- keyword and pinned dimension differ: `ValueError` at once, and they cannot both be the length
      cases hacc : accepts (.val m) (some d) v.xs.length with
      | false => simp [h0]
      | true =>
        simp only [accepts, agrees, Attr.pinned, Bool.and_eq_true, beq_iff_eq] at hacc
        exact absurd (hacc.1.2.trans hacc.2.symm) h0

theorem createCopy_ok {db : Db} {o r : Obj} {values : Option ValArg} {unit category : Option Sym}
    (h : createCopy db o values unit category = .ok r) :
    ∃ q v, copyQuantity db o.st.q unit category = .ok q ∧
      createWithQuantity o.cls q none (some o.st.dim) (some v) = .ok r ∧
      (∀ w, values = some w → v = w) := by
  unfold createCopy at h
  simp only at h
  split at h
  · cases h
  · rename_i v hv
    split at h
    · cases h
    · rename_i q hq
      refine ⟨q, v, hq, h, ?_⟩
      intro w hw
      subst hw
      simp only at hv
      cases hv
      rfl

theorem doOperation_ok {F : OpFunc} {self r : Obj} {op : AOp} {other : Operand} {l : Bool}
    (h : doOperation F self op other l = .ok r) :
    lengthsAgree self.st.vals.xs.length other = true ∧
    ∃ q v, createWithQuantity self.cls q (some (.sized v)) none none = .ok r := by
  unfold doOperation at h
  split at h
  · cases h
  · rename_i hl
    split at h
    · cases h
    · rename_i q v _
      exact ⟨by simpa using hl, q, v, h⟩

theorem doOperation_inv {F : OpFunc} {self r : Obj} {op : AOp} {other : Operand} {l : Bool}
    (h : doOperation F self op other l = .ok r) : Inv r.st := by
  obtain ⟨_, _, _, hc⟩ := doOperation_ok h
  exact createWithQuantity_inv hc

theorem changingIndex_ok {db : Db} {o r : Obj} {i : Int} {value : CIValue} {uvu : Bool}
    (h : changingIndex db o i value uvu = .ok r) :
    ∃ sc vals amount ys,
      ciScalar db o i value = .ok sc ∧
      getValues db o.st (some (if uvu then sc.q else o.st.q).unit) = .ok vals ∧
      sc.getValue db (some (if uvu then sc.q else o.st.q).unit) = .ok amount ∧
      pySet vals.xs i amount = .ok ys ∧
      init db .none o.st.dim (.catFirst (.qty (if uvu then sc.q else o.st.q)) (some (.sized ⟨.tuple, ys⟩)) none)
        = .ok r := by
  unfold changingIndex at h
  split at h
  · cases h
  · rename_i sc hsc
    simp only at h
    split at h
    · cases h
    · rename_i vals hvals
      split at h
      · cases h
      · rename_i amount hamount
        split at h
        · cases h
        · rename_i ys hys
          exact ⟨sc, vals, amount, ys, hsc, hvals, hamount, hys, h⟩

theorem outObj_ok {e : Except ErrKind Obj} {r : Obj} (h : outObj e = .ok (.obj r)) : e = .ok r := by
  cases e with
  | error e => cases h
  | ok o => simp only [outObj] at h; cases h; rfl

theorem outObj_not_scalar {e : Except ErrKind Obj} {s : Scalar} : outObj e ≠ .ok (.scalar s) := by
  cases e with
  | error e => intro h; cases h
  | ok o => intro h; simp only [outObj] at h; cases h

theorem runOp_obj {db : Db} {F : OpFunc} {store : List Obj} {src r : Obj} {o : Op}
    (h : runOp db F store src o = .ok (.obj r)) :
    r = src ∨ (∃ values unit category, createCopy db src values unit category = .ok r)
      ∨ reduce db src = .ok r ∨ (∃ op other l, doOperation F src op other l = .ok r)
      ∨ ∃ i value uvu, changingIndex db src i value uvu = .ok r := by
  cases o with
  | copy => simp only [runOp] at h; cases h; exact .inl rfl
  | createCopy values unit category => exact .inr (.inl ⟨_, _, _, outObj_ok h⟩)
  | pickle => exact .inr (.inr (.inl (outObj_ok h)))
  | arith op rhs =>
    cases rhs with
    | other idx =>
      simp only [runOp] at h
      split at h
      · cases h
      · exact .inr (.inr (.inr (.inl ⟨_, _, _, outObj_ok h⟩)))
    | operand p l => exact .inr (.inr (.inr (.inl ⟨_, _, _, outObj_ok h⟩)))
  | changingIndex index value uvu => exact .inr (.inr (.inr (.inr ⟨_, _, _, outObj_ok h⟩)))
  | createCopyKw values unit category extra =>
    cases extra with
    | unitDatabase => exact .inr (.inl ⟨_, _, _, outObj_ok h⟩)
    | dimension | value => simp only [runOp, createCopyKw, outObj] at h; cases h
  | indexAsScalar _ _ | getItem _ | getSlice _ | checkValues _ _ =>
    simp only [runOp] at h
    split at h <;> cases h
  | assign _ | len | iter => simp only [runOp] at h; cases h
  | eq other =>
    cases other with
    | store idx =>
      simp only [runOp] at h
      split at h <;> cases h
    | foreign => simp only [runOp] at h; cases h

theorem runOp_inv {db : Db} {F : OpFunc} {store : List Obj} {src r : Obj} {o : Op}
    (hs : Inv src.st) (h : runOp db F store src o = .ok (.obj r)) : Inv r.st := by
  rcases runOp_obj h with rfl | ⟨_, _, _, h⟩ | h | ⟨_, _, _, h⟩ | ⟨_, _, _, h⟩
  · exact hs
  · obtain ⟨_, _, _, hc, _⟩ := createCopy_ok h
    exact createWithQuantity_inv hc
  · exact init_inv h
  · exact doOperation_inv h
  · obtain ⟨_, _, _, _, _, _, _, _, hi⟩ := changingIndex_ok h
    exact init_inv hi

/-- `FixedArray.FromScalars(...)` never returns: the inherited classmethod calls the constructor without
its `dimension` -/
theorem fromScalars_never_ok {db : Db} {cls : ClsAttr} {scalars : List Scalar} {unit category : Option Sym}
    {o : Obj} : fromScalars db cls scalars unit category ≠ .ok o := by
  intro h
  unfold fromScalars at h
  split at h
  · split at h
    · cases h
    · split at h <;> cases h
    · cases h
    · cases h
  · split at h <;> cases h

theorem runCmd_inv {db : Db} {F : OpFunc} {store : List Obj} {c : Cmd} {r : Obj}
    (hs : ∀ o ∈ store, Inv o.st) (h : runCmd db F store c = .ok (.obj r)) : Inv r.st := by
  cases c with
  | make route => exact runRoute_inv (outObj_ok h)
  | op src o =>
    simp only [runCmd] at h
    split at h
    · cases h
    · rename_i s hsrc
      exact runOp_inv (hs s (List.mem_of_getElem? hsrc)) h
  | fromScalars cls scalars unit category => exact absurd (outObj_ok h) fromScalars_never_ok

theorem push_inv {store : List Obj} {out : Except ErrKind Out}
    (hs : ∀ o ∈ store, Inv o.st) (ho : ∀ r, out = .ok (.obj r) → Inv r.st) :
    ∀ o ∈ push store out, Inv o.st := by
  intro o hmem
  unfold push at hmem
  split at hmem
  · rename_i r
    rcases List.mem_append.mp hmem with hm | hm
    · exact hs o hm
    · simp only [List.mem_singleton] at hm
      subst hm
      exact ho _ rfl
  · exact hs o hmem

theorem step_inv {db : Db} {F : OpFunc} {store : List Obj} {c : Cmd}
    (hs : ∀ o ∈ store, Inv o.st) : ∀ o ∈ (step db F store c).1, Inv o.st :=
  push_inv hs (fun _ h => runCmd_inv hs h)

theorem run_inv {db : Db} {F : OpFunc} (cmds : List Cmd) :
    ∀ {store : List Obj}, (∀ o ∈ store, Inv o.st) → ∀ o ∈ run db F store cmds, Inv o.st := by
  induction cmds with
  | nil => intro store hs; exact hs
  | cons c cs ih => intro store hs; exact ih (step_inv hs)

theorem outputs_inv {db : Db} {F : OpFunc} (cmds : List Cmd) :
    ∀ {store : List Obj}, (∀ o ∈ store, Inv o.st) →
      ∀ r, .ok (.obj r) ∈ outputs db F store cmds → Inv r.st := by
  induction cmds with
  | nil => intro store _ r h; simp [outputs] at h
  | cons c cs ih =>
    intro store hs r h
    simp only [outputs, List.mem_cons] at h
    rcases h with h | h
    · exact runCmd_inv hs h.symm
    · exact ih (step_inv hs) r h

theorem push_prefix (store : List Obj) (out : Except ErrKind Out) : ∃ t, push store out = store ++ t := by
  unfold push
  split
  · exact ⟨_, rfl⟩
  · exact ⟨[], by simp⟩

theorem run_prefix {db : Db} {F : OpFunc} (cmds : List Cmd) :
    ∀ store : List Obj, ∃ t, run db F store cmds = store ++ t := by
  induction cmds with
  | nil => intro store; exact ⟨[], by simp [run]⟩
  | cons c cs ih =>
    intro store
    obtain ⟨t1, h1⟩ := push_prefix store (runCmd db F store c)
    obtain ⟨t2, h2⟩ := ih (step db F store c).1
    refine ⟨t1 ++ t2, ?_⟩
    simp only [run]
    rw [h2]
    simp only [step]
    rw [h1, List.append_assoc]

def Elementwise {α β : Type} (f : α → Except ErrKind β) (xs : List α) (ys : List β) : Prop :=
  ys.length = xs.length ∧ ∀ (k : Nat) x, xs[k]? = some x → ∃ y, f x = .ok y ∧ ys[k]? = some y

theorem Elementwise.refl {α : Type} {f : α → Except ErrKind α} (hf : ∀ x, f x = .ok x) (xs : List α) :
    Elementwise f xs xs :=
  ⟨rfl, fun _ x hx => ⟨x, hf x, hx⟩⟩

theorem Elementwise.congr {α β : Type} {f g : α → Except ErrKind β} {xs : List α} {ys : List β}
    (hfg : ∀ x, f x = g x) (h : Elementwise f xs ys) : Elementwise g xs ys :=
  ⟨h.1, fun k x hx => by rw [← hfg]; exact h.2 k x hx⟩

theorem mapE_ok {α β : Type} {f : α → Except ErrKind β} :
    ∀ {xs : List α} {ys : List β}, mapE f xs = .ok ys → Elementwise f xs ys := by
  intro xs
  induction xs with
  | nil =>
    intro ys h
    simp only [mapE] at h
    cases h
    exact ⟨rfl, by intro k x hx; simp at hx⟩
  | cons a as ih =>
    intro ys h
    simp only [mapE] at h
    split at h
    · cases h
    · rename_i y hy
      split at h
      · cases h
      · rename_i zs hzs
        cases h
        obtain ⟨hl, he⟩ := ih hzs
        refine ⟨by simp [hl], ?_⟩
        intro k x hx
        cases k with
        | zero =>
          simp only [List.getElem?_cons_zero, Option.some.injEq] at hx
          subst hx
          exact ⟨y, hy, by simp⟩
        | succ k =>
          simp only [List.getElem?_cons_succ] at hx
          obtain ⟨y', hy', hk⟩ := he k x hx
          exact ⟨y', hy', by simpa using hk⟩

theorem convertAll_ok {db : Db} {c u v : Sym} {xs ys : List Rat} (h : convertAll db c u v xs = .ok ys) :
    Elementwise (db.convert c u v) xs ys := by
  unfold convertAll at h
  split at h
  · rename_i huv
    cases h
    exact .refl (fun x => by simp [Db.convert, huv]) xs
  · rename_i huv
    split at h
    · cases h
    · rename_i qt hqt
      split at h
      · cases h
      · rename_i this hthis
        split at h
        · cases h
        · rename_i other hother
          exact (mapE_ok h).congr (fun x => by simp only [Db.convert, huv, hqt, hthis, hother]; rfl)

theorem qty_convertAll_ok {db : Db} {q : Qty} {v : Sym} {xs ys : List Rat}
    (h : q.convertAll db xs v = .ok ys) : Elementwise (q.convertScalarValue db · v) xs ys := by
  cases q with
  | empty =>
    simp only [Qty.convertAll] at h
    cases h
    exact .refl (fun x => by unfold Qty.convertScalarValue; split <;> rfl) xs
  | simple c u =>
    refine (convertAll_ok h).congr (fun x => ?_)
    -- `ConvertScalarValue` tests the units itself, as `Convert` does
    unfold Qty.convertScalarValue
    split
    · rename_i huv
      simp only [Qty.unit] at huv
      simp only [Db.convert, huv, ↓reduceIte]
    · rfl

theorem getValues_ok {db : Db} {fa : FixedArr} {u : Sym} {vals : Vals}
    (h : getValues db fa (some u) = .ok vals) :
    vals.kind = fa.vals.kind ∧ Elementwise (fa.q.convertScalarValue db · u) fa.vals.xs vals.xs := by
  unfold getValues at h
  simp only at h
  split at h
  · rename_i hu
    cases h
    have : (fa.q.unit == u) = true := by
      simp only [beq_iff_eq] at hu ⊢
      exact hu.symm
    exact ⟨rfl, .refl (fun x => by simp [Qty.convertScalarValue, this]) _⟩
  · split at h
    · cases h
    · rename_i ys hys
      cases h
      exact ⟨rfl, qty_convertAll_ok hys⟩

theorem getValues_own_unit {db : Db} {fa : FixedArr} : getValues db fa (some fa.q.unit) = .ok fa.vals := by
  simp [getValues]

theorem convertScalarValue_own_unit {db : Db} {q : Qty} {x : Rat} :
    q.convertScalarValue db x q.unit = .ok x := by
  simp [Qty.convertScalarValue]

theorem broadcast_error {xs ys : List Rat} (h : xs.length ≠ ys.length) (hx : xs.length ≠ 1)
    (hy : ys.length ≠ 1) : broadcast xs ys = .error .value := by
  unfold broadcast
  simp only [h, ↓reduceIte]
  split
  · simp at hx
  · simp at hy
  · rfl

theorem opLoop_length {F : OpFunc} {op : AOp} {q1 q2 : Qty} :
    ∀ {ps : List (Rat × Rat)} {q0 q : Qty} {vs : List Rat},
      opLoop F op q1 q2 q0 ps = .ok (q, vs) → vs.length = ps.length := by
  intro ps
  induction ps with
  | nil => intro q0 q vs h; simp only [opLoop] at h; cases h; rfl
  | cons p rest ih =>
    intro q0 q vs h
    obtain ⟨a, b⟩ := p
    simp only [opLoop] at h
    split at h
    · cases h
    · split at h
      · cases h
      · rename_i hrest
        cases h
        simp [ih hrest]

theorem operationValues_ok {F : OpFunc} {op : AOp} {q1 q2 q : Qty} {a b : PyVal} {v : Vals}
    (h : operationValues F op q1 q2 a b = .ok (q, v)) :
    ∃ ps, pairs a b = .ok (v.kind, ps) ∧ v.xs.length = ps.length := by
  unfold operationValues at h
  split at h
  · cases h
  · rename_i kind ps hp
    split at h
    · cases h
    · split at h
      · cases h
      · rename_i hl
        cases h
        exact ⟨ps, hp, opLoop_length hl⟩

theorem broadcast_length {xs ys : List Rat} {ps : List (Rat × Rat)} (h : broadcast xs ys = .ok ps) :
    (2 ≤ xs.length → ps.length = xs.length) ∧ (2 ≤ ys.length → ps.length = ys.length) := by
  unfold broadcast at h
  split at h
  · rename_i hl
    cases h
    simp [List.length_zip, hl]
  · split at h
    · cases h
      simp
    · cases h
      simp
    · cases h

/-- two containers paired up - broadcast when an ndarray is involved, zipped when equally long - give as many
pairs as either of them has elements (a side of length 1 may have been stretched) -/
theorem pairs_seq_length {v w : Vals} {k : Kind} {ps : List (Rat × Rat)}
    (hk : (v.kind = .ndarray ∨ w.kind = .ndarray) ∨ v.xs.length = w.xs.length)
    (h : pairs (.seq v) (.seq w) = .ok (k, ps)) :
    (2 ≤ v.xs.length → ps.length = v.xs.length) ∧ (2 ≤ w.xs.length → ps.length = w.xs.length) := by
  simp only [pairs] at h
  split at h
  · split at h
    · cases h
    · rename_i hb
      cases h
      exact broadcast_length hb
  · rename_i hnd
    cases h
    have hl := hk.resolve_left hnd
    simp [List.length_zip, hl]

theorem pairs_length_self {self : Vals} {other : Operand} {l : Bool} {k : Kind} {ps : List (Rat × Rat)}
    (hn : 2 ≤ self.xs.length) (ha : lengthsAgree self.xs.length other = true)
    (h : (if l then pairs (.seq self) other.val else pairs other.val (.seq self)) = .ok (k, ps)) :
    ps.length = self.xs.length := by
  cases other with
  | num x =>
    cases l <;> simp only [Operand.val, pairs, Bool.false_eq_true, ↓reduceIte] at h <;> cases h <;> simp
  | nd xs =>
    cases l <;> simp only [Operand.val, Bool.false_eq_true, ↓reduceIte] at h
    · exact (pairs_seq_length (.inl (.inl rfl)) h).2 hn
    · exact (pairs_seq_length (.inl (.inr rfl)) h).1 hn
  | arr v q =>
    simp only [lengthsAgree, beq_iff_eq] at ha
    cases l <;> simp only [Operand.val, Bool.false_eq_true, ↓reduceIte] at h
    · exact (pairs_seq_length (.inr ha.symm) h).2 hn
    · exact (pairs_seq_length (.inr ha) h).1 hn

theorem doOperation_length {F : OpFunc} {self r : Obj} {op : AOp} {other : Operand} {l : Bool}
    (hn : 2 ≤ self.st.vals.xs.length) (h : doOperation F self op other l = .ok r) :
    r.st.vals.xs.length = self.st.vals.xs.length := by
  unfold doOperation at h
  split at h
  · cases h
  rename_i hl
  split at h
  · cases h
  rename_i q v hv
  obtain ⟨vs, hm, _, hvs, _, _⟩ := internalCreate_ok (createWithQuantity_ok h).2
  simp only [mergeValue] at hm
  cases hm
  cases hvs
  obtain ⟨ps, hp, hps⟩ : ∃ ps, (if l then pairs (.seq self.st.vals) other.val
      else pairs other.val (.seq self.st.vals)) = .ok (r.st.vals.kind, ps) ∧ r.st.vals.xs.length = ps.length := by
    cases l <;> simp only [Bool.false_eq_true, ↓reduceIte] at hv ⊢ <;> exact operationValues_ok hv
  rw [hps]
  exact pairs_length_self hn (by simpa using hl) hp

theorem normIndex_lt {n : Nat} {i : Int} {j : Nat} (h : normIndex n i = some j) : j < n := by
  unfold normIndex at h
  split at h
  · split at h
    · cases h; assumption
    · cases h
  · split at h
    · cases h; omega
    · cases h

theorem pyGet_ok {xs : List Rat} {i : Int} {x : Rat} (h : pyGet xs i = .ok x) :
    ∃ j, normIndex xs.length i = some j ∧ xs[j]? = some x := by
  unfold pyGet at h
  split at h
  · cases h
  · rename_i j hj
    split at h
    · rename_i y hy
      cases h
      exact ⟨j, hj, hy⟩
    · cases h

theorem pySet_ok {xs ys : List Rat} {i : Int} {v : Rat} (h : pySet xs i v = .ok ys) :
    ∃ j, normIndex xs.length i = some j ∧ ys = xs.set j v := by
  unfold pySet at h
  split at h
  · cases h
  · rename_i j hj
    cases h
    exact ⟨j, hj, rfl⟩

theorem pyIndex_some {α : Type} {xs : List α} {i : Int} {j : Nat} (h : normIndex xs.length i = some j) :
    ∃ x, xs[j]? = some x ∧ pyIndex xs i = .ok x := by
  have hj : j < xs.length := normIndex_lt h
  refine ⟨xs[j], by simp [hj], ?_⟩
  simp [pyIndex, h, hj]

theorem pyIndex_none {α : Type} {xs : List α} {i : Int} (h : normIndex xs.length i = none) :
    pyIndex xs i = .error .index := by
  simp [pyIndex, h]

theorem pyIndex_ok {α : Type} {xs : List α} {i : Int} {x : α} (h : pyIndex xs i = .ok x) :
    ∃ j, normIndex xs.length i = some j ∧ xs[j]? = some x := by
  unfold pyIndex at h
  split at h
  · cases h
  · rename_i j hj
    split at h
    · rename_i y hy
      cases h
      exact ⟨j, hj, hy⟩
    · cases h

/-- both ends of a slice lie within the range `slice.indices` clamps to: `[0, len]` walking up,
`[-1, len - 1]` walking down -/
theorem sliceBound_range {len step : Int} (hl : 0 ≤ len) (b : Option Int) (st : Bool) :
    (if step < 0 then -1 else 0) ≤ sliceBound len step b st ∧
      sliceBound len step b st ≤ (if step < 0 then len - 1 else len) := by
  unfold sliceBound
  -- every branch returns the lower end, the upper end, or a bound just tested to lie between them
  cases b with
  | none => cases st <;> simp only <;> split <;> omega
  | some v =>
    simp only
    split <;> split <;> split <;> omega

theorem sliceIdx_range (step : Int) : ∀ (fuel : Nat) (cur stop : Int), ∀ i ∈ sliceIdx step fuel cur stop,
    if step < 0 then stop < i ∧ i ≤ cur else cur ≤ i ∧ i < stop := by
  intro fuel
  induction fuel with
  | zero => intro cur stop i hi; simp [sliceIdx] at hi
  | succ n ih =>
    intro cur stop i hi
    have later := ih (cur + step) stop i
    by_cases hs : step < 0
    · simp only [sliceIdx, hs, ↓reduceIte] at hi later ⊢
      split at hi
      · rcases List.mem_cons.mp hi with h | h
        · omega
        · have := later h; omega
      · simp at hi
    · simp only [sliceIdx, hs, ↓reduceIte] at hi later ⊢
      split at hi
      · rcases List.mem_cons.mp hi with h | h
        · omega
        · have := later h; omega
      · simp at hi

theorem sliceIndices_ok_of_step {n : Nat} {s : PySlice} (h : s.step ≠ some 0) :
    ∃ idx, sliceIndices n s = .ok idx := by
  unfold sliceIndices
  have : s.step.getD 1 ≠ 0 := by
    cases hs : s.step with
    | none => simp
    | some v =>
      simp only [Option.getD_some]
      intro hv
      subst hv
      exact h hs
  simp [this]

theorem sliceIndices_range {n : Nat} {s : PySlice} {idx : List Int} (h : sliceIndices n s = .ok idx) :
    ∀ i ∈ idx, 0 ≤ i ∧ i < (n : Int) := by
  unfold sliceIndices at h
  simp only at h
  split at h
  · cases h
  · rename_i h0
    cases h
    have hn : (0 : Int) ≤ n := by omega
    intro i hi
    have hr := sliceIdx_range _ n _ _ i hi
    have hs := sliceBound_range (step := s.step.getD 1) hn s.start true
    have he := sliceBound_range (step := s.step.getD 1) hn s.stop false
    by_cases hneg : s.step.getD 1 < 0 <;> simp only [hneg, ↓reduceIte] at hr hs he <;> omega

theorem atPos_ok {α : Type} {xs : List α} {i : Int} {y : α} (h : atPos xs i = .ok y) :
    0 ≤ i ∧ xs[i.toNat]? = some y := by
  unfold atPos at h
  split at h
  · cases h
  · split at h
    · rename_i x hx
      cases h
      exact ⟨by omega, hx⟩
    · cases h

theorem atPos_in_range {α : Type} {xs : List α} {i : Int} (h0 : 0 ≤ i) (h1 : i < (xs.length : Int)) :
    ∃ y, atPos xs i = .ok y := by
  have hlt : i.toNat < xs.length := by omega
  refine ⟨xs[i.toNat], ?_⟩
  have hneg : ¬ i < 0 := by omega
  simp [atPos, hneg, hlt]

theorem mapE_total {α β : Type} {f : α → Except ErrKind β} :
    ∀ {xs : List α}, (∀ x ∈ xs, ∃ y, f x = .ok y) → ∃ ys, mapE f xs = .ok ys := by
  intro xs
  induction xs with
  | nil => intro _; exact ⟨[], rfl⟩
  | cons a as ih =>
    intro h
    obtain ⟨y, hy⟩ := h a (by simp)
    obtain ⟨ys, hys⟩ := ih (fun x hx => h x (by simp [hx]))
    exact ⟨y :: ys, by simp [mapE, hy, hys]⟩

/-- never an `IndexError`.  That `len` steps suffice for the walk of `range(*slice.indices(len))` (the fuel of
`sliceIdx`) is assumed by the model, not proved. -/
theorem pySlice_spec {α : Type} (xs : List α) (s : PySlice) :
    (s.step = some 0 → pySlice xs s = .error .value) ∧
    (s.step ≠ some 0 → ∃ idx ys, sliceIndices xs.length s = .ok idx ∧ pySlice xs s = .ok ys ∧
      ys.length = idx.length ∧
      ∀ (k : Nat) i, idx[k]? = some i → 0 ≤ i ∧ i < (xs.length : Int) ∧ ys[k]? = xs[i.toNat]?) := by
  constructor
  · intro h
    simp [pySlice, sliceIndices, h]
  · intro h
    obtain ⟨idx, hidx⟩ := sliceIndices_ok_of_step (n := xs.length) h
    have hr := sliceIndices_range hidx
    obtain ⟨ys, hys⟩ := mapE_total (f := atPos xs) (xs := idx)
      (fun i hi => atPos_in_range (hr i hi).1 (hr i hi).2)
    obtain ⟨hl, he⟩ := mapE_ok hys
    refine ⟨idx, ys, hidx, by simp [pySlice, hidx, hys], hl, ?_⟩
    intro k i hk
    obtain ⟨y, hy, hky⟩ := he k i hk
    have hi := hr i (List.mem_of_getElem? hk)
    obtain ⟨_, hx⟩ := atPos_ok hy
    exact ⟨hi.1, hi.2, by rw [hky, hx]⟩

/-- the content agrees with what the references say about it: `len(array.GetValues())` is the length the
Curve's guard measured -/
def Faithful (h : Content) : Prop := ∀ a : ArrRef, (h a).elems.length = a.len

theorem reprLoop_spec : ∀ (z : List (Elem × Elem)) (i : Nat), i ≤ 21 →
    reprLoop i z = (z.take (21 - i), decide (21 - i < z.length)) := by
  intro z
  induction z with
  | nil => intro i _; simp [reprLoop]
  | cons p rest ih =>
    intro i hi
    unfold reprLoop
    by_cases h : 20 < i
    · have : i = 21 := by omega
      subst this
      simp
    · have hi' : i + 1 ≤ 21 := by omega
      rw [ih (i + 1) hi']
      simp only [h, ↓reduceIte]
      have h1 : 21 - i = (21 - (i + 1)) + 1 := by omega
      rw [h1, List.take_succ_cons]
      simp only [List.length_cons]
      congr 1
      simp only [decide_eq_decide]
      omega

theorem curve_setter_spec (c : Curve) (s : Setter) :
    c.apply s = (match s with
      | .image a => if a.len = c.domain.len then .ok ⟨a, c.domain⟩ else .error .value
      | .domain a => if c.image.len = a.len then .ok ⟨c.image, a⟩ else .error .value) := by
  cases s with
  | image a =>
    simp only [Curve.apply, Curve.setImage, checkLen]
    by_cases h : a.len = c.domain.len <;> simp [h]
  | domain a =>
    simp only [Curve.apply, Curve.setDomain, checkLen]
    by_cases h : c.image.len = a.len <;> simp [h]

/-- the guard of an accepted setter is the invariant of the new curve -/
theorem curve_after_inv (c : Curve) (s : Setter) (h : CInv c) : CInv (c.after s) := by
  unfold Curve.after
  rw [curve_setter_spec]
  cases s with
  | image a =>
    by_cases hl : a.len = c.domain.len <;> simp only [hl, ↓reduceIte]
    · exact hl
    · exact h
  | domain a =>
    by_cases hl : c.image.len = a.len <;> simp only [hl, ↓reduceIte]
    · exact hl
    · exact h

theorem curve_next_inv (c : Curve) (o : CurveOp) (h : CInv c) : CInv (c.next o) := by
  cases o with
  | set s => exact curve_after_inv c s h
  | getItem _ | getSlice _ | length | repr => exact h

theorem curve_runOps_inv : ∀ (os : List CurveOp) (c : Curve), CInv c → CInv (c.runOps os) := by
  intro os
  induction os with
  | nil => intro c h; exact h
  | cons o os ih => intro c h; exact ih (c.next o) (curve_next_inv c o h)

end Barril.Fixed
