/-
The index of the compact unit table (`Model/CompoundIndex.lean`) is the table: given decidable table facts, the
tree lookup is the list lookup and the base index is the first row of each quantity type, so a predicate
evaluated through the index speaks of the lists.
-/
import Barril.Model.CompoundIndex
import Barril.Proofs.CompoundLemmas
import Barril.Proofs.KTree
import Mathlib.Data.List.Nodup
import Mathlib.Data.List.Range
import Mathlib.Data.List.Perm.Subperm

namespace Barril

/-- no ordering invariant of the tree is needed for this direction -/
theorem CTree.find_some {t : CTree} {x : Sym} {c : CRow} (h : t.find x = some c) : c ∈ t.toList ∧ c.sym = x := by
  induction t with
  | leaf => simp [CTree.find] at h
  | node l d r ihl ihr =>
    unfold CTree.find at h
    split at h
    · obtain ⟨hm, hs⟩ := ihl h
      exact ⟨by simp [CTree.toList, hm], hs⟩
    · rename_i h1
      split at h
      · obtain ⟨hm, hs⟩ := ihr h
        exact ⟨by simp [CTree.toList, hm], hs⟩
      · rename_i h2
        cases h
        simp only [Bool.eq_false_iff, ne_eq, Nat.blt_eq, Nat.not_lt] at h1 h2
        exact ⟨by simp [CTree.toList], Nat.le_antisymm h1 h2⟩

/-- **the index is the table**: if every row of the table is found in the tree and every row stored in the
tree is found in the table, the two lookups agree on every symbol, registered or not -/
theorem tree_find_eq_lookL {t : CTree} {tbl : List CRow}
    (hA : tbl.all (fun c => t.find c.sym == some c) = true)
    (hB : t.toList.all (fun c => lookL c.sym tbl == some c) = true) (x : Sym) :
    t.find x = lookL x tbl := by
  cases hl : lookL x tbl with
  | some c =>
    obtain ⟨hm, hs⟩ := lookL_some hl
    have := List.all_eq_true.mp hA c hm
    rw [← hs]
    simpa using this
  | none =>
    cases hf : t.find x with
    | none => rfl
    | some c =>
      obtain ⟨hm, hs⟩ := CTree.find_some hf
      have := List.all_eq_true.mp hB c hm
      have h2 : lookL c.sym tbl = some c := by simpa using this
      rw [hs, hl] at h2
      cases h2

theorem lookB_some {q : Sym} {bs : List (Sym × CRow)} {b : CRow} (h : lookB q bs = some b) : (q, b) ∈ bs := by
  induction bs with
  | nil => simp [lookB] at h
  | cons p ps ih =>
    unfold lookB at h
    split at h
    · rename_i hb
      cases h
      have : q = p.1 := Nat.beq_true_iff.mp hb
      rw [this]
      exact List.mem_cons_self
    · exact List.mem_cons_of_mem _ (ih h)

theorem lookB_eq_baseL {bs : List (Sym × CRow)} {tbl : List CRow}
    (hC : bs.all (fun p => baseL p.1 tbl == some p.2) = true) {q : Sym} (hq : (lookB q bs).isSome = true) :
    lookB q bs = baseL q tbl := by
  cases hl : lookB q bs with
  | none => rw [hl] at hq; cases hq
  | some b =>
    have := List.all_eq_true.mp hC (q, b) (lookB_some hl)
    have h2 : baseL q tbl = some b := by simpa using this
    exact h2.symm

/-- the row predicate reads `look` as a function and `base` only at the row's own quantity type -/
theorem compoundOk_congr {look look' base base' : Sym → Option CRow} (c : CRow)
    (hl : ∀ x, look x = look' x) (hb : base c.qtype = base' c.qtype) :
    compoundOk look base c = compoundOk look' base' c := by
  have : look = look' := funext hl
  subst this
  unfold compoundOk baseFactor
  rw [hb]

/-- the table theorem through the index gives the table theorem through the lists -/
theorem compoundOkOrKnown_of_index {t : CTree} {bs : List (Sym × CRow)} {tbl : List CRow} {known : List Sym}
    (hA : tbl.all (fun c => t.find c.sym == some c) = true)
    (hB : t.toList.all (fun c => lookL c.sym tbl == some c) = true)
    (hC : bs.all (fun p => baseL p.1 tbl == some p.2) = true)
    (hD : tbl.all (fun c => (lookB c.qtype bs).isSome) = true)
    (hT : tbl.all (compoundOkOrKnownT t bs known) = true) :
    tbl.all (compoundOkOrKnown tbl known) = true := by
  apply List.all_eq_true.mpr
  intro c hc
  have h := List.all_eq_true.mp hT c hc
  have hq := List.all_eq_true.mp hD c hc
  unfold compoundOkOrKnownT at h
  unfold compoundOkOrKnown
  rw [← compoundOk_congr (look := t.find) (base := fun q => lookB q bs) c
    (fun x => tree_find_eq_lookL hA hB x) (lookB_eq_baseL hC hq)]
  exact h

theorem syms_nodup_of_index {t : CTree} {tbl : List CRow}
    (hA : tbl.all (fun c => t.find c.sym == some c) = true)
    (hP : tbl.map CRow.pos = List.range tbl.length) : (tbl.map (·.sym)).Nodup := by
  have hnd : tbl.Nodup := by
    have : (tbl.map CRow.pos).Nodup := by rw [hP]; exact List.nodup_range
    exact List.Nodup.of_map _ this
  refine List.Nodup.map_on ?_ hnd
  intro c1 h1 c2 h2 hs
  have e1 := List.all_eq_true.mp hA c1 h1
  have e2 := List.all_eq_true.mp hA c2 h2
  simp only [beq_iff_eq] at e1 e2
  rw [hs, e2] at e1
  exact (Option.some.inj e1).symm

theorem find?_of_nodup_key {α : Type} (f : α → Nat) :
    ∀ {l : List α}, (l.map f).Nodup → ∀ {w : α}, w ∈ l → l.find? (fun x => f x == f w) = some w := by
  intro l
  induction l with
  | nil => intro _ w hw; cases hw
  | cons a as ih =>
    intro hnd w hw
    simp only [List.map_cons, List.nodup_cons] at hnd
    rcases List.mem_cons.mp hw with rfl | hw'
    · simp
    · have hne : f a ≠ f w := by
        intro e
        exact hnd.1 (e ▸ List.mem_map.mpr ⟨w, hw', rfl⟩)
      have hb : (f a == f w) = false := by simpa using hne
      simp only [List.find?_cons, hb]
      exact ih hnd.2 hw'

/-- the symbols of a compact table tied to a unit table are the unit table's -/
theorem find?_sym_self_of_index {t : CTree} {tbl : List CRow} {units : List UnitRow}
    (hcore : tbl.map CRow.core = units.map UnitRow.core) (hA : tbl.all (fun c => t.find c.sym == some c) = true)
    (hP : tbl.map CRow.pos = List.range tbl.length) {w : UnitRow} (hw : w ∈ units) :
    units.find? (·.sym == w.sym) = some w := by
  have hsyms : tbl.map (·.sym) = units.map (·.sym) := by
    have := congrArg (List.map (fun x : Sym × Sym × Sym × Rat × Bool × Bool => x.1)) hcore
    simpa [List.map_map, CRow.core, UnitRow.core, Function.comp_def] using this
  exact find?_of_nodup_key (fun r : UnitRow => r.sym) (hsyms ▸ syms_nodup_of_index hA hP) hw

/-- **the second table fact of `tree_find_eq_lookL` is a matter of counting**: the rows carry their positions, so
the table has no repeated row; every row sits in the tree, so a tree with no more nodes than the table has
rows holds exactly the rows, each the only one with its symbol -/
theorem tree_sound_of_length {t : CTree} {tbl : List CRow}
    (hA : tbl.all (fun c => t.find c.sym == some c) = true)
    (hP : tbl.map CRow.pos = List.range tbl.length) (hlen : t.toList.length ≤ tbl.length) :
    t.toList.all (fun c => lookL c.sym tbl == some c) = true := by
  have hnd : tbl.Nodup := List.Nodup.of_map _ (hP ▸ List.nodup_range)
  have hsub : tbl ⊆ t.toList := fun c hc =>
    (CTree.find_some (by simpa using List.all_eq_true.mp hA c hc)).1
  have hperm := (hnd.subperm hsub).perm_of_length_le hlen
  apply List.all_eq_true.mpr
  intro c hc
  rw [beq_iff_eq, lookL_eq_find?]
  exact find?_of_nodup_key (fun c : CRow => c.sym) (syms_nodup_of_index hA hP) (hperm.mem_iff.mpr hc)

/-- the base index may be checked against a tree built from the table (first row of each quantity type, `KTree`)
instead of one table scan per quantity type -/
theorem bases_sound_of_index {bs : List (Sym × CRow)} {tbl : List CRow}
    (h : bs.all (fun p => (KTree.ofList CRow.qtype tbl).find p.1 == some p.2) = true) :
    bs.all (fun p => baseL p.1 tbl == some p.2) = true := by
  simpa only [KTree.find_ofList, ← baseL_eq_find?] using h

end Barril
