/- Lemmas about the session layer (`Barril/Model/RegCache.lean`): construction of value objects on a well-formed
registry (C14), and the invisibility of the memo tables (C15): under `QueryInv` every block of the session model, up
to `answer`, is `Good`; then the session invariant `Inv`, the outcomes of a history on fresh databases, and
families of private databases. -/
import Barril.Proofs.RegLemmas
import Barril.Model.RegCache

namespace Barril.Reg

variable (lg : List (Sym × Sym))

theorem obtain_fresh_ok {r : Registry} (h : RegInv r) {c : Sym} {ci : CatRow} {l : List UnitRow}
    {w : UnitRow} (hc : catGet r.cats c = some ci) (hl : tlGet r.types ci.qtype = some l) (hw : w ∈ l) :
    (obtain lg (CState.fresh r) false c w.sym).2 = .ok ⟨c, w.sym, ci.qtype, ci, w.toBase, w.ok⟩ := by
  have hg : ∀ a b, getInfo lg r ci.qtype w.sym a b = .ok w := by
    intro a b
    unfold getInfo tryInfo
    rw [h.index_of_mem hl hw]
    simp [h.rowsTyped _ _ hl _ hw]
  have hv : categoryUnitValid lg r c w.sym = true := by
    simp only [categoryUnitValid, quantityTypeUnitOk, hc, hg]
  simp only [obtain, newQuantity, CState.fresh, cacheGet, hc, checkCategoryUnit, memoGet, hv, ↓reduceIte,
    finishQuantity, hg]

theorem unit_builds_scalar {r : Registry} (h : RegInv r) {c : Sym} {ci : CatRow} {l : List UnitRow}
    {w : UnitRow} (hc : catGet r.cats c = some ci) (hl : tlGet r.types ci.qtype = some l) (hw : w ∈ l) :
    spec lg r (.create c w.sym) = .ok (.quantity c w.sym) := by
  unfold spec answer
  simp only
  rw [obtain_fresh_ok lg h hc hl hw]
  rfl

theorem category_builds_scalar {r : Registry} (h : RegInv r) {c : Sym} {ci : CatRow}
    (hc : catGet r.cats c = some ci) :
    spec lg r (.createC c) = .ok (.qvalue c ci.defaultUnit ci.defaultValue)
    ∧ spec lg r (.isValid c ci.defaultUnit ci.defaultValue) = .ok (.bool true) := by
  obtain ⟨⟨l, hl, hdu, _⟩, hlo, hhi⟩ := h.catsOk c ci hc
  obtain ⟨w, hw, hs⟩ := List.mem_map.mp hdu
  have ho := obtain_fresh_ok lg h hc hl hw
  rw [hs] at ho
  constructor
  · unfold spec answer
    simp only [CState.fresh, getCategoryInfo, hc]
    simp only [CState.fresh] at ho
    rw [ho]; rfl
  · unfold spec answer
    simp only
    rw [ho]
    simp only [checkValue, convertScalarValue, ↓reduceIte]
    split
    · rfl
    · simp [exMap, hlo, hhi]

/-- every memoised verdict is the verdict the current registry gives -/
def MemoInv (s : CState) : Prop :=
  ∀ k v, memoGet s.memo k = some v → v = categoryUnitValid lg s.reg k.1 k.2

/-- `Quantity(category, unit)` as a function of the registry alone -/
def newQuantityPure (r : Registry) (c u : Sym) : Except ErrKind QObj :=
  match catGet r.cats c with
  | none => .error .units
  | some ci =>
    if categoryUnitValid lg r c u then finishQuantity lg r ci c u
    else if isLegacy lg u then
      if categoryUnitValid lg r c (fixLegacy lg u) then finishQuantity lg r ci c (fixLegacy lg u)
      else .error .units
    else .error .units

/-- `ObtainQuantity(unit, None)` as a function of the registry alone -/
def obtainUPure (r : Registry) (u : Sym) : Except ErrKind QObj :=
  match resolveDefault lg r u with
  | .error e => .error e
  | .ok (c, u') => if c = 0 then .error .type else newQuantityPure lg r c u'

/-- every cached quantity is the one a creation on the current registry yields for its key -/
def CacheInv (s : CState) : Prop :=
  ∀ k q, cacheGet s.cache k = some q →
    match k with
    | (some c, u, _) => newQuantityPure lg s.reg c u = .ok q
    | (none, u, _) => obtainUPure lg s.reg u = .ok q

def SInv (s : CState) : Prop := MemoInv lg s ∧ CacheInv lg s

/-- no registered unit symbol is itself a legacy spelling (the hypothesis of the `_partial`
theorems of C15, see `warm_fresh_counterexample`) -/
def NoLegacySyms (r : Registry) : Prop := ∀ u w, ixGet r.index u = some w → isLegacy lg u = false

/-- every cached derived quantity is the one a creation on the current registry yields for its key -/
def DInv (s : CState) : Prop := ∀ k d, dcacheGet s.dcache k = some d → newDerivedChecked lg s.reg k = .ok d

/-- what the answer to a query rests on: memo tables that agree with the registry, and a registry without units
registered under legacy spellings -/
def QueryInv (s : CState) : Prop := SInv lg s ∧ NoLegacySyms lg s.reg ∧ DInv lg s

theorem queryInv_fresh {r : Registry} (hn : NoLegacySyms lg r) : QueryInv lg (CState.fresh r) :=
  ⟨⟨fun k v h => by simp [CState.fresh, memoGet] at h, fun k q h => by simp [CState.fresh, cacheGet] at h⟩, hn,
    fun k d h => by simp [CState.fresh, dcacheGet] at h⟩

theorem cacheGet_cons (k : Option Sym × Sym × Bool) (q : QObj) (m : List ((Option Sym × Sym × Bool) × QObj))
    (key : Option Sym × Sym × Bool) :
    cacheGet ((k, q) :: m) key = if k = key then some q else cacheGet m key := rfl

theorem dcacheGet_cons (k : List (Sym × Sym × Int)) (d : DObj) (m : List (List (Sym × Sym × Int) × DObj))
    (key : List (Sym × Sym × Int)) : dcacheGet ((k, d) :: m) key = if k = key then some d else dcacheGet m key := rfl

theorem QueryInv.cache_cons {s : CState} (hs : QueryInv lg s) {k : Option Sym × Sym × Bool} {q : QObj}
    (hk : match k with
      | (some c, u, _) => newQuantityPure lg s.reg c u = .ok q
      | (none, u, _) => obtainUPure lg s.reg u = .ok q) :
    QueryInv lg ⟨s.reg, s.memo, (k, q) :: s.cache, s.dcache⟩ := by
  refine ⟨⟨hs.1.1, fun k' q' hk' => ?_⟩, hs.2⟩
  simp only [cacheGet_cons] at hk'
  split at hk'
  · rename_i he
    cases hk'
    exact he ▸ hk
  · exact hs.1.2 k' q' hk'

/-- `s'` is `s` with more memo entries, correct ones when those of `s` are -/
def MemoExt (s s' : CState) : Prop :=
  s'.reg = s.reg ∧ s'.cache = s.cache ∧ s'.dcache = s.dcache ∧ (MemoInv lg s → MemoInv lg s')

theorem memoExt_refl (s : CState) : MemoExt lg s s := ⟨rfl, rfl, rfl, id⟩

theorem memoExt_trans {a b c : CState} (h1 : MemoExt lg a b) (h2 : MemoExt lg b c) : MemoExt lg a c :=
  ⟨h2.1.trans h1.1, h2.2.1.trans h1.2.1, h2.2.2.1.trans h1.2.2.1, fun h => h2.2.2.2 (h1.2.2.2 h)⟩

theorem MemoExt.queryInv {s s' : CState} (h : MemoExt lg s s') (hs : QueryInv lg s) : QueryInv lg s' := by
  obtain ⟨hr, hc, hd, hm⟩ := h
  unfold QueryInv SInv CacheInv DInv
  rw [hr, hc, hd]
  exact ⟨⟨hm hs.1.1, hs.1.2⟩, hs.2⟩

theorem MemoExt.cache_cons {s s1 : CState} (he : MemoExt lg s s1) (hs : QueryInv lg s)
    {k : Option Sym × Sym × Bool} {q : QObj}
    (hk : match k with
      | (some c, u, _) => newQuantityPure lg s.reg c u = .ok q
      | (none, u, _) => obtainUPure lg s.reg u = .ok q) :
    QueryInv lg ⟨s.reg, s1.memo, (k, q) :: s1.cache, s.dcache⟩ := by
  rw [← he.1] at hk ⊢
  rw [← he.2.2.1]
  exact (he.queryInv lg hs).cache_cons lg hk

theorem checkCategoryUnit_val {s : CState} (h : MemoInv lg s) (c u : Sym) :
    (checkCategoryUnit lg s c u).2 = categoryUnitValid lg s.reg c u := by
  unfold checkCategoryUnit
  cases hm : memoGet s.memo (c, u) with
  | none => rfl
  | some v => exact h _ _ hm

theorem checkCategoryUnit_ext (s : CState) (c u : Sym) : MemoExt lg s (checkCategoryUnit lg s c u).1 := by
  unfold checkCategoryUnit
  cases hm : memoGet s.memo (c, u) with
  | some v => exact memoExt_refl lg s
  | none =>
    refine ⟨rfl, rfl, rfl, fun h k v hk => ?_⟩
    simp only [memoGet] at hk
    split at hk
    · rename_i he; cases hk; subst he; rfl
    · exact h k v hk

theorem newQuantity_ext (s : CState) (c u : Sym) : MemoExt lg s (newQuantity lg s c u).1 := by
  unfold newQuantity
  have e1 := checkCategoryUnit_ext lg s c u
  have e2 := memoExt_trans lg e1 (checkCategoryUnit_ext lg (checkCategoryUnit lg s c u).1 c (fixLegacy lg u))
  split
  · exact memoExt_refl lg s
  · split
    · exact e1
    · split
      · split <;> exact e2
      · exact e1

theorem newQuantity_val {s : CState} (h : MemoInv lg s) (c u : Sym) :
    (newQuantity lg s c u).2 = newQuantityPure lg s.reg c u := by
  unfold newQuantity newQuantityPure
  cases catGet s.reg.cats c with
  | none => rfl
  | some ci =>
    have e1 := checkCategoryUnit_ext lg s c u
    have v2 := checkCategoryUnit_val lg (e1.2.2.2 h) c (fixLegacy lg u)
    rw [e1.1] at v2
    simp only [checkCategoryUnit_val lg h, v2]
    cases categoryUnitValid lg s.reg c u <;> cases isLegacy lg u <;>
      cases categoryUnitValid lg s.reg c (fixLegacy lg u) <;> rfl

/-- a block of the session model is *good*: it leaves the registry alone, it keeps the invariants, and in states that
satisfy them what it returns depends on the registry only (`s`, `t`: two states over the registry `r`) -/
def Good {α : Type} (B : CState → CState × α) : Prop :=
  ∀ r s t, s.reg = r → t.reg = r →
    (B s).1.reg = r ∧ (QueryInv lg s → QueryInv lg (B s).1) ∧ (QueryInv lg s → QueryInv lg t → (B s).2 = (B t).2)

variable {lg}

theorem Good.of_val {α : Type} {B : CState → CState × α} (F : Registry → α)
    (h : ∀ s, (B s).1.reg = s.reg ∧ (QueryInv lg s → QueryInv lg (B s).1 ∧ (B s).2 = F s.reg)) : Good lg B := by
  intro r s t hs ht
  refine ⟨(h s).1.trans hs, fun c => ((h s).2 c).1, fun cs ct => ?_⟩
  rw [((h s).2 cs).2, ((h t).2 ct).2, hs, ht]

/-- the outcome (`s'`, `v`; `v'` in the other state) of a good block followed by something that reads the registry only -/
theorem Good.postprocess_at {α β : Type} {B : CState → CState × α} (h : Good lg B) {r : Registry} {s t : CState}
    (hs : s.reg = r) (ht : t.reg = r) {s' : CState} {v v' : β} (h1 : s' = (B s).1)
    (h2 : (B s).2 = (B t).2 → v = v') :
    s'.reg = r ∧ (QueryInv lg s → QueryInv lg s') ∧ (QueryInv lg s → QueryInv lg t → v = v') := by
  obtain ⟨hr, hi, hv⟩ := h r s t hs ht
  rw [h1]
  exact ⟨hr, hi, fun cs ct => h2 (hv cs ct)⟩

theorem Good.postprocess {α β : Type} {B : CState → CState × α} {B' : CState → CState × β} (h : Good lg B)
    (h1 : ∀ s, (B' s).1 = (B s).1) (h2 : ∀ s t, s.reg = t.reg → (B s).2 = (B t).2 → (B' s).2 = (B' t).2) :
    Good lg B' :=
  fun _ s t hs ht => h.postprocess_at hs ht (h1 s) (h2 s t (hs.trans ht.symm))

theorem Good.map {α β : Type} {B : CState → CState × α} (h : Good lg B) (f : α → β) :
    Good lg (fun s => ((B s).1, f (B s).2)) :=
  h.postprocess (fun _ => rfl) fun _ _ _ hv => congrArg f hv

/-- two good blocks in sequence (a failure ends the sequence), then a good block `C` that takes their results;
`he1`, `he2`, `hok` say that `B` is that sequence -/
theorem Good.bind2 {α β : Type} {O1 O2 : CState → CState × Except ErrKind α}
    {C : α → α → CState → CState × Except ErrKind β} {B : CState → CState × Except ErrKind β}
    (h1 : Good lg O1) (h2 : Good lg O2) (h3 : ∀ a b, Good lg (C a b))
    (he1 : ∀ s e, (O1 s).2 = .error e → B s = ((O1 s).1, .error e))
    (he2 : ∀ s a e, (O1 s).2 = .ok a → (O2 (O1 s).1).2 = .error e → B s = ((O2 (O1 s).1).1, .error e))
    (hok : ∀ s a b, (O1 s).2 = .ok a → (O2 (O1 s).1).2 = .ok b → B s = C a b (O2 (O1 s).1).1) : Good lg B := by
  intro r s t hs ht
  obtain ⟨r1, i1, e1⟩ := h1 r s t hs ht
  obtain ⟨r1', i1', -⟩ := h1 r t s ht hs
  obtain ⟨r2, i2, e2⟩ := h2 r _ _ r1 r1'
  obtain ⟨r2', i2', -⟩ := h2 r _ _ r1' r1
  cases hv : (O1 s).2 with
  | error e =>
    rw [he1 s e hv]
    refine ⟨r1, i1, fun cs ct => ?_⟩
    rw [he1 t e ((e1 cs ct).symm.trans hv)]
  | ok a =>
    cases hw : (O2 (O1 s).1).2 with
    | error e =>
      rw [he2 s a e hv hw]
      refine ⟨r2, fun cs => i2 (i1 cs), fun cs ct => ?_⟩
      rw [he2 t a e ((e1 cs ct).symm.trans hv) ((e2 (i1 cs) (i1' ct)).symm.trans hw)]
    | ok b =>
      rw [hok s a b hv hw]
      obtain ⟨r3, i3, e3⟩ := h3 a b r _ _ r2 r2'
      refine ⟨r3, fun cs => i3 (i2 (i1 cs)), fun cs ct => ?_⟩
      rw [hok t a b ((e1 cs ct).symm.trans hv) ((e2 (i1 cs) (i1' ct)).symm.trans hw)]
      exact e3 (i2 (i1 cs)) (i2' (i1' ct))

theorem Good.pure {α : Type} (F : Registry → α) : Good lg (fun s => (s, F s.reg)) :=
  fun _ _ _ hs ht => ⟨hs, id, fun _ _ => congrArg F (hs.trans ht.symm)⟩

variable (lg)

theorem obtain_good (cap : Bool) (c u : Sym) : Good lg (fun s => obtain lg s cap c u) := by
  refine Good.of_val (fun r => newQuantityPure lg r c u) fun s => ?_
  unfold obtain
  cases hc : cacheGet s.cache (some c, u, cap) with
  | some q => exact ⟨rfl, fun hs => ⟨hs, (hs.1.2 _ _ hc).symm⟩⟩
  | none =>
    simp only
    have he := newQuantity_ext lg s c u
    cases hn : (newQuantity lg s c u).2 with
    | error e => exact ⟨he.1, fun hs => ⟨he.queryInv lg hs, hn.symm.trans (newQuantity_val lg hs.1.1 c u)⟩⟩
    | ok q =>
      refine ⟨rfl, fun hs => ?_⟩
      have hv : newQuantityPure lg s.reg c u = .ok q := by rw [← hn, newQuantity_val lg hs.1.1]
      exact ⟨he.cache_cons lg hs (k := (some c, u, cap)) hv, hv.symm⟩

theorem getDefaultCategory_legacy {r : Registry} (hn : NoLegacySyms lg r) {u c : Sym} (hl : isLegacy lg u = true)
    (h : getDefaultCategory lg r u = .ok c) : getDefaultCategory lg r (fixLegacy lg u) = .ok c := by
  unfold getDefaultCategory at h
  cases hi : ixGet r.index u with
  | some w => rw [hn u w hi] at hl; cases hl
  | none =>
    rw [hi] at h
    simp only [hl, Bool.not_true, Bool.false_eq_true, ↓reduceIte] at h
    unfold getDefaultCategory
    cases hi2 : ixGet r.index (fixLegacy lg u) with
    | none => rw [hi2] at h; cases h
    | some w => rw [hi2] at h; exact h

/-- under `NoLegacySyms`, when a unit resolves to "no category" its legacy-fixed spelling cannot
have been cached under the `None`-category key -/
theorem resolve_zero_not_cached {r : Registry} (hn : NoLegacySyms lg r) {u u' : Sym} {q : QObj}
    (hr : resolveDefault lg r u = .ok (0, u')) : obtainUPure lg r u' ≠ .ok q := by
  have h0 : getDefaultCategory lg r u' = .ok 0 := by
    unfold resolveDefault at hr
    split at hr
    · cases hr
    · split at hr
      · rename_i hc
        cases hr
        simp at hc
      · split at hr
        · split at hr
          · cases hr
          · rename_i hg2
            cases hr
            exact hg2
        · cases hr
  intro hq
  unfold obtainUPure resolveDefault at hq
  rw [h0] at hq
  cases hl : isLegacy lg u' with
  | false => simp [hl] at hq
  | true =>
    rw [getDefaultCategory_legacy lg hn hl h0] at hq
    simp [hl] at hq

theorem obtainU_good (u : Sym) : Good lg (fun s => obtainU lg s u) := by
  refine Good.of_val (fun r => obtainUPure lg r u) fun s => ?_
  unfold obtainU
  cases hc : cacheGet s.cache (none, u, false) with
  | some q => exact ⟨rfl, fun hs => ⟨hs, (hs.1.2 _ _ hc).symm⟩⟩
  | none =>
    simp only
    unfold obtainUPure
    cases hr : resolveDefault lg s.reg u with
    | error e => exact ⟨rfl, fun hs => ⟨hs, rfl⟩⟩
    | ok cu =>
      obtain ⟨c, u'⟩ := cu
      simp only
      by_cases hz : c = 0
      · subst hz
        simp only [↓reduceIte]
        cases hc2 : cacheGet s.cache (none, u', false) with
        | some q => exact ⟨rfl, fun hs => absurd (hs.1.2 _ _ hc2) (resolve_zero_not_cached lg hs.2.1 hr)⟩
        | none => exact ⟨rfl, fun hs => ⟨hs, rfl⟩⟩
      · simp only [hz, ↓reduceIte]
        cases hc2 : cacheGet s.cache (some c, u', false) with
        | some q => exact ⟨rfl, fun hs => ⟨hs, (hs.1.2 _ _ hc2).symm⟩⟩
        | none =>
          simp only
          have he := newQuantity_ext lg s c u'
          cases hn : (newQuantity lg s c u').2 with
          | error e => exact ⟨he.1, fun hs => ⟨he.queryInv lg hs, hn.symm.trans (newQuantity_val lg hs.1.1 c u')⟩⟩
          | ok q =>
            refine ⟨rfl, fun hs => ?_⟩
            have hv : newQuantityPure lg s.reg c u' = .ok q := by rw [← hn, newQuantity_val lg hs.1.1]
            have hU : obtainUPure lg s.reg u = .ok q := by
              unfold obtainUPure
              rw [hr]
              simp only [hz, ↓reduceIte]
              exact hv
            exact ⟨(he.cache_cons lg hs (k := (some c, u', false)) hv).cache_cons lg (k := (none, u, false)) hU,
              hv.symm⟩

theorem copies_good (c1 v1 c2 v2 : Sym) : Good lg (fun s => copies lg s c1 v1 c2 v2) :=
  Good.bind2 (obtain_good lg true c1 v1) (obtain_good lg true c2 v2) (fun _ _ => Good.pure fun _ => .ok ())
    (fun s e h => by simp only [copies, h]) (fun s a e h h' => by simp only [copies, h, h'])
    (fun s a b h h' => by simp only [copies, h, h'])

theorem sumSimple_good (a b : QObj) (x y : Rat) : Good lg (fun s => sumSimple lg s a b x y) := by
  intro r s t hs ht
  simp only
  unfold sumSimple
  rw [hs, ht]
  split
  · exact ⟨hs, id, fun _ _ => rfl⟩
  · cases getCategoryInfo r a.cat with
    | error e => exact ⟨hs, id, fun _ _ => rfl⟩
    | ok ca =>
      cases getCategoryInfo r b.cat with
      | error e => exact ⟨hs, id, fun _ _ => rfl⟩
      | ok cb =>
        simp only
        split
        · cases convert lg r ca.qtype b.unit a.unit y with
          | error e => exact ⟨hs, id, fun _ _ => rfl⟩
          | ok y' => exact (copies_good lg a.cat a.unit b.cat a.unit).postprocess_at hs ht rfl fun hv => by rw [hv]
        · exact (copies_good lg a.cat a.unit b.cat b.unit).postprocess_at hs ht rfl fun hv => by rw [hv]

theorem obtainDict_good (cap : Bool) (entries : List (Sym × Sym × Int)) :
    Good lg (fun s => obtainDict lg s cap entries) := by
  unfold obtainDict
  cases simpleCase entries with
  | some cu =>
    obtain ⟨c, u⟩ := cu
    exact (obtain_good lg cap c u).map _
  | none =>
    refine Good.of_val (fun r => newDerivedChecked lg r entries) fun s => ?_
    simp only
    cases hc : dcacheGet s.dcache entries with
    | some d => exact ⟨rfl, fun hs => ⟨hs, (hs.2.2 _ _ hc).symm⟩⟩
    | none =>
      simp only
      cases hnd : newDerivedChecked lg s.reg entries with
      | error e => exact ⟨rfl, fun hs => ⟨hs, rfl⟩⟩
      | ok d =>
        refine ⟨rfl, fun hs => ⟨⟨hs.1, hs.2.1, fun k d' hk => ?_⟩, rfl⟩⟩
        simp only [dcacheGet_cons] at hk
        split at hk
        · rename_i he
          cases hk
          exact he ▸ hnd
        · exact hs.2.2 k d' hk

theorem createDerived_good (entries : List (Sym × Sym × Int)) : Good lg (fun s => createDerived lg s entries) := by
  intro r s t hs ht
  simp only
  unfold createDerived
  rw [hs, ht]
  cases validateEntries lg r entries with
  | error e => exact ⟨hs, id, fun _ _ => rfl⟩
  | ok _ => exact obtainDict_good lg false entries r s t hs ht

theorem prodSimple_good (op : ProdOp) (a b : QObj) (x y : Rat) : Good lg (fun s => prodSimple lg s op a b x y) := by
  intro r s t hs ht
  simp only
  unfold prodSimple
  rw [hs, ht]
  cases getCategoryInfo r a.cat with
  | error e => exact ⟨hs, id, fun _ _ => rfl⟩
  | ok ca =>
    cases getCategoryInfo r b.cat with
    | error e => exact ⟨hs, id, fun _ _ => rfl⟩
    | ok cb =>
      simp only
      cases (if ca.qtype = cb.qtype then convert lg r ca.qtype b.unit a.unit y else Except.ok y) with
      | error e => exact ⟨hs, id, fun _ _ => rfl⟩
      | ok y' =>
        simp only
        cases mergeEntries op a b (if ca.qtype = cb.qtype then a.unit else b.unit) with
        | error e => exact ⟨hs, id, fun _ _ => rfl⟩
        | ok es =>
          simp only
          exact (createDerived_good lg (prune es)).postprocess_at hs ht rfl fun hv => by rw [hv]

theorem sumDerived_good (op : SumOp) (d1 d2 : DObj) (x y : Rat) : Good lg (fun s => sumDerived lg s op d1 d2 x y) := by
  intro r s t hs ht
  simp only
  unfold sumDerived
  rw [hs, ht]
  split
  · exact ⟨hs, id, fun _ _ => rfl⟩
  · cases matchList lg r (decide (1 < d1.entries.length)) [] x d1.entries with
    | error e => exact ⟨hs, id, fun _ _ => rfl⟩
    | ok t1 =>
      obtain ⟨used, x', es1⟩ := t1
      simp only
      cases matchList lg r (decide (1 < d2.entries.length)) used y d2.entries with
      | error e => exact ⟨hs, id, fun _ _ => rfl⟩
      | ok t2 =>
        obtain ⟨used2, y', es2⟩ := t2
        simp only
        revert s t
        exact Good.bind2 (obtainDict_good lg true es1) (obtainDict_good lg true es2)
          (fun c1 c2 => Good.pure fun _ =>
            if sameSet (joinUnits c1.entries) (joinUnits c2.entries) then .ok (c1, op.apply x' y')
            else if (joinUnits c1.entries).isEmpty then .ok (c2, op.apply x' y')
            else if (joinUnits c2.entries).isEmpty then .ok (c1, op.apply x' y')
            else .error .units)
          (fun s e h => by simp only [h]) (fun s a e h h' => by simp only [h, h'])
          (fun s a b h h' => by simp only [h, h']) r

/-- **every query is good**: it does not change the registry, it keeps the cache invariants, and in a state that
satisfies them its answer is the answer in any other such state over the same registry, a freshly built database
among them -/
theorem answer_good (q : Query) : Good lg (fun s => answer lg s q) := by
  cases q with
  | check c u =>
    refine Good.postprocess (B := fun s => checkCategoryUnit lg s c u) ?_ (fun _ => rfl) fun s t _ hv => by
      simp only [answer, hv]
    exact Good.of_val (fun r => categoryUnitValid lg r c u) fun s =>
      ⟨(checkCategoryUnit_ext lg s c u).1, fun hs => ⟨(checkCategoryUnit_ext lg s c u).queryInv lg hs, checkCategoryUnit_val lg hs.1.1 c u⟩⟩
  | create c u | objValidUnits c u | isValid c u x | getValue c u v x | checkValueFor c u x =>
    exact (obtain_good lg false c u).postprocess (fun _ => rfl) fun s t hr hv => by simp only [answer, hr, hv]
  | createU u => exact (obtainU_good lg u).map _
  | createC c =>
    intro r s t hs ht
    simp only [answer]
    rw [hs, ht]
    cases getCategoryInfo r c with
    | error e => exact ⟨hs, id, fun _ _ => rfl⟩
    | ok ci =>
      simp only
      exact (obtain_good lg false c ci.defaultUnit).postprocess_at hs ht rfl fun hv => by rw [hv]
  | add c1 u1 c2 u2 x y =>
    exact Good.bind2 (obtain_good lg false c1 u1) (obtain_good lg false c2 u2)
      (fun a b => (sumSimple_good lg a b x y).map (exMap fun t => .qvalue t.1 t.2.1 t.2.2))
      (fun s e h => by simp only [answer, h]) (fun s a e h h' => by simp only [answer, h, h'])
      (fun s a b h h' => by simp only [answer, h, h'])
  | prod op c1 u1 c2 u2 x y =>
    exact Good.bind2 (obtain_good lg false c1 u1) (obtain_good lg false c2 u2)
      (fun a b => (prodSimple_good lg op a b x y).map (exMap fun t => .descValue t.1 t.2))
      (fun s e h => by simp only [answer, h]) (fun s a e h h' => by simp only [answer, h, h'])
      (fun s a b h h' => by simp only [answer, h, h'])
  | sumd op e1 e2 x y =>
    exact Good.bind2 (obtainDict_good lg false e1) (obtainDict_good lg false e2)
      (fun d1 d2 => (sumDerived_good lg op d1 d2 x y).map (exMap fun t => .descValue t.1 t.2))
      (fun s e h => by simp only [answer, h]) (fun s a e h h' => by simp only [answer, h, h'])
      (fun s a b h h' => by simp only [answer, h, h'])
  | derived entries => exact (obtainDict_good lg false entries).map _
  | createDerived entries => exact (createDerived_good lg entries).map _
  -- every remaining query is answered as `(s, F s.reg)`: the state is returned as it is and only the registry is read
  | _ => exact (Good.pure fun _ => ()).postprocess (fun _ => rfl) fun s t hr _ => by simp only [answer, hr]

theorem answer_reg (s : CState) (q : Query) : (answer lg s q).1.reg = s.reg := (answer_good lg q s.reg s s rfl rfl).1

/-- the registration does not register a unit under a legacy spelling -/
def regClean : RegOp → Bool
  | .addUnitBase _ _ (.str u) => !isLegacy lg u
  | .addUnit _ _ (.str u) _ _ _ => !isLegacy lg u
  | _ => true

theorem step_noLegacy {r : Registry} (hr : RegInv r) (h : NoLegacySyms lg r) {op : RegOp}
    (hc : regClean lg op = true) : NoLegacySyms lg (step lg r op).1 := by
  rcases step_spec lg hr op with ⟨e, he⟩ | ⟨info, r', he, hi, hop⟩ | ⟨info, _, he⟩ <;> rw [he]
  · exact h
  · intro v w hv
    rw [hi.index, ixGet_append, Option.or_eq_some_iff] at hv
    rcases hv with ho | ⟨_, hv⟩
    · exact h v w ho
    · -- the new entry: its key is the unit symbol named in the call
      split at hv
      · rename_i hs
        subst hs
        rcases hop with ⟨_, rfl, _⟩ | ⟨_, _, _, _, rfl, _⟩ <;> simpa [regClean] using hc
      · cases hv
  · exact h

/-- the invariant of a session: well-formed registry, memo tables that agree with it, no unit
registered under a legacy spelling -/
def Inv (s : CState) : Prop := RegInv s.reg ∧ SInv lg s ∧ NoLegacySyms lg s.reg ∧ DInv lg s

/-- the step does not register a unit under a legacy spelling -/
def opClean : COp → Bool
  | .reg op => regClean lg op
  | .query _ => true

/-- the outcomes of a history when every step is asked on a database freshly built from the
registrations made so far -/
def freshOutputs (r : Registry) : List COp → List (Except ErrKind COut)
  | [] => []
  | .reg op :: ops => exMap COut.reg (step lg r op).2 :: freshOutputs (step lg r op).1 ops
  | .query q :: ops => exMap COut.ans (spec lg r q) :: freshOutputs r ops

theorem cstep_reg_out (s : CState) (op : RegOp) :
    (cstep lg s (.reg op)).2 = exMap COut.reg (step lg s.reg op).2 ∧ (cstep lg s (.reg op)).1.reg = (step lg s.reg op).1 := by
  simp only [cstep]
  cases (step lg s.reg op).2 <;> exact ⟨rfl, rfl⟩

/-- `opClean` for the steps of a session that may also ask arithmetic questions -/
def xopClean : XOp → Bool
  | .base op => opClean lg op
  | .arith _ => true

/-- `freshOutputs` with the arithmetic questions answered by `ar` on the registry built so far -/
def xfreshOutputs {α : Type} (ar : Registry → VExpr → α) (r : Registry) : List XOp → List (XOut α)
  | [] => []
  | .base (.reg op) :: ops => .base (exMap COut.reg (step lg r op).2) :: xfreshOutputs ar (step lg r op).1 ops
  | .base (.query q) :: ops => .base (exMap COut.ans (spec lg r q)) :: xfreshOutputs ar r ops
  | .arith e :: ops => .val (ar r e) :: xfreshOutputs ar r ops

theorem crun_regInv {s : CState} (h : RegInv s.reg) (ops : List COp) : RegInv (crun lg s ops).reg := by
  induction ops generalizing s with
  | nil => exact h
  | cons op ops ih =>
    refine ih ?_
    cases op with
    | query q => simp only [cstep]; rw [answer_reg]; exact h
    | reg op => rw [(cstep_reg_out lg s op).2]; exact step_inv lg h op

section Family
variable {σ ι ο : Type} (f : σ → ι → σ × ο)

theorem runN_apply (s : Nat → σ) (ops : List (Nat × ι)) (i : Nat) :
    runN f s ops i = frun f (s i) (partOf i ops) := by
  induction ops generalizing s with
  | nil => rfl
  | cons op ops ih =>
    obtain ⟨j, a⟩ := op
    simp only [runN, partOf]
    rw [ih]
    by_cases h : j = i
    · subst h; simp [stepN, frun]
    · have h' : ¬ i = j := fun e => h e.symm
      simp [stepN, h, h']

theorem outputsN_part (s : Nat → σ) (ops : List (Nat × ι)) (i : Nat) :
    partOf i (outputsN f s ops) = fouts f (s i) (partOf i ops) := by
  induction ops generalizing s with
  | nil => rfl
  | cons op ops ih =>
    obtain ⟨j, a⟩ := op
    simp only [outputsN, partOf]
    by_cases h : j = i
    · subst h; simp [stepN, fouts, ih]
    · have h' : ¬ i = j := fun e => h e.symm
      simp [stepN, h, h', ih]

end Family

theorem frun_cstep (s : CState) (ops : List COp) : frun (cstep lg) s ops = crun lg s ops := by
  induction ops generalizing s with
  | nil => rfl
  | cons op ops ih => simp only [frun, crun]; exact ih _

theorem fouts_cstep (s : CState) (ops : List COp) : fouts (cstep lg) s ops = coutputs lg s ops := by
  induction ops generalizing s with
  | nil => rfl
  | cons op ops ih => simp only [fouts, coutputs]; rw [ih]

theorem frun_xstep {α : Type} (ar : Registry → VExpr → α) (s : CState) (ops : List XOp) :
    frun (xstep lg ar) s ops = xrun lg ar s ops := by
  induction ops generalizing s with
  | nil => rfl
  | cons op ops ih => simp only [frun, xrun]; exact ih _

theorem fouts_xstep {α : Type} (ar : Registry → VExpr → α) (s : CState) (ops : List XOp) :
    fouts (xstep lg ar) s ops = xoutputs lg ar s ops := by
  induction ops generalizing s with
  | nil => rfl
  | cons op ops ih => simp only [fouts, xoutputs]; rw [ih]

/-- the outcomes and failure details of a history when every step is asked on a database freshly built
from the registrations made so far -/
def yfreshOutputs {α δ : Type} (ar : Registry → VExpr → α) (ed : Registry → Query → δ) (r : Registry) :
    List XOp → List (XOut α × Option δ)
  | [] => []
  | op :: ops =>
    (ystep lg ar ed (CState.fresh r) op).2 :: yfreshOutputs ar ed (xstep lg ar (CState.fresh r) op).1.reg ops

theorem fouts_ystep {α δ : Type} (ar : Registry → VExpr → α) (ed : Registry → Query → δ) (s : CState)
    (ops : List XOp) : fouts (ystep lg ar ed) s ops = youtputs lg ar ed s ops := by
  induction ops generalizing s with
  | nil => rfl
  | cons op ops ih => simp only [fouts, youtputs]; rw [ih]

theorem youtputs_fst {α δ : Type} (ar : Registry → VExpr → α) (ed : Registry → Query → δ) (s : CState)
    (ops : List XOp) : (youtputs lg ar ed s ops).map (·.1) = xoutputs lg ar s ops := by
  induction ops generalizing s with
  | nil => rfl
  | cons op ops ih => simp only [youtputs, xoutputs, List.map_cons, ystep]; rw [← ih]

theorem xstep_reg_fresh {α : Type} (ar : Registry → VExpr → α) (s : CState) (op : XOp) :
    (xstep lg ar (CState.fresh s.reg) op).1.reg = (xstep lg ar s op).1.reg := by
  cases op with
  | arith e => rfl
  | base op =>
    cases op with
    | query q => simp only [xstep, cstep, answer_reg]; rfl
    | reg op => simp only [xstep, (cstep_reg_out lg _ op).2]; rfl

end Barril.Reg
