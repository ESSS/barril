/-
A search tree keyed by `Nat` codes, built from a list inside Lean.  A scan of a 1548-row table costs the kernel
one step per row, a lookup in this tree about twenty; `find_ofList` says that the tree lookup IS the scan, so a
table predicate may be evaluated through the tree and still speaks of the list.  Core Lean only.
-/

namespace Barril

inductive KTree (α : Type) where
  | leaf
  | node (l : KTree α) (k : Nat) (v : α) (r : KTree α)

namespace KTree
variable {α : Type}

/-- an existing key keeps its value: the first of several entries with one key wins, as in a list scan -/
def insert (k : Nat) (v : α) : KTree α → KTree α
  | leaf => node leaf k v leaf
  | node l k' v' r =>
    match Nat.blt k k' with
    | true => node (l.insert k v) k' v' r
    | false =>
      match Nat.blt k' k with
      | true => node l k' v' (r.insert k v)
      | false => node l k' v' r

def find (x : Nat) : KTree α → Option α
  | leaf => none
  | node l k v r =>
    match Nat.blt x k with
    | true => l.find x
    | false =>
      match Nat.blt k x with
      | true => r.find x
      | false => some v

def ofList (key : α → Nat) (l : List α) : KTree α :=
  l.foldl (fun t a => t.insert (key a) a) leaf

theorem blt_eq_decide (a b : Nat) : Nat.blt a b = decide (a < b) := by
  cases h : Nat.blt a b
  · exact (decide_eq_false (fun hlt => by rw [Nat.blt_eq.mpr hlt] at h; cases h)).symm
  · exact (decide_eq_true (Nat.blt_eq.mp h)).symm

theorem find_node (l : KTree α) (k : Nat) (v : α) (r : KTree α) (x : Nat) :
    (node l k v r).find x = if x < k then l.find x else if k < x then r.find x else some v := by
  by_cases h1 : x < k <;> by_cases h2 : k < x <;> simp [find, blt_eq_decide, h1, h2]

theorem insert_node (l : KTree α) (k' : Nat) (v' : α) (r : KTree α) (k : Nat) (v : α) :
    (node l k' v' r).insert k v = if k < k' then node (l.insert k v) k' v' r
      else if k' < k then node l k' v' (r.insert k v) else node l k' v' r := by
  by_cases h1 : k < k' <;> by_cases h2 : k' < k <;> simp [insert, blt_eq_decide, h1, h2]

/-- a lookup after an insertion: what was there before, else the new entry under its own key.
No ordering invariant is needed: the lookup of `x` and the insertion of `k` walk the same path as long as
`x` and `k` compare alike with the keys they meet, and part only where `x ≠ k`. -/
theorem find_insert (k : Nat) (v : α) (x : Nat) (t : KTree α) :
    (t.insert k v).find x = (t.find x).or (if k = x then some v else none) := by
  induction t with
  | leaf =>
    have : (leaf : KTree α).insert k v = node leaf k v leaf := rfl
    rw [this, find_node]
    split
    · rw [if_neg (show ¬ k = x by omega)]; rfl
    · split
      · rw [if_neg (show ¬ k = x by omega)]; rfl
      · rw [if_pos (show k = x by omega)]; rfl
  | node l k' v' r ihl ihr =>
    rw [insert_node, find_node]
    split
    · rw [find_node]
      split
      · exact ihl
      · rw [if_neg (show ¬ k = x by omega)]; simp
    · split
      · rw [find_node]
        split
        · rw [if_neg (show ¬ k = x by omega)]; simp
        · split
          · exact ihr
          · rw [if_neg (show ¬ k = x by omega)]; simp
      · rw [find_node]
        split
        · rw [if_neg (show ¬ k = x by omega)]; simp
        · split
          · rw [if_neg (show ¬ k = x by omega)]; simp
          · simp

theorem find_foldl_insert (key : α → Nat) (x : Nat) (l : List α) (t : KTree α) :
    (l.foldl (fun t a => t.insert (key a) a) t).find x = (t.find x).or (l.find? (fun a => key a == x)) := by
  induction l generalizing t with
  | nil => simp
  | cons a as ih =>
    rw [List.foldl_cons, ih, find_insert, List.find?_cons, Option.or_assoc]
    by_cases h : key a = x
    · simp [h]
    · simp [h, beq_eq_false_iff_ne.mpr h]

/-- **the tree built from a list answers like a scan of the list** -/
theorem find_ofList (key : α → Nat) (l : List α) (x : Nat) :
    (ofList key l).find x = l.find? (fun a => key a == x) := by
  simp [ofList, find_foldl_insert, find]

end KTree
end Barril
