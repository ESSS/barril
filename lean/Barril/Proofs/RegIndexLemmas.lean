/-
C14 on the shipped POSC table: the registry invariant `DbRegInv` from the index facts (`Model/RegIndex.lean`): what the
search tree and the base index find are compact views of unit rows of the database, so the per-category predicate
evaluated through them implies the list-based clauses.
-/
import Barril.Model.RegIndex
import Barril.Proofs.RegTableLemmas
import Barril.Proofs.CompoundIndexLemmas

namespace Barril
open Barril.Reg

variable {t : CTree} {tbl : List CRow} {bases : List (Sym × CRow)} {db : Db}

/-- `find?` commutes with the two `core` views -/
theorem unit_of_bases (hcore : tbl.map CRow.core = db.units.map UnitRow.core)
    (hC : bases.all (fun p => baseL p.1 tbl == some p.2) = true) {q : Sym} {b : CRow} (h : lookB q bases = some b) :
    ∃ r, db.units.find? (·.qtype == q) = some r ∧ r.core = b.core := by
  have hb : baseL q tbl = some b := by simpa using List.all_eq_true.mp hC (q, b) (lookB_some h)
  have e1 : (tbl.map CRow.core).find? (fun x => x.2.1 == q) = (tbl.find? (·.qtype == q)).map CRow.core :=
    List.find?_map ..
  have e2 : (db.units.map UnitRow.core).find? (fun x => x.2.1 == q)
      = (db.units.find? (·.qtype == q)).map UnitRow.core := List.find?_map ..
  rw [hcore, e2, ← baseL_eq_find?, hb] at e1
  cases hf : db.units.find? (·.qtype == q) with
  | none => rw [hf] at e1; cases e1
  | some r => rw [hf] at e1; exact ⟨r, rfl, Option.some.inj e1⟩

theorem symInType_of_tree (hcore : tbl.map CRow.core = db.units.map UnitRow.core)
    (hB : t.toList.all (fun c => lookL c.sym tbl == some c) = true) {qt u : Sym}
    (h : inTypeT t qt u = true) : symInType db qt u = true := by
  unfold inTypeT at h
  split at h
  · rename_i c hf
    -- the row the (sound) tree finds is the compact view of a unit row with that symbol
    obtain ⟨hm, hs⟩ := CTree.find_some hf
    have hl : lookL c.sym tbl = some c := by simpa using List.all_eq_true.mp hB c hm
    obtain ⟨r, hr, e⟩ := mem_of_core_eq hcore (lookL_some hl).1
    simp only [UnitRow.core, CRow.core, Prod.mk.injEq] at e
    exact List.any_eq_true.mpr ⟨r, hr, by simpa [e.1, e.2.1, hs] using h⟩
  · cases h

/-- **the registry invariant of a shipped table from the index facts**: no per-row list scans are needed -/
theorem dbRegInv_of_index (hcore : tbl.map CRow.core = db.units.map UnitRow.core)
    (hA : tbl.all (fun c => t.find c.sym == some c) = true)
    (hP : tbl.map CRow.pos = List.range tbl.length)
    (hB : t.toList.all (fun c => lookL c.sym tbl == some c) = true)
    (hC : bases.all (fun p => baseL p.1 tbl == some p.2) = true)
    (hD : tbl.all (fun c => (lookB c.qtype bases).isSome) = true)
    (hI : bases.all (fun p => p.2.ident) = true)
    (hcats : db.cats.all (CatRow.regOkT t bases db) = true) : DbRegInv db := by
  refine ⟨fun w hw => find?_sym_self_of_index hcore hA hP hw, ?_, ?_⟩
  · intro w hw
    -- the base index has the quantity type of the compact row of `w`, with an identity
    obtain ⟨c, hc, e⟩ := mem_of_core_eq' hcore hw
    have hq : c.qtype = w.qtype := by
      simp only [UnitRow.core, CRow.core, Prod.mk.injEq] at e
      exact e.2.1
    obtain ⟨bc, hl⟩ := Option.isSome_iff_exists.mp (List.all_eq_true.mp hD c hc)
    obtain ⟨b, hf, hcore'⟩ := unit_of_bases hcore hC hl
    refine ⟨b, hq ▸ hf, ?_⟩
    simp only [UnitRow.core, CRow.core, Prod.mk.injEq] at hcore'
    exact hcore'.2.2.2.2.2.trans (List.all_eq_true.mp hI (c.qtype, bc) (lookB_some hl))
  · intro c hc
    have h := List.all_eq_true.mp hcats c hc
    simp only [CatRow.regOkT, Bool.and_eq_true, beq_iff_eq] at h
    obtain ⟨⟨⟨⟨⟨h1, h2⟩, h3⟩, h4⟩, h5⟩, h6⟩ := h
    obtain ⟨b, hl⟩ := Option.isSome_iff_exists.mp h2
    obtain ⟨r, hf, _⟩ := unit_of_bases hcore hC hl
    refine ⟨h1, List.any_eq_true.mpr ⟨r, List.mem_of_find?_eq_some hf, by simpa using List.find?_some hf⟩,
      symInType_of_tree hcore hB h3, ?_, h5, h6⟩
    intro vu hvu u hu
    rw [hvu] at h4
    exact symInType_of_tree hcore hB (List.all_eq_true.mp h4 u hu)

end Barril
