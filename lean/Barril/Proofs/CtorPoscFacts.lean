/-
What the C19 examples need to know of the default database.  Each fact is one kernel evaluation over the unit
table appended to the right (`poscDb_flat`); the examples then follow from the form theorems, which also shows
that the hypotheses of those theorems are met.
-/
import Barril.Proofs.CtorLemmas
import Barril.Gen.ThmFlat

namespace Barril.Ctor.Posc
open Barril Barril.Gen

theorem m_default : getDefaultCategory poscDb (Sym.ofString "m") = .ok (some (Sym.ofString "length")) := by
  rw [poscDb_flat]; decide +kernel

theorem length_ne : Sym.ofString "length" ≠ 0 := by decide +kernel

theorem length_m : newQuantity poscDb (.str (Sym.ofString "length") none) (Sym.ofString "m")
    = .ok (Qty.simple (Sym.ofString "length") (Sym.ofString "m")) := by
  rw [poscDb_flat]; decide +kernel

theorem depth_m : newQuantity poscDb (.str (Sym.ofString "depth") none) (Sym.ofString "m")
    = .ok (Qty.simple (Sym.ofString "depth") (Sym.ofString "m")) := by
  rw [poscDb_flat]; decide +kernel

theorem unknown_unit :
    newQuantity poscDb (.str unknownQType none) unknownUnit = .ok (Qty.simple unknownQType unknownUnit) := by
  rw [poscDb_flat]; decide +kernel

end Barril.Ctor.Posc
