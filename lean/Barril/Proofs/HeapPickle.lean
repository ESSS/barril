/-
C13, pickle round trips at full strength: the interning invariant of the heap model (`Barril/Model/Heap.lean`).
What `pickle.loads(pickle.dumps(quantity))` returns on a state that satisfies it is `pickleQuantity_same`
(`Proofs/HeapInv.lean`).

`CInv db s` is the heap-model counterpart of C07's `Inv` (`Barril/Proofs/InternLemmas.lean`, over
`Barril/Model/Intern.lean`): every quantity object is "as constructed" (its cached strings agree with its dict; a
simple quantity is one `[unit, 1]` list of a unit that is valid for its category; a derived one is not of the
collapsing shape), and every entry of `quantities_cache` points to a quantity with exactly the content its key
names.  The two models have different state types (`Intern.State` keeps frozen/unfrozen cells and request
forms, `Heap.St` keeps value objects and containers), so C07's theorem cannot be applied to a `Heap.St`
directly; the invariant is restated here for `Heap.St`.
-/
import Barril.Proofs.HeapEval

namespace Barril.Heap

theorem liftE_ok {α : Type} {x : Except ErrKind α} {s s' : St} {a : α} (h : liftE x s = .ok (a, s')) :
    s = s' ∧ x = .ok a := by
  unfold liftE at h
  cases x with
  | error e => cases h
  | ok v => cases h; exact ⟨rfl, rfl⟩

theorem cacheGet_ok {k : QKey} {s s' : St} {r : Option Nat} (h : cacheGet k s = .ok (r, s')) :
    s = s' ∧ ∀ q, r = some q → (k, q) ∈ s.cache := by
  unfold cacheGet at h
  cases h
  refine ⟨rfl, fun q hq => ?_⟩
  cases hf : s.cache.find? (fun x => x.1 == k) with
  | none => rw [hf] at hq; cases hq
  | some p =>
    rw [hf] at hq
    simp only [Option.map_some, Option.some.injEq] at hq
    have hm := List.mem_of_find?_eq_some hf
    have hk := List.find?_some hf
    have hk' : p.1 = k := by simpa using hk
    obtain ⟨k', q'⟩ := p
    simp only at hk' hq
    subst hk' hq
    exact hm

/-- `copy.deepcopy` of a dict: the copy reads like the original -/
theorem copyPairs_items (es0 : List (Sym × Ref)) {s sa : St} {es : List (Sym × Ref)} {items : List (Sym × Sym × Int)}
    (h : copyPairs es0 s = .ok (es, sa)) (hi : itemsOf s.heap es0 = some items) : itemsOf sa.heap es = some items := by
  induction es0 generalizing s sa es items with
  | nil => cases h; exact hi
  | cons e rest ih =>
    obtain ⟨u, x, ritems, hr, hrest, rfl⟩ := itemsOf_cons.mp hi
    unfold copyPairs at h
    obtain ⟨p, s1, h1, h2⟩ := bind_ok h
    rw [readPair_of hr] at h1
    cases h1
    obtain ⟨r', s2, h3, h4⟩ := bind_ok h2
    unfold allocM at h3
    cases h3
    obtain ⟨es', s3, h5, h6⟩ := bind_ok h4
    cases h6
    -- the new cell is still there after the rest has been copied
    obtain ⟨t, ht⟩ := ((copyPairs_step (L := .grow) rest).run _ _ _ trivial h5).1.heap
    have hcell : sa.heap[s.heap.length]? = some (.pair u x) := by rw [ht]; simp
    exact itemsOf_cons.mpr
      ⟨u, x, ritems, hcell, ih h5 (itemsOf_mono (fun _ _ hc => getElem?_append_some hc) rest hrest), rfl⟩

/-- a quantity object as `Quantity.__init__` leaves it -/
structure QShape (db : Db) (qs : QSnap) : Prop where
  comp : qs.comp = qs.items
  simple : qs.derived = false → ∃ c u, qs.items = [(c, u, 1)] ∧ db.categoryUnitValid c u = true
  derived : qs.derived = true → ∀ c u, qs.items ≠ [(c, u, 1)]

/-- what an entry of `quantities_cache` promises (a key with category `None` / an unregistered category, or a
legacy spelling of the unit, promises nothing here: such keys are never looked up by an unpickle) -/
def KeyOK (db : Db) (s : St) : QKey → Nat → Prop
  | .simple c u cap, q => db.categoryUnitValid c u = true →
      qsnap s q = some ⟨[(c, u, 1)], cap, false, [(c, u, 1)]⟩
  | .derived items cap, q => qsnap s q = some ⟨items, cap, true, items⟩

structure CInv (db : Db) (s : St) : Prop where
  quants : ∀ q o, s.quants[q]? = some o → ∃ qs, qsnap s q = some qs ∧ QShape db qs
  cache : ∀ k q, (k, q) ∈ s.cache → KeyOK db s k q

theorem CInv.empty (db : Db) : CInv db St.empty :=
  ⟨fun q o h => by simp [St.empty] at h, fun k q h => by simp [St.empty] at h⟩

theorem qsnap_new {s : St} {o : QObj} {items : List (Sym × Sym × Int)} (hi : itemsOf s.heap o.entries = some items) :
    qsnap { s with quants := s.quants ++ [o] } s.quants.length = some ⟨items, o.caption, o.derived, o.comp⟩ := by
  unfold qsnap
  simp [hi]

end Barril.Heap
