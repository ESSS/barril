/-
Lemmas for C09/C10 (engine `Ops`) and the notions their statements use: the law `Env.Lawful`, the normal form of
quantities (`Matched`, `Normal`), the database operations with the empty quantity, `Array op Array` and
`Scalar op Scalar` as chains of fallible steps; at the end the small database of the examples.
-/
import Barril.Model.Ops

namespace Barril.Ops
open Barril

/-- lets `decide` settle the equations between results (`Except ErrKind Out`) in the examples -/
instance decEqExcept {ε α : Type} [DecidableEq ε] [DecidableEq α] : DecidableEq (Except ε α)
  | .ok a, .ok b => if h : a = b then isTrue (by rw [h]) else isFalse (fun e => h (by cases e; rfl))
  | .error a, .error b => if h : a = b then isTrue (by rw [h]) else isFalse (fun e => h (by cases e; rfl))
  | .ok _, .error _ => isFalse (fun e => by cases e)
  | .error _, .ok _ => isFalse (fun e => by cases e)

theorem bind_eq_ok {α β : Type} {r : Except ErrKind α} {f : α → Except ErrKind β} {b : β} :
    r.bind f = .ok b ↔ ∃ a, r = .ok a ∧ f a = .ok b := by
  cases r <;> simp [Except.bind]

theorem mapE_cons_eq_ok {α β : Type} (f : α → Except ErrKind β) (a : α) (as : List α) (r : List β) :
    mapE f (a :: as) = .ok r ↔ ∃ b bs, r = b :: bs ∧ f a = .ok b ∧ mapE f as = .ok bs := by
  simp only [mapE]
  cases f a with
  | error e => simp
  | ok b =>
    cases mapE f as with
    | error e => simp
    | ok bs => simp [eq_comm]

theorem mapE_eq_ok_iff {α β : Type} (f : α → Except ErrKind β) :
    ∀ (l : List α) (r : List β), mapE f l = .ok r ↔
      r.length = l.length ∧ ∀ i (h1 : i < l.length) (h2 : i < r.length), f l[i] = .ok r[i]
  | [], r => by cases r <;> simp [mapE]
  | a :: as, r => by
    rw [mapE_cons_eq_ok]
    constructor
    · rintro ⟨b, bs, rfl, hb, hbs⟩
      obtain ⟨hl, hall⟩ := (mapE_eq_ok_iff f as bs).mp hbs
      refine ⟨by simp [hl], fun i h1 h2 => ?_⟩
      cases i with
      | zero => exact hb
      | succ i => exact hall i (by simpa using h1) (by simpa using h2)
    · rintro ⟨hlen, h⟩
      cases r with
      | nil => simp at hlen
      | cons b bs =>
        exact ⟨b, bs, rfl, h 0 (by simp) (by simp), (mapE_eq_ok_iff f as bs).mpr
          ⟨by simpa using hlen, fun i h1 h2 => h (i + 1) (by simpa using h1) (by simpa using h2)⟩⟩

theorem mapE_ok_length {α β : Type} {f : α → Except ErrKind β} {l : List α} {r : List β}
    (h : mapE f l = .ok r) : r.length = l.length := ((mapE_eq_ok_iff f l r).mp h).1

theorem mapE_map {α β γ : Type} (f : β → Except ErrKind γ) (g : α → β) :
    ∀ l : List α, mapE f (l.map g) = mapE (fun a => f (g a)) l
  | [] => rfl
  | a :: as => by simp [mapE, mapE_map f g as]

theorem mapE_congr {α β : Type} {f g : α → Except ErrKind β} :
    ∀ {l : List α}, (∀ a ∈ l, f a = g a) → mapE f l = mapE g l
  | [], _ => rfl
  | a :: as, h => by
    simp only [mapE, h a (by simp), mapE_congr (l := as) (fun x hx => h x (by simp [hx]))]

theorem mapE_total {α β : Type} (g : α → β) : ∀ l : List α, mapE (fun a => .ok (g a)) l = .ok (l.map g)
  | [] => rfl
  | a :: as => by simp [mapE, mapE_total g as]

theorem index_of_mapE {α : Type} {g : α → Except ErrKind Rat} {l : List α} {vs : List Rat} (hm : mapE g l = .ok vs)
    (q : Quantity) (kind : Kind) :
    (∀ i (hi : i < l.length), ∃ v, (Out.array q kind vs).index i = .ok v ∧ g l[i] = .ok v) ∧
    (∀ i, l.length ≤ i → (Out.array q kind vs).index i = .error .index) := by
  obtain ⟨hl, hall⟩ := (mapE_eq_ok_iff _ _ _).mp hm
  refine ⟨fun i hi => ⟨vs[i]'(by omega), ?_, hall i hi (by omega)⟩, fun i hi => ?_⟩
  · simp [Out.index, List.getElem?_eq_getElem (show i < vs.length by omega)]
  · simp [Out.index, List.getElem?_eq_none (show vs.length ≤ i by omega)]

theorem SimpleScalar.getValue_eq {env : Env} {cat unit u qt : Sym} (hqt : env.qtype cat = .ok qt)
    (hcq : ∀ x, env.convert cat unit u x = env.convert qt unit u x) (x : Rat) :
    (⟨cat, unit, x⟩ : SimpleScalar).getValue env u = if unit == u then .ok x else env.convert cat unit u x := by
  simp only [SimpleScalar.getValue, hqt, hcq]

/-- the law of `UnitDatabase.Convert` the number theorems use: "same unit: no conversion needed" -/
structure Env.Lawful (env : Env) : Prop where
  convert_same : ∀ qt u x, env.convert qt u u x = .ok x

theorem Env.ofDb_lawful (db : Db) : (Env.ofDb db).Lawful :=
  ⟨fun qt u x => by simp [Env.ofDb, Db.convert]⟩

theorem ofDb_convert_of_typeOf {db : Db} {c t : Sym} (h : db.typeOf c = db.typeOf t) (u v : Sym) (x : Rat) :
    (Env.ofDb db).convert c u v x = (Env.ofDb db).convert t u v x := by
  simp [Env.ofDb, Db.convert, h]

/-- every category is registered and two items of one quantity type carry the same unit: the state
`_MatchQuantities` leaves behind, hence the form of every quantity that an operation returns -/
structure Matched (env : Env) (q : Quantity) : Prop where
  known : ∀ e ∈ q, ∃ t, env.qtype e.cat = .ok t
  same : ∀ e1 ∈ q, ∀ e2 ∈ q, env.qtype e1.cat = env.qtype e2.cat → e1.unit = e2.unit

/-- normal form: matched, the categories are the keys of a dict, no zero exponent and no unit whose
exponents cancel (both are removed by every multiplication/division), every item valid -/
structure Normal (env : Env) (q : Quantity) : Prop extends Matched env q where
  nodup : (q.map (·.cat)).Nodup
  nonzero : ∀ e ∈ q, e.exp ≠ 0 ∧ unitTotal q e.unit ≠ 0
  valid : ∀ e ∈ q, env.checkCatUnit e.cat e.unit = .ok ()

theorem andThen_convert_same {env : Env} (hl : env.Lawful) (tr : Tr) (qt u : Sym) :
    tr.andThen (env.convert qt u u) = tr := by
  funext x
  unfold Tr.andThen
  cases tr x with
  | ok y => simp [hl.convert_same]
  | error e => rfl

theorem matchDict_matched {env : Env} (hl : env.Lawful) (dv : Bool) :
    ∀ (es : List Entry) (found : Found) (tr : Tr),
      (∀ e ∈ es, ∃ t, env.qtype e.cat = .ok t) →
      (∀ e1 ∈ es, ∀ e2 ∈ es, env.qtype e1.cat = env.qtype e2.cat → e1.unit = e2.unit) →
      (∀ e ∈ es, ∀ t u, env.qtype e.cat = .ok t → found.get t = some u → u = e.unit) →
      ∃ f', matchDict env dv found es tr = .ok (f', es, tr)
  | [], found, tr, _, _, _ => ⟨found, rfl⟩
  | e :: es, found, tr, hk, hs, hf => by
    obtain ⟨t, ht⟩ := hk e (by simp)
    unfold matchDict
    simp only [ht]
    cases hg : found.get t with
    | none =>
      have ih := matchDict_matched hl dv es ((t, e.unit) :: found) tr
        (fun e' he' => hk e' (by simp [he']))
        (fun e1 h1 e2 h2 => hs e1 (by simp [h1]) e2 (by simp [h2]))
        (fun e' he' t' u ht' hu => by
          unfold Found.get at hu
          by_cases htt : (t == t') = true
          · simp only [htt, ↓reduceIte, Option.some.injEq] at hu
            have : t = t' := by simpa using htt
            subst this
            rw [← hu]
            exact hs e (by simp) e' (by simp [he']) (by rw [ht, ht'])
          · simp only [htt, Bool.false_eq_true, ↓reduceIte] at hu
            exact hf e' (by simp [he']) t' u ht' hu)
      obtain ⟨f', hf'⟩ := ih
      exact ⟨f', by simp [hf']⟩
    | some used =>
      have hu : used = e.unit := hf e (by simp) t used ht hg
      subst hu
      have hc : convertMatchingExp env t e.unit e.unit e.exp dv = .ok (env.convert t e.unit e.unit) := by
        simp [convertMatchingExp]
      have ih := matchDict_matched hl dv es found tr
        (fun e' he' => hk e' (by simp [he']))
        (fun e1 h1 e2 h2 => hs e1 (by simp [h1]) e2 (by simp [h2]))
        (fun e' he' t' u ht' hu => hf e' (by simp [he']) t' u ht' hu)
      obtain ⟨f', hf'⟩ := ih
      exact ⟨f', by simp [hc, andThen_convert_same hl, hf']⟩

theorem matchDict_nil (env : Env) (dv : Bool) (found : Found) (tr : Tr) :
    matchDict env dv found [] tr = .ok (found, [], tr) := rfl

theorem matchQuantities_empty {env : Env} (hl : env.Lawful) {q : Quantity} (h : Matched env q) :
    matchQuantities env q [] = .ok (q, [], Tr.ident, Tr.ident) ∧
    matchQuantities env [] q = .ok ([], q, Tr.ident, Tr.ident) := by
  obtain ⟨f, hf⟩ := matchDict_matched hl (decide (1 < q.length)) q [] Tr.ident h.known h.same
    (fun _ _ _ _ _ hu => by simp [Found.get] at hu)
  simp [matchQuantities, hf, matchDict]

theorem composingUnits_isEmpty (q : Quantity) : (composingUnits q).isEmpty = q.isEmpty := by
  cases q <;> simp [composingUnits]

theorem sameSet_nil_right (a : List (Sym × Int)) : sameSet a [] = a.isEmpty := by
  cases a <;> simp [sameSet]

theorem sameSet_nil_left (a : List (Sym × Int)) : sameSet [] a = a.isEmpty := by
  cases a <;> simp [sameSet]

theorem opSame_empty {env : Env} (hl : env.Lawful) {q : Quantity} (h : Matched env q) :
    opSame env q emptyQ = .ok (q, Tr.ident, Tr.ident) ∧ opSame env emptyQ q = .ok (q, Tr.ident, Tr.ident) := by
  cases q with
  | nil => exact ⟨rfl, rfl⟩
  | cons e es =>
    obtain ⟨hr, hl'⟩ := matchQuantities_empty hl h
    simp [opSame, emptyQ, hr, hl', sameSet_nil_right, sameSet_nil_left, composingUnits]

theorem mergeAll_nil_right (opExp : Int → Int → Int) (c : List Entry) : mergeAll opExp c [] = .ok c := rfl

theorem mergeEntry_fresh (opExp : Int → Int → Int) :
    ∀ (acc : List Entry) (e2 : Entry), (∀ e ∈ acc, e.cat ≠ e2.cat) →
      mergeEntry opExp acc e2 = .ok (acc ++ [{ e2 with exp := opExp 0 e2.exp }])
  | [], _, _ => rfl
  | e1 :: rest, e2, h => by
    have h1 : (e1.cat == e2.cat) = false := by simpa using h e1 (by simp)
    simp [mergeEntry, h1, mergeEntry_fresh opExp rest e2 (fun e he => h e (by simp [he]))]

theorem mergeAll_fresh (opExp : Int → Int → Int) :
    ∀ (q acc : List Entry), (q.map (·.cat)).Nodup → (∀ e ∈ acc, ∀ e2 ∈ q, e.cat ≠ e2.cat) →
      mergeAll opExp acc q = .ok (acc ++ q.map (fun e => { e with exp := opExp 0 e.exp }))
  | [], acc, _, _ => by simp [mergeAll]
  | e2 :: es, acc, hn, hd => by
    have hn2 : (∀ x ∈ es, ¬ x.cat = e2.cat) ∧ (es.map (·.cat)).Nodup := by simpa using hn
    have hn' := hn2.2
    have hnot : ∀ e ∈ es, e.cat ≠ e2.cat := hn2.1
    unfold mergeAll
    rw [mergeEntry_fresh opExp acc e2 (fun e he => hd e he e2 (by simp))]
    simp only
    rw [mergeAll_fresh opExp es _ hn' (fun e he e' he' => by
      rcases List.mem_append.mp he with h | h
      · exact hd e h e' (by simp [he'])
      · simp only [List.mem_singleton] at h
        subst h
        exact fun heq => hnot e' he' heq.symm)]
    simp

theorem createDerived_valid {env : Env} :
    ∀ {c : List Entry}, (∀ e ∈ c, env.checkCatUnit e.cat e.unit = .ok ()) → createDerived env c = .ok c
  | [], _ => rfl
  | e :: es, h => by
    simp [createDerived, h e (by simp), createDerived_valid (c := es) (fun x hx => h x (by simp [hx]))]

theorem dropZeros_nonzero {c : List Entry} (h : ∀ e ∈ c, e.exp ≠ 0 ∧ unitTotal c e.unit ≠ 0) :
    dropZeros c = c := by
  unfold dropZeros
  apply List.filter_eq_self.mpr
  intro e he
  have := h e he
  simp [this.1, this.2]

def recipQ (q : Quantity) : Quantity := q.map (fun e => { e with exp := 0 - e.exp })

theorem unitTotal_recipQ (q : Quantity) (u : Sym) : unitTotal (recipQ q) u = - unitTotal q u := by
  induction q with
  | nil => simp [recipQ, unitTotal]
  | cons e es ih =>
    simp only [recipQ, List.map_cons, unitTotal] at ih ⊢
    rw [ih]
    split <;> omega

theorem opNew_empty_right {env : Env} (hl : env.Lawful) (opExp : Int → Int → Int) {q : Quantity}
    (h : Normal env q) : opNew env opExp q emptyQ = .ok (q, Tr.ident, Tr.ident) := by
  unfold opNew emptyQ
  rw [(matchQuantities_empty hl h.toMatched).1]
  simp [mergeAll, dropZeros_nonzero h.nonzero, createDerived_valid h.valid]

/-- with the empty quantity on the left every item is entered afresh, its exponent combined with 0; the items that
result must again be free of zeros (they are for `+`, and for `-`, which negates) -/
theorem opNew_empty_left {env : Env} (hl : env.Lawful) (opExp : Int → Int → Int) {q q' : Quantity} (h : Normal env q)
    (hq' : q.map (fun e => { e with exp := opExp 0 e.exp }) = q')
    (hnz : ∀ e ∈ q', e.exp ≠ 0 ∧ unitTotal q' e.unit ≠ 0) :
    opNew env opExp emptyQ q = .ok (q', Tr.ident, Tr.ident) := by
  have hv : ∀ e ∈ q', env.checkCatUnit e.cat e.unit = .ok () := by
    subst hq'
    intro e he
    obtain ⟨e0, he0, rfl⟩ := List.mem_map.mp he
    exact h.valid e0 he0
  unfold opNew emptyQ
  rw [(matchQuantities_empty hl h.toMatched).2]
  simp only
  rw [mergeAll_fresh _ q [] h.nodup (by simp), List.nil_append, hq']
  simp only [dropZeros_nonzero hnz, createDerived_valid hv]

/-- the value of `vop` where it is defined -/
def vval : Op → Rat → Rat → Rat
  | .sum, a, b => a + b
  | .sub, a, b => a - b
  | .mul, a, b => a * b
  | .div, a, b => a / b
  | .floordiv, a, b => (((a / b).floor : Int) : Rat)

theorem vop_ok {op : Op} {a b : Rat} (h : isDivision op = true → b ≠ 0) : vop op a b = .ok (vval op a b) := by
  cases op <;> simp_all [vop, vval, isDivision]

theorem vop_zero {op : Op} (a : Rat) (h : isDivision op = true) : vop op a 0 = .error .other := by
  cases op <;> simp_all [vop, isDivision]

theorem applyOp_ident (op : Op) (x y : Rat) : applyOp op Tr.ident Tr.ident x y = vop op x y := rfl

theorem arrayCompute_ident {env : Env} {op : Op} {q1 q2 q : Quantity} (r1 r2 : Raw)
    (hf : opFunc env op q1 q2 = .ok (q, Tr.ident, Tr.ident)) :
    arrayCompute env op q1 q2 r1 r2 =
      if genIsNumpy r1 r2 then
        match broadcastPairs r1 r2 with
        | .error e => .error e
        | .ok ps => (mapE (fun p => vop op p.1 p.2) ps).map (Out.array q .nd)
      else (mapE (fun p => vop op p.1 p.2) (genPairs r1 r2)).map
        (Out.array q (if genIsTuple r1 r2 then .tuple else .list)) := by
  obtain ⟨z, hz⟩ : ∃ z, applyOp op Tr.ident Tr.ident 1 1 = .ok z := by
    cases op <;> simp [applyOp, Tr.ident, vop]
  unfold arrayCompute
  simp only [hf, hz]
  split
  · cases broadcastPairs r1 r2 with
    | error e => rfl
    | ok ps =>
      simp only
      have : (fun p : Rat × Rat => applyOp op Tr.ident Tr.ident p.1 p.2) = (fun p => vop op p.1 p.2) := rfl
      rw [this]
      cases mapE (fun p : Rat × Rat => vop op p.1 p.2) ps <;> rfl
  · have : (fun p : Rat × Rat => applyOp op Tr.ident Tr.ident p.1 p.2) = (fun p => vop op p.1 p.2) := rfl
    rw [this]
    cases mapE (fun p : Rat × Rat => vop op p.1 p.2) (genPairs r1 r2) with
    | error e => rfl
    | ok vs => cases (genPairs r1 r2).isEmpty <;> rfl

/-- the five database operations with `Quantity.CreateEmpty()`: the other quantity as it is, identity conversions;
only `empty / q` and `empty // q` negate the exponents -/
theorem opFunc_empty {env : Env} (hl : env.Lawful) (op : Op) {q : Quantity} (hq : Normal env q) :
    opFunc env op q emptyQ = .ok (q, Tr.ident, Tr.ident) ∧
    opFunc env op emptyQ q = .ok (if isDivision op then recipQ q else q, Tr.ident, Tr.ident) := by
  have hmul := opNew_empty_left hl (· + ·) hq (q' := q) (by simp) hq.nonzero
  have hdiv := opNew_empty_left hl (· - ·) hq (q' := recipQ q) rfl (fun e he => by
    obtain ⟨e0, he0, rfl⟩ := List.mem_map.mp he
    have := hq.nonzero e0 he0
    rw [unitTotal_recipQ]
    simp only
    omega)
  cases op <;> simp [opFunc, isDivision, opSame_empty hl hq.toMatched, opNew_empty_right hl _ hq, hmul, hdiv]

theorem scalarDoOp_quantity {env : Env} {q : Quantity} {v : Rat} {p1 p2 : Operand} {op : Op} {o : Out}
    (h : scalarDoOp env q v p1 p2 op = .ok o) : ∃ q' v', o = .scalar q' v' := by
  unfold scalarDoOp at h
  repeat' split at h
  all_goals first
    | (cases h; exact ⟨_, _, rfl⟩)
    | cases h

theorem arrayCompute_quantity {env : Env} {op : Op} {q1 q2 : Quantity} {r1 r2 : Raw} {o : Out}
    (h : arrayCompute env op q1 q2 r1 r2 = .ok o) : ∃ q' k' vs', o = .array q' k' vs' := by
  unfold arrayCompute at h
  repeat' split at h
  all_goals first
    | (cases h; exact ⟨_, _, _, rfl⟩)
    | cases h

theorem arrayDoOp_quantity {env : Env} {p1 p2 : Operand} {op : Op} {o : Out}
    (h : arrayDoOp env p1 p2 op = .ok o) : ∃ q' k' vs', o = .array q' k' vs' := by
  unfold arrayDoOp at h
  repeat' split at h
  all_goals first
    | exact arrayCompute_quantity h
    | cases h

def resultKind (k1 k2 : Kind) : Kind :=
  if k1 = .nd ∨ k2 = .nd then .nd else if k1 = .tuple ∧ k2 = .tuple then .tuple else .list

theorem scalar_op_scalar (env : Env) (d : Bool) (op : Op) (q1 q2 : Quantity) (x y : Rat) :
    binop env d op (.scalar q1 x) (.scalar q2 y) =
      (opFunc env op q1 q2).bind fun r => (applyOp op r.2.1 r.2.2 x y).bind fun z => .ok (.scalar r.1 z) := by
  simp only [binop, scalarDoOp, isNumber, quantityOf, valueOf]
  cases opFunc env op q1 q2 with
  | error e => rfl
  | ok r =>
    obtain ⟨q, t1, t2⟩ := r
    simp only [Except.bind]
    cases applyOp op t1 t2 x y <;> rfl

theorem array_op_array (env : Env) (d : Bool) (op : Op) (q1 q2 : Quantity) (k1 k2 : Kind) (xs ys : List Rat) :
    binop env d op (.array q1 k1 xs) (.array q2 k2 ys) =
      if xs.length ≠ ys.length then .error .value
      else arrayCompute env op q1 q2 (.seq k1 xs) (.seq k2 ys) := by
  simp [binop, arrayDoOp, rawOf, valuesOf, quantityOf, rawLen]

/-- `Array op Array` on value lists of one length, as a chain of steps each of which can fail: the database
operation, the value lambda on every pair, and - only in the per-element branch (the result is no ndarray) and only
for operands without values - the dummy amounts `(1.0, 1.0)` -/
theorem arrayCompute_seq (env : Env) (op : Op) (q1 q2 : Quantity) (k1 k2 : Kind) (xs ys : List Rat)
    (hlen : xs.length = ys.length) :
    arrayCompute env op q1 q2 (.seq k1 xs) (.seq k2 ys) =
      (opFunc env op q1 q2).bind fun r =>
        (mapE (fun p => applyOp op r.2.1 r.2.2 p.1 p.2) (xs.zip ys)).bind fun zs =>
          (if resultKind k1 k2 ≠ .nd ∧ xs = [] then applyOp op r.2.1 r.2.2 1 1 else .ok 0).bind fun _ =>
            .ok (.array r.1 (resultKind k1 k2) zs) := by
  have hn : genIsNumpy (.seq k1 xs) (.seq k2 ys) = decide (resultKind k1 k2 = .nd) := by
    cases k1 <;> cases k2 <;> rfl
  have hk : resultKind k1 k2 ≠ .nd →
      (if genIsTuple (.seq k1 xs) (.seq k2 ys) then Kind.tuple else Kind.list) = resultKind k1 k2 := by
    cases k1 <;> cases k2 <;> simp [genIsTuple, Raw.iterates, Raw.isTuple, resultKind]
  have hb : broadcastPairs (.seq k1 xs) (.seq k2 ys) = .ok (xs.zip ys) := by simp [broadcastPairs, hlen]
  have he : (xs.zip ys).isEmpty = decide (xs = []) := by
    cases xs <;> cases ys <;> simp_all
  unfold arrayCompute
  cases opFunc env op q1 q2 with
  | error e => rfl
  | ok r =>
    obtain ⟨q, t1, t2⟩ := r
    simp only [Except.bind, hn, hb, genPairs, he]
    by_cases hv : resultKind k1 k2 = .nd
    · simp only [hv, decide_true, ↓reduceIte, ne_eq, not_true_eq_false, false_and]
      cases mapE (fun p : Rat × Rat => applyOp op t1 t2 p.1 p.2) (xs.zip ys) <;> rfl
    · simp only [hv, decide_false, Bool.false_eq_true, ↓reduceIte, hk hv, ne_eq, not_false_eq_true, true_and]
      cases mapE (fun p : Rat × Rat => applyOp op t1 t2 p.1 p.2) (xs.zip ys) with
      | error e => rfl
      | ok zs =>
        by_cases hx : xs = []
        · simp only [hx, decide_true, ↓reduceIte]
          cases applyOp op t1 t2 1 1 <;> rfl
        · simp only [hx, decide_false, Bool.false_eq_true, ↓reduceIte]

theorem array_op_array_ok_iff (env : Env) (d : Bool) (op : Op) (q1 q2 : Quantity) (k1 k2 : Kind)
    (xs ys : List Rat) (o : Out) :
    binop env d op (.array q1 k1 xs) (.array q2 k2 ys) = .ok o ↔
      xs.length = ys.length ∧ ∃ q t1 t2 zs, opFunc env op q1 q2 = .ok (q, t1, t2) ∧
        (resultKind k1 k2 ≠ .nd → xs = [] → ∃ z, applyOp op t1 t2 1 1 = .ok z) ∧
        mapE (fun p => applyOp op t1 t2 p.1 p.2) (xs.zip ys) = .ok zs ∧
        o = .array q (resultKind k1 k2) zs := by
  rw [array_op_array]
  by_cases hlen : xs.length = ys.length
  case neg => simp [hlen]
  simp only [hlen, ne_eq, not_true_eq_false, ↓reduceIte, true_and]
  rw [arrayCompute_seq env op q1 q2 k1 k2 xs ys hlen]
  simp only [bind_eq_ok]
  constructor
  · rintro ⟨⟨q, t1, t2⟩, hf, zs, hm, z, hp, ho⟩
    exact ⟨q, t1, t2, zs, hf, fun hk hx => ⟨z, by rwa [if_pos ⟨hk, hx⟩] at hp⟩, hm, by cases ho; rfl⟩
  · rintro ⟨q, t1, t2, zs, hf, hp, hm, rfl⟩
    refine ⟨(q, t1, t2), hf, zs, hm, ?_⟩
    by_cases hc : resultKind k1 k2 ≠ .nd ∧ xs = []
    · obtain ⟨z, hz⟩ := hp hc.1 hc.2
      exact ⟨z, by rw [if_pos hc]; exact hz, rfl⟩
    · exact ⟨0, if_neg hc, rfl⟩

theorem scalar_op_scalar_ok_iff (env : Env) (d : Bool) (op : Op) (q1 q2 : Quantity) (x y : Rat) (q : Quantity) (z : Rat) :
    binop env d op (.scalar q1 x) (.scalar q2 y) = .ok (.scalar q z) ↔
      ∃ t1 t2, opFunc env op q1 q2 = .ok (q, t1, t2) ∧ applyOp op t1 t2 x y = .ok z := by
  simp only [scalar_op_scalar, bind_eq_ok]
  constructor
  · rintro ⟨⟨q', t1, t2⟩, hf, z', hz, ho⟩
    cases ho
    exact ⟨t1, t2, hf, hz⟩
  · rintro ⟨t1, t2, hf, hz⟩
    exact ⟨(q, t1, t2), hf, z, hz, rfl⟩

def exRow (qt u : Sym) (scale : Rat) : UnitRow :=
  { qtype := qt, name := u, sym := u, ok := true, toBase := ⟨0, scale, 1, 0⟩, fromBase := ⟨0, 1, scale, 0⟩,
    hasConvTo := true, hasConvFrom := true, annTo := none, annFrom := none, defaultCat := 0, digits := 0 }

/-- a unit with an offset: `base = off + scale · x` (like degC against K) -/
def exRowOff (qt u : Sym) (scale off : Rat) : UnitRow :=
  { exRow qt u scale with toBase := ⟨off, scale, 1, 0⟩, fromBase := ⟨-off, 1, scale, 0⟩ }

def exCat (c qt u : Sym) : CatRow :=
  { name := c, qtype := qt, validUnits := none, defaultUnit := u, defaultValue := 0, minV := none, maxV := none,
    minExcl := false, maxExcl := false, caption := 0 }

/-- quantity types 1 (units 11 = base, 12 = 1/100 of it, 13 = base shifted by 273) and 2 (units 21 = base, 22 = 60 times it);
categories 101, 102 of type 1 and 103 of type 2 -/
def exDb : Db :=
  { units := [exRow 1 11 1, exRow 1 12 (1 / 100), exRowOff 1 13 1 273, exRow 2 21 1, exRow 2 22 60],
    cats := [exCat 101 1 11, exCat 102 1 11, exCat 103 2 21] }

def exEnv : Env := Env.ofDb exDb

theorem exEnv_lawful : exEnv.Lawful := Env.ofDb_lawful exDb

/-- `length/time²`-like: categories 101 (type 1, unit 12) and 103 (type 2, unit 21), exponents 1, −2 -/
def exQ : Quantity := [⟨101, 12, 1⟩, ⟨103, 21, -2⟩]

theorem exQ_normal : Normal exEnv exQ := by
  refine ⟨⟨?_, ?_⟩, ?_, ?_, ?_⟩
  · intro e he
    simp only [exQ, List.mem_cons, List.mem_nil_iff, or_false] at he
    rcases he with rfl | rfl
    · exact ⟨1, by decide +kernel⟩
    · exact ⟨2, by decide +kernel⟩
  all_goals decide +kernel

end Barril.Ops
