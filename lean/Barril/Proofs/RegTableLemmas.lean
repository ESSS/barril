/- C14 on the translated tables: the invariant on the flat view of a database, and how it follows
from the per-row predicates of `Barril/Model/RegTable.lean`. -/
import Barril.Proofs.RegLemmas
import Barril.Model.RegTable

namespace Barril.Reg

/-- the registry invariant on the flat view of a database that the translator reads -/
structure DbRegInv (db : Db) : Prop where
  /-- every symbol names exactly one row (hence one quantity type) -/
  symOnce : ∀ w ∈ db.units, db.unitBySym w.sym = some w
  /-- the first-listed row of every quantity type is an identity -/
  baseIdentity : ∀ w ∈ db.units, ∃ b, db.units.find? (·.qtype == w.qtype) = some b ∧ isIdent b = true
  /-- every category is the one stored under its name, refers to an existing type, has default
  and valid units drawn from it and a default value inside its limits -/
  catsOk : ∀ c ∈ db.cats, db.catByName c.name = some c ∧ db.hasType c.qtype = true
    ∧ symInType db c.qtype c.defaultUnit = true
    ∧ (∀ vu, c.validUnits = some vu → ∀ u ∈ vu, symInType db c.qtype u = true)
    ∧ minOk c.minV c.minExcl c.defaultValue = true ∧ maxOk c.maxV c.maxExcl c.defaultValue = true

theorem dbRegInv_of_all {db : Db} (hu : db.units.all (UnitRow.regOk db) = true)
    (hc : db.cats.all (CatRow.regOk db) = true) : DbRegInv db := by
  refine ⟨?_, ?_, ?_⟩
  · intro w hw
    have := List.all_eq_true.mp hu w hw
    simp only [UnitRow.regOk, Bool.and_eq_true, beq_iff_eq] at this
    exact this.1
  · intro w hw
    have := List.all_eq_true.mp hu w hw
    simp only [UnitRow.regOk, Bool.and_eq_true] at this
    have h2 := this.2
    split at h2
    · rename_i b hb
      simp only [Bool.and_eq_true] at h2
      exact ⟨b, hb, h2.2⟩
    · cases h2
  · intro c hc'
    have := List.all_eq_true.mp hc c hc'
    simp only [CatRow.regOk, Bool.and_eq_true, beq_iff_eq] at this
    obtain ⟨⟨⟨⟨⟨h1, h2⟩, h3⟩, h4⟩, h5⟩, h6⟩ := this
    refine ⟨h1, h2, h3, ?_, h5, h6⟩
    intro vu hvu u hu'
    rw [hvu] at h4
    exact List.all_eq_true.mp h4 u hu'

/-- in such a database two rows with the same symbol are the same row: each unit symbol belongs to
exactly one quantity type -/
theorem DbRegInv.sym_one_type {db : Db} (h : DbRegInv db) {w1 w2 : UnitRow} (m1 : w1 ∈ db.units)
    (m2 : w2 ∈ db.units) (hs : w1.sym = w2.sym) : w1 = w2 := by
  have a := h.symOnce w1 m1
  have b := h.symOnce w2 m2
  rw [hs, b] at a
  cases a; rfl

end Barril.Reg
