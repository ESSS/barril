/-
The digit handling of `CreateFromFloat` (`str(value)`, `GetFractionalPart`, `GetMaxNumerator`) on
decimals in the range where `repr` uses fixed notation.
-/
import Barril.Proofs.FracCF
import Barril.Proofs.FracText

namespace Barril.Frac

theorem decShift_sound : ∀ (fuel : Nat) (q : Rat) (j0 j : Nat) (n : Int),
    decShift fuel q j0 = some (j, n) → j0 ≤ j ∧ q * 10 ^ (j - j0) = (n : Rat) := by
  have base : ∀ (q : Rat) (j0 j : Nat) (n : Int), q.den = 1 → some (j0, q.num) = some (j, n) →
      j0 ≤ j ∧ q * 10 ^ (j - j0) = (n : Rat) := by
    intro q j0 j n hden h
    cases h
    exact ⟨le_refl _, by rw [Nat.sub_self, pow_zero, mul_one, (Rat.den_eq_one_iff q).mp hden]⟩
  intro fuel
  induction fuel with
  | zero =>
    intro q j0 j n h
    unfold decShift at h
    split at h
    · exact base q j0 j n ‹_› h
    · cases h
  | succ f ih =>
    intro q j0 j n h
    unfold decShift at h
    split at h
    · exact base q j0 j n ‹_› h
    · obtain ⟨h1, h2⟩ := ih (q * 10) (j0 + 1) j n h
      refine ⟨by omega, ?_⟩
      rw [← h2, show j - j0 = (j - (j0 + 1)) + 1 by omega, pow_succ]; ring

theorem decShift_complete : ∀ (k fuel : Nat) (q : Rat) (j0 : Nat), k ≤ fuel → (q * 10 ^ k).den = 1 →
    ∃ j n, decShift fuel q j0 = some (j, n) := by
  intro k
  induction k with
  | zero =>
    intro fuel q j0 _ h
    simp only [pow_zero, mul_one] at h
    cases fuel with
    | zero => exact ⟨j0, q.num, by simp [decShift, h]⟩
    | succ f => exact ⟨j0, q.num, by simp [decShift, h]⟩
  | succ k ih =>
    intro fuel q j0 hf h
    cases fuel with
    | zero => omega
    | succ f =>
      unfold decShift
      by_cases hd : q.den = 1
      · exact ⟨j0, q.num, by simp [hd]⟩
      · rw [if_neg hd]
        apply ih f (q * 10) (j0 + 1) (by omega)
        have : q * 10 * 10 ^ k = q * 10 ^ (k + 1) := by rw [pow_succ]; ring
        rw [this]; exact h

theorem stripAll_spec : ∀ (fuel n z : Nat),
    z ≤ (stripAll fuel n z).2 ∧ (stripAll fuel n z).1 * 10 ^ ((stripAll fuel n z).2 - z) = n
      ∧ (n ≠ 0 → (stripAll fuel n z).1 ≠ 0) := by
  intro fuel
  induction fuel with
  | zero => intro n z; simp [stripAll]
  | succ f ih =>
    intro n z
    unfold stripAll
    split
    · rename_i h
      obtain ⟨h1, h2, h3⟩ := ih (n / 10) (z + 1)
      refine ⟨by omega, ?_, fun _ => h3 (by omega)⟩
      rw [show (stripAll f (n / 10) (z + 1)).2 - z = ((stripAll f (n / 10) (z + 1)).2 - (z + 1)) + 1 by omega,
        pow_succ, ← mul_assoc, h2]
      omega
    · simp
/-- what `decParts` returns for a positive number: `q = D · 10^e` with the `nd`-digit number `D`,
and the decimal point after `nd + e` of the digits -/
theorem decParts_spec {q : Rat} (hq : 0 < q) {dp : DecParts} (h : decParts q = some dp) :
    ∃ e : Int, q = (dp.digits : Rat) * 10 ^ e ∧ dp.decpt = (dp.nd : Int) + e
      ∧ 1 ≤ dp.nd ∧ dp.digits < 10 ^ dp.nd ∧ 10 ^ (dp.nd - 1) ≤ dp.digits := by
  unfold decParts at h
  cases hs : decShift 400 q 0 with
  | none => rw [hs] at h; cases h
  | some jn =>
    obtain ⟨j, n⟩ := jn
    rw [hs] at h
    simp only [Option.some.injEq] at h
    obtain ⟨-, hqn⟩ := decShift_sound 400 q 0 j n hs
    rw [Nat.sub_zero] at hqn
    have hnpos : 0 < n := by
      have : (0 : Rat) < (n : Rat) := by rw [← hqn]; positivity
      exact_mod_cast this
    obtain ⟨-, hst, hne⟩ := stripAll_spec 400 n.toNat 0
    rw [Nat.sub_zero] at hst
    obtain ⟨hb1, hb2⟩ := natDigits_bounds _ (Nat.one_le_iff_ne_zero.mpr (hne (by omega)))
    subst h
    refine ⟨(stripAll 400 n.toNat 0).2 - j, ?_, by simp only; omega, ?_, hb1, hb2⟩
    · rw [zpow_sub₀ (by norm_num), zpow_natCast, zpow_natCast, ← mul_div_assoc,
        eq_div_iff (by positivity), hqn]
      exact (by exact_mod_cast (Int.toNat_of_nonneg hnpos.le).symm : (n : Rat) = (n.toNat : Nat)).trans
        (by exact_mod_cast hst.symm)
    · exact Nat.one_le_iff_ne_zero.mpr (List.length_pos_iff.mpr (natDigits_ne_nil _)).ne'

theorem decParts_magnitude {q : Rat} (hq : 0 < q) {dp : DecParts} (h : decParts q = some dp) :
    (10 : Rat) ^ (dp.decpt - 1) ≤ q ∧ q < 10 ^ dp.decpt := by
  obtain ⟨e, hqe, hdec, hnd, hlt, hge⟩ := decParts_spec hq h
  have he : (0 : Rat) < 10 ^ e := zpow_pos (by norm_num) e
  have h1 : dp.decpt - 1 = ((dp.nd - 1 : Nat) : Int) + e := by omega
  rw [h1, hdec, hqe, zpow_add₀ (by norm_num), zpow_add₀ (by norm_num), zpow_natCast, zpow_natCast]
  exact ⟨mul_le_mul_of_nonneg_right (by exact_mod_cast hge) he.le,
    mul_lt_mul_of_pos_right (by exact_mod_cast hlt) he⟩

theorem decParts_exists {q : Rat} {k : Nat} (hk : k ≤ 400) (h : (q * 10 ^ k).den = 1) :
    ∃ dp, decParts q = some dp := by
  obtain ⟨j, n, hs⟩ := decShift_complete k 400 q 0 hk h
  unfold decParts
  rw [hs]
  exact ⟨_, rfl⟩

/-- in `[1e-4, 1e16)` `repr` does not use exponent notation, and a non-integer has digits after
the point: `GetFractionalPart` returns `v - floor v` -/
theorem getFractionalPart_fixed {v : Rat} (hlo : 1 / 10 ^ 4 ≤ v) (hhi : v < 10 ^ 16) (hni : v.den ≠ 1)
    {dp : DecParts} (h : decParts v = some dp) : getFractionalPart v dp = v - (⌊v⌋ : Rat) := by
  have hv : 0 < v := lt_of_lt_of_le (by norm_num) hlo
  obtain ⟨hmlo, hmhi⟩ := decParts_magnitude hv h
  have h1 : ¬ (dp.decpt ≤ -4) := fun hc => by
    have := zpow_le_zpow_right₀ (by norm_num : (1 : Rat) ≤ 10) hc
    norm_num at this
    linarith
  have h2 : ¬ (16 < dp.decpt) := fun hc => by
    have := zpow_le_zpow_right₀ (by norm_num : (1 : Rat) ≤ 10) (by omega : (16 : Int) ≤ dp.decpt - 1)
    norm_num at this
    linarith
  -- all digits before the point would make `v` an integer
  have h3 : ¬ ((dp.nd : Int) ≤ dp.decpt) := fun hc => by
    obtain ⟨e, hqe, hdec, -⟩ := decParts_spec hv h
    obtain ⟨n, rfl⟩ := Int.eq_ofNat_of_zero_le (by omega : 0 ≤ e)
    apply hni
    have : v = ((dp.digits * 10 ^ n : Nat) : Rat) := by rw [hqe]; push_cast; rfl
    rw [this]; exact Rat.den_natCast _
  unfold getFractionalPart DecParts.useExp
  simp [h1, h2, h3, floor_eq]

theorem num_le_of_mul_pow {q : Rat} (hq : 0 < q) {a : Int} {m : Nat} (h : q * 10 ^ m = (a : Rat)) : q.num ≤ a := by
  have hp : (10 : Rat) ^ m ≠ 0 := by positivity
  have hq' : q = Rat.divInt a ((10 ^ m : Nat) : Int) := by
    rw [Rat.divInt_eq_div]
    push_cast
    rw [eq_div_iff hp]; exact h
  have ha : 0 < a := by
    have : (0 : Rat) < (a : Rat) := by rw [← h]; positivity
    exact_mod_cast this
  refine Int.le_of_dvd ha ?_
  rw [hq']
  exact Rat.num_dvd _ (by positivity)

theorem findNumerator_nonpos (past : Int) (hp : past ≤ 0) (x dv : Rat) : findNumerator 400 past x dv = x := by
  unfold findNumerator
  rw [if_neg (fun h => by omega)]

/-- for a fractional part `0 < t < 1` the numerator bound is the digit string read as a number, and
the numerator of `t` does not exceed it -/
theorem getMaxNumerator_ge {t : Rat} (h0 : 0 < t) (h1 : t < 1) {fdp : DecParts} (h : decParts t = some fdp) :
    t.num ≤ getMaxNumerator fdp := by
  obtain ⟨e, hqe, hdec, hnd, -⟩ := decParts_spec h0 h
  -- t < 1 puts the decimal point at or before the first digit
  have hdec0 : fdp.decpt ≤ 0 := by
    have := (zpow_lt_one_iff_right₀ (by norm_num : (1 : Rat) < 10)).mp
      (lt_of_le_of_lt (decParts_magnitude h0 h).1 h1)
    omega
  -- so `t` is the digit string over a power of ten, and its numerator divides that number
  have hnum : t.num ≤ (fdp.digits : Int) := by
    obtain ⟨m, rfl⟩ : ∃ m : Nat, e = -(m : Int) := ⟨(-e).toNat, by omega⟩
    apply num_le_of_mul_pow h0 (m := m)
    rw [hqe, zpow_neg, zpow_natCast, inv_mul_cancel_right₀ (by positivity), Int.cast_natCast]
  have hmax : getMaxNumerator fdp = (fdp.digits : Int) := by
    unfold getMaxNumerator
    have hpos : ¬ (0 < fdp.decpt) := by omega
    simp only [hpos, decide_false, Bool.and_false, Bool.false_and, Bool.false_eq_true, if_false]
    have hpast : ((if fdp.useExp = true then fdp.nd
        else if fdp.decpt ≤ 0 then 1 + (-fdp.decpt).toNat + fdp.nd
        else if (fdp.nd : Int) ≤ fdp.decpt then fdp.decpt.toNat + 1 else fdp.nd : Nat) : Int)
          - (fdp.reprLen : Int) ≤ 0 := by
      unfold DecParts.reprLen
      by_cases hu : fdp.useExp = true
      · simp only [hu, if_true]
        split <;> omega
      · simp only [hu, Bool.false_eq_true, if_false, hdec0, if_true]
        omega
    rw [findNumerator_nonpos _ hpast, findNumerator_nonpos _ hpast]
    exact Rat.floor_intCast _
  rw [hmax]; exact hnum

/-- **`CreateFromFloat(d)` denotes `d`** for every decimal `d` (up to 100 decimal places) with
`1e-4 ≤ |d| < 1e16` -/
theorem createFromFloat_decimal (d : Rat) (k : Nat) (hk : k ≤ 100) (hd : (d * 10 ^ k).den = 1)
    (hlo : 1 / 10 ^ 4 ≤ |d|) (hhi : |d| < 10 ^ 16) : ∃ v, createFromFloat d = .ok v ∧ v.value = d := by
  by_cases hint : d.den = 1
  · exact ⟨_, createFromFloat_of_int hint, by simp [FV.value, Frac.toFloat]⟩
  · have hp : (0 : Rat) < 10 ^ k := by positivity
    obtain ⟨ht0, ht1⟩ := fract_abs hint
    have habs : (|d| * 10 ^ k).den = 1 := by rw [← abs_of_pos hp, ← abs_mul, abs_den]; exact hd
    obtain ⟨dp, h1⟩ := decParts_exists (q := |d|) (k := k) (by omega) habs
    have h2 := getFractionalPart_fixed hlo hhi (abs_den d ▸ hint) h1
    -- the fractional part is a decimal with the same number of places: `M / 10^k`, `M < 10^k`
    obtain ⟨N, hN⟩ : ∃ N : Int, |d| * 10 ^ k = N := ⟨_, ((Rat.den_eq_one_iff _).mp habs).symm⟩
    obtain ⟨M, hM⟩ : ∃ M : Int, (|d| - (⌊|d|⌋ : Rat)) * 10 ^ k = (M : Rat) :=
      ⟨N - ⌊|d|⌋ * 10 ^ k, by rw [sub_mul, hN]; push_cast; ring⟩
    obtain ⟨fdp, h3⟩ := decParts_exists (q := |d| - (⌊|d|⌋ : Rat)) (k := k) (by omega)
      (by rw [hM]; exact Rat.den_intCast _)
    have h5 : (|d| - (⌊|d|⌋ : Rat)).num < 2 ^ 498 := by
      have hMlt : M < 10 ^ k := by
        have : (M : Rat) < 10 ^ k := by rw [← hM]; exact mul_lt_of_lt_one_left hp ht1
        exact_mod_cast this
      have := num_le_of_mul_pow ht0 hM
      have : (10 : Int) ^ k ≤ 10 ^ 100 := pow_le_pow_right₀ (by norm_num) hk
      have : (10 : Int) ^ 100 < 2 ^ 498 := by decide +kernel
      omega
    exact createFromFloat_of_parts hint h1 h2 h3 (getMaxNumerator_ge ht0 ht1 h3) h5

end Barril.Frac
