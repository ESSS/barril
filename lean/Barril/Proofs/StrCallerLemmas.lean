/- helper lemmas about the caller model (`Barril/Model/StrCaller.lean`) for C20 -/
import Barril.Model.StrCaller

namespace Barril.Str

theorem Caller.step_made_prefix (reg : Reg) (s : Caller) (st : CStep) :
    ∃ t, (s.step reg st).made = s.made ++ t := by
  cases st with
  | request r => exact ⟨[r.obtain reg], rfl⟩
  | again i =>
    cases h : s.held[i]? with
    | none => exact ⟨[], by simp [Caller.step, h]⟩
    | some r => exact ⟨[r.obtain reg], by simp [Caller.step, h]⟩
  | edit i ed => exact ⟨[], by simp [Caller.step]⟩
  | other q => exact ⟨[q], rfl⟩
  | arith j f =>
    cases h : s.made[j]? with
    | none => exact ⟨[], by simp [Caller.step, h]⟩
    | some r =>
      cases r with
      | ok q => exact ⟨[f q], by simp [Caller.step, h]⟩
      | error e => exact ⟨[.error e], by simp [Caller.step, h]⟩

theorem Caller.run_made_prefix (reg : Reg) (steps : List CStep) (s : Caller) :
    ∃ t, (s.run reg steps).made = s.made ++ t := by
  induction steps generalizing s with
  | nil => exact ⟨[], by simp [Caller.run]⟩
  | cons st rest ih =>
    obtain ⟨t1, h1⟩ := Caller.step_made_prefix reg s st
    obtain ⟨t2, h2⟩ := ih (s.step reg st)
    refine ⟨t1 ++ t2, ?_⟩
    have : s.run reg (st :: rest) = (s.step reg st).run reg rest := by simp [Caller.run]
    rw [this, h2, h1, List.append_assoc]

theorem Caller.run_append (reg : Reg) (s : Caller) (a b : List CStep) :
    s.run reg (a ++ b) = (s.run reg a).run reg b := by
  simp [Caller.run, List.foldl_append]

theorem Caller.edit_made (reg : Reg) (s : Caller) (i : Nat) (ed : Edit) :
    (s.step reg (.edit i ed)).made = s.made := rfl

end Barril.Str
