/- lemmas about the registry of additional conversion types (`Barril/Model/OpsRegistry.lean`) -/
import Barril.Model.OpsRegistry
import Barril.Proofs.OpsLemmas

namespace Barril.Ops
open Barril

theorem convertMatchingExpV_plain (env : Env) (qt fromU toU : Sym) (exp : Int) (dv : Bool) :
    convertMatchingExpV env env.convert qt fromU toU exp dv = convertMatchingExp env qt fromU toU exp dv := rfl

theorem matchDictV_plain (env : Env) (dv : Bool) :
    ∀ (es : List Entry) (found : Found) (tr : Tr),
      matchDictV env env.convert dv found es tr = matchDict env dv found es tr
  | [], _, _ => rfl
  | e :: es, found, tr => by
    unfold matchDictV matchDict
    cases env.qtype e.cat with
    | error err => rfl
    | ok qt =>
      simp only
      cases found.get qt with
      | none =>
        simp only [matchDictV_plain env dv es]
        cases matchDict env dv ((qt, e.unit) :: found) es tr <;> rfl
      | some used =>
        simp only [convertMatchingExpV_plain]
        cases convertMatchingExp env qt e.unit used e.exp dv with
        | error err => rfl
        | ok step =>
          simp only [matchDictV_plain env dv es]
          cases matchDict env dv found es (tr.andThen step) <;> rfl

theorem matchQuantitiesV_plain (env : Env) (c1 c2 : List Entry) :
    matchQuantitiesV env env.convert env.convert c1 c2 = matchQuantities env c1 c2 := by
  simp only [matchQuantitiesV, matchQuantities, matchDictV_plain]
  cases matchDict env (decide (1 < c1.length)) [] c1 Tr.ident with
  | error e => rfl
  | ok r =>
    obtain ⟨f1, c1', t1⟩ := r
    simp only
    cases matchDict env (decide (1 < c2.length)) f1 c2 Tr.ident <;> rfl

theorem opFuncV_plain (env : Env) (op : Op) (q1 q2 : Quantity) :
    opFuncV env env.convert env.convert op q1 q2 = opFunc env op q1 q2 := by
  cases op <;> simp only [opFuncV, opFunc, opSameV, opSame, opNewV, opNew, matchQuantitiesV_plain] <;>
    first
    | rfl
    | (split <;> first | rfl | (cases matchQuantities env q1 q2 <;> rfl))
    | (cases matchQuantities env q1 q2 <;> rfl)

/-- an entry for a class that is not a base class of the value's class (a subclass, an unrelated class) is skipped,
wherever it stands in the registry -/
theorem dispatch_skip (r1 r2 : Registry) (e : RegEntry) (c : PyClass) (h : c.isSub e.cls = false) :
    Registry.dispatch (r1 ++ e :: r2) c = Registry.dispatch (r1 ++ r2) c := by
  induction r1 with
  | nil => simp [Registry.dispatch, h]
  | cons a r ih => simp only [List.cons_append, Registry.dispatch, ih]

theorem convertReg_skip (env : Env) (r1 r2 : Registry) (e : RegEntry) (c : PyClass) (h : c.isSub e.cls = false) :
    convertReg env (r1 ++ e :: r2) c = convertReg env (r1 ++ r2) c := by
  funext qt f t
  simp only [convertReg, dispatch_skip r1 r2 e c h]

def Registry.PlainFor (reg : Registry) (c : PyClass) : Prop := ∀ e ∈ reg, c.isSub e.cls = true → e.fn = .std

/-- the registry cannot be seen by values of class `c`: no registered class is a base class of `c`, or the first one
that is carries the elementwise number conversion (`numpy.ndarray` and `ConvertNumpyArray`, registered at import) -/
def Registry.Invisible (reg : Registry) (c : PyClass) : Prop := reg.dispatch c = none ∨ reg.dispatch c = some .std

theorem Registry.PlainFor.invisible {reg : Registry} {c : PyClass} (h : reg.PlainFor c) : reg.Invisible c := by
  unfold Registry.Invisible
  induction reg with
  | nil => exact .inl rfl
  | cons a r ih =>
    unfold Registry.dispatch
    by_cases hs : c.isSub a.cls = true
    · simp only [hs, ↓reduceIte]
      exact .inr (by rw [h a (by simp) hs])
    · simp only [hs, Bool.false_eq_true, ↓reduceIte]
      exact ih (fun e he => h e (by simp [he]))

theorem convertReg_plain {env : Env} (hl : env.Lawful) {reg : Registry} {c : PyClass} (h : reg.Invisible c) :
    convertReg env reg c = env.convert := by
  funext qt f t
  unfold convertReg
  by_cases hft : (f == t) = true
  · have : f = t := by simpa using hft
    subst this
    simp only [BEq.rfl, ↓reduceIte]
    funext x
    simp [Tr.ident, hl.convert_same]
  · simp only [hft, Bool.false_eq_true, ↓reduceIte]
    rcases h with hd | hd <;> simp only [hd, ConvFn.apply]

theorem arrayComputeReg_plain {env : Env} (hl : env.Lawful) {reg : Registry} {c1 c2 : PyClass}
    (h1 : reg.Invisible c1) (h2 : reg.Invisible c2) (hn : reg.Invisible numClass)
    (op : Op) (q1 q2 : Quantity) (ra rb : Raw) :
    arrayComputeReg env reg c1 c2 op q1 q2 ra rb = arrayCompute env op q1 q2 ra rb := by
  unfold arrayComputeReg arrayCompute
  rw [convertReg_plain hl h1, convertReg_plain hl h2, convertReg_plain hl hn, opFuncV_plain]
  cases genIsNumpy ra rb <;> cases opFunc env op q1 q2 <;> rfl

theorem register_new (reg : Registry) (k : Nat) (fn : ConvFn) (h : reg.lookup k = none) :
    reg.register k fn = .ok (reg ++ [⟨k, fn⟩]) := by
  simp [Registry.register, h]

end Barril.Ops
