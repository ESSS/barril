/-
What C08 is proved from.  Equality: what each `__eq__` answers with its guards resolved (`ansEq`), `do_richcompare` over
methods that never raise, and the verdict `eqVal` that `==`, `!=` and `hash` are all read off.  Order: the quantities
`Quantity(category, unit)` builds (`SimpleQ.Built`) and the order of `Scalar`/`FractionScalar` through the base amounts of
well-formed conversion rows; `Fraction(number)` on integers.  Histories: the invariant of a session of pooled objects
(`Session.Inv`: the `_hash` memo agrees with the pool) and the pool of an `OSession`, which only ever grows by copies.
-/
import Barril.Model.Cmp
import Barril.Proofs.ConvLemmas
import Mathlib.Tactic.LinearCombination

namespace Barril

/-! ### equality: the methods never raise; `do_richcompare` over methods that answer -/

/-- the three conjuncts of `Array.__eq__` -/
def Arr.core (a b : Arr) : Bool := a.values == b.values && a.q.eq b.q && a.q.unit == b.q.unit

/-- the value of `a == b` for two Array/FixedArray objects -/
def Arr.eqv (a b : Arr) : Bool := a.core b && a.dim == b.dim

/-- what `Array.__eq__` / `FixedArray.__eq__` (whichever `type(x)` has) says of any operand -/
def Arr.ans (x : Arr) (b : Obj) : Bool :=
  match b with
  | .arr y => x.core y && (x.dim == none || x.dim == y.dim)
  | _ => false

theorem arrayEq_eq (a : Arr) (o : Obj) :
    arrayEq a o = .ok (match o with | .arr b => a.core b | _ => false) := by
  cases o <;> simp [arrayEq, Obj.isInstance, Obj.cls, Cls.isSubclass, Arr.core]
  case arr b => rcases b with ⟨_, _, _, _ | _⟩ <;> simp [Arr.cls]

theorem fixedArrayEq_eq (a : Arr) (o : Obj) :
    fixedArrayEq a o = .ok (match o with
      | .arr b => (match b.dim with | some d => a.core b && a.dim == some d | none => false)
      | _ => false) := by
  cases o <;> simp [fixedArrayEq, arrayEq_eq, Obj.isInstance, Obj.cls, Cls.isSubclass, Obj.dimension]
  case arr b =>
    rcases b with ⟨vb, kb, qb, _ | d⟩ <;> simp [Arr.cls]
    cases h : a.core ⟨vb, kb, qb, some d⟩ <;> simp

theorem arrMethEq_eq (x : Arr) (b : Obj) : arrMethEq x b = .ok (.val (x.ans b)) := by
  unfold arrMethEq
  rcases x with ⟨vx, kx, qx, _ | d⟩ <;> simp only [arrayEq_eq, fixedArrayEq_eq] <;> cases b <;> try rfl
  all_goals rename_i y; rcases y with ⟨vy, ky, qy, _ | e⟩ <;> simp [Arr.ans]

/-- the first answer of the two methods tried, else the fallback -/
def Ans.pick (x y : Ans) (fb : Bool) : Bool :=
  match x, y with
  | .val b, _ => b
  | .notImpl, .val b => b
  | .notImpl, .notImpl => fb

/-- `type(w)` is a proper subclass of `type(v)`: the reflected method goes first -/
def Obj.reflFirst (v w : Obj) : Bool := v.cls != w.cls && w.cls.isSubclass v.cls

theorem Obj.reflFirst_iff (v w : Obj) : v.reflFirst w = true ↔ v.cls = .array ∧ w.cls = .fixedarray := by
  simp only [Obj.reflFirst, Cls.isSubclass, Bool.and_eq_true, Bool.or_eq_true, bne_iff_ne, beq_iff_eq]
  constructor
  · rintro ⟨hne, h | h⟩
    · exact absurd h.symm hne
    · exact ⟨h.2, h.1⟩
  · rintro ⟨hv, hw⟩
    rw [hv, hw]
    exact ⟨by decide, .inr ⟨rfl, rfl⟩⟩

theorem richCompare_ok {meth : Obj → Obj → Except ErrKind Ans} {r : Obj → Obj → Ans}
    (h : ∀ v w, meth v w = .ok (r v w)) (v w : Obj) (fb : Bool) :
    richCompare meth v w fb
      = .ok (if v.reflFirst w then (r w v).pick (r v w) fb else (r v w).pick (r w v) fb) := by
  unfold richCompare Obj.reflFirst
  simp only [h]
  generalize (v.cls != w.cls && w.cls.isSubclass v.cls) = c
  cases c <;> cases r v w <;> cases r w v <;> rfl

theorem pyEqArr_eq (a b : Arr) : pyEqArr a b = .ok (a.eqv b) := by
  rcases a with ⟨va, ka, qa, _ | da⟩ <;> rcases b with ⟨vb, kb, qb, _ | db⟩ <;>
    simp [pyEqArr, richCompare, Ans.orElse, arrMethEq_eq, Arr.ans, Obj.cls, Arr.cls, Cls.isSubclass, Arr.eqv]

theorem curveEq_eq (i d : Arr) (o : Obj) :
    curveEq i d o = .ok (.val (match o with | .curve i' d' => i.eqv i' && d.eqv d' | _ => false)) := by
  cases o <;> simp [curveEq, Obj.isInstance, Obj.cls, Cls.isSubclass, pyEqArr_eq]
  case arr a => rcases a with ⟨va, ka, qa, _ | da⟩ <;> simp [Arr.cls]
  case curve i' d' => cases h : i.eqv i' <;> simp

/-- `Fraction.__old_cmp__ == 0` on two normalised fractions is equality of the rationals -/
theorem crossCmp_eq_zero (x y : Rat) : (crossCmp x y == 0) = (x == y) := by
  have h : x = y ↔ x.num * (y.den : Int) = y.num * (x.den : Int) := Rat.eq_iff_mul_eq_mul
  unfold crossCmp
  by_cases hxy : x = y
  · subst hxy; simp
  · have hne : x.num * (y.den : Int) - y.num * (x.den : Int) ≠ 0 := by
      intro h0; exact hxy (h.mpr (by omega))
    simp only [beq_eq_false_iff_ne.mpr hxy]
    split
    · rfl
    · split
      · rfl
      · omega

/-- case analysis on an object, arrays split into `Array` and `FixedArray` -/
macro "obj_cases " a:ident : tactic =>
  `(tactic| rcases $a:ident with _ | _ | ⟨⟨_, _, _, _ | _⟩⟩ | _ | _ | _ | _ | _ | _ | _ | _ | _ | _)

/-- what `type(a).__eq__(a, b)` answers: the methods with their guards resolved and the attribute reads
that the guards protect gone -/
def ansEq (small : Rat) (a b : Obj) : Ans :=
  match a with
  | .quantity q => .val (match b with | .quantity q' => q.eq q' | _ => false)
  | .scalar v q => .val (match b with | .scalar v' q' => v == v' && q.eq q' | _ => false)
  | .arr x => .val (x.ans b)
  | .fscalar v q => .val (match b with | .fscalar v' q' => v.eq v' && q.eq q' | _ => false)
  | .fvalue v => .val (match b with | .fvalue v' => v.eq v' | _ => false)
  | .fraction x =>
    match b with
    | .num q => .val (x == fractionOfNumber small q)
    | .fraction y => .val (x == y)
    | _ => .notImpl
  | .curve i d => .val (match b with | .curve i' d' => i.eqv i' && d.eqv d' | _ => false)
  | .usys u => .val (match b with
    | .usys u' => u.id == u'.id && u.caption == u'.caption && u.mapping == u'.mapping && u.readOnly == u'.readOnly
    | _ => false)
  | .none => match b with | .none => .val true | _ => .notImpl
  | .str s => match b with | .str s' => .val (s == s') | _ => .notImpl
  | .num x => match b with | .num y => .val (x == y) | _ => .notImpl
  | .tuple xs => match b with | .tuple ys => .val (xs == ys) | _ => .notImpl
  | .list xs => match b with | .list ys => .val (xs == ys) | _ => .notImpl

/-- no `__eq__` raises: each guard (`isinstance`, `type(...) is`) lets through only operands that have the
attributes read after it -/
theorem methEq_eq (small : Rat) (a b : Obj) : methEq small a b = .ok (ansEq small a b) := by
  cases a with
  | arr x => exact arrMethEq_eq x b
  | curve i d => exact curveEq_eq i d b
  | fraction x =>
    obj_cases b <;> try rfl
    all_goals simp [methEq, ansEq, fractionEq, fractionOldCmp, Obj.isNumberOrFraction, Obj.cls, crossCmp_eq_zero]
  | _ => obj_cases b <;> rfl

/-- `a == b`: the verdict of the first of the two methods that answers, the reflected one first for an
Array against a FixedArray, else `a is b` -/
def eqVal (small : Rat) (a b : Obj) (same : Bool) : Bool :=
  if a.reflFirst b then (ansEq small b a).pick (ansEq small a b) same
  else (ansEq small a b).pick (ansEq small b a) same

theorem pyEq_eq (small : Rat) (a b : Obj) (same : Bool) : pyEq small a b same = .ok (eqVal small a b same) :=
  richCompare_ok (methEq_eq small) a b same

theorem Qty.eq_comm (a b : Qty) : a.eq b = b.eq a := by
  simp only [Qty.eq, BEq.comm]

theorem FVal.eq_comm (a b : FVal) : a.eq b = b.eq a := by
  simp only [FVal.eq, crossCmp_eq_zero, BEq.comm]

theorem Arr.core_comm (a b : Arr) : a.core b = b.core a := by
  simp only [Arr.core, Qty.eq_comm, BEq.comm]

theorem Arr.eqv_comm (a b : Arr) : a.eqv b = b.eqv a := by
  simp only [Arr.eqv, Arr.core_comm, BEq.comm]

/-- when neither class is a proper subclass of the other, two methods that both answer agree: off the
diagonal every answer is `False`, on it both compare the same fields -/
theorem ansEq_agree {small : Rat} {a b : Obj} {x y : Bool} (hab : a.reflFirst b = false)
    (hba : b.reflFirst a = false) (hx : ansEq small a b = .val x) (hy : ansEq small b a = .val y) : x = y := by
  cases a <;> cases b <;> simp only [ansEq, Arr.ans, Ans.val.injEq, reduceCtorEq] at hx hy <;> subst hx hy <;>
    try rfl
  case arr.arr x y =>
    -- an Array against a FixedArray is the one pair whose methods disagree, and it is excluded
    rcases x with ⟨_, _, _, _ | _⟩ <;> rcases y with ⟨_, _, _, _ | _⟩
    · simp [Arr.core_comm]
    · cases hab
    · cases hba
    · simp [Arr.core_comm, BEq.comm]
  all_goals simp only [Qty.eq_comm, FVal.eq_comm, Arr.eqv_comm, BEq.comm]

/-- where the reflected method goes first one way, the same method goes first the other way too -/
theorem eqVal_comm (small : Rat) (a b : Obj) (same : Bool) : eqVal small a b same = eqVal small b a same := by
  unfold eqVal
  cases hab : a.reflFirst b <;> cases hba : b.reflFirst a
  · cases hx : ansEq small a b <;> cases hy : ansEq small b a <;> try rfl
    exact ansEq_agree hab hba hx hy
  · rfl
  · rfl
  · rw [Obj.reflFirst_iff] at hab hba
    rw [hab.1] at hba
    cases hba.2

theorem ansEq_self (small : Rat) (a : Obj) : ansEq small a a = .val true := by
  cases a <;> simp [ansEq, Arr.ans, Qty.eq, FVal.eq, Arr.eqv, Arr.core, crossCmp_eq_zero]

theorem eqVal_self (small : Rat) (a : Obj) (same : Bool) : eqVal small a a same = true := by
  simp [eqVal, ansEq_self, Ans.pick]

/-- `!=` over two methods each of which either negates its `__eq__` or answers `not (a == b)` outright -/
theorem Ans.pick_ne (x y : Ans) (fb c d : Bool) :
    Ans.pick (if c then .val (!x.pick y fb) else x.neg) (if d then .val (!x.pick y fb) else y.neg) (!fb)
      = !x.pick y fb := by
  cases c <;> cases d <;> cases x <;> cases y <;> rfl

theorem methNe_eq (small : Rat) (same : Bool) (a b : Obj) :
    methNe small same a b
      = .ok (if a.cls.neIsNotEq then .val (!eqVal small a b same) else (ansEq small a b).neg) := by
  unfold methNe
  rw [pyEq_eq, methEq_eq]
  split <;> rfl

/-- a class whose `__ne__` is `not self == other` answers the negated verdict outright, and `==` being symmetric that
is the same verdict from whichever side it is asked (`Ans.pick_ne`); `object.__ne__` negates `__eq__` step by step -/
theorem pyNe_eq (small : Rat) (a b : Obj) (same : Bool) : pyNe small a b same = .ok (!eqVal small a b same) := by
  unfold pyNe
  rw [richCompare_ok (methNe_eq small same), eqVal_comm small b a]
  unfold eqVal
  split <;> exact congrArg _ (Ans.pick_ne ..)

theorem Ans.pick_true {x y : Ans} {fb : Bool} (h : x.pick y fb = true) :
    x = .val true ∨ y = .val true ∨ (x = .notImpl ∧ y = .notImpl ∧ fb = true) := by
  cases x <;> cases y <;> simp_all [Ans.pick]

theorem Qty.eq_hashes {a b : Qty} (h : a.eq b = true) : a.hashItems = b.hashItems ∧ a.caption = b.caption := by
  simp only [Qty.eq, Bool.and_eq_true, beq_iff_eq] at h
  exact ⟨by rw [Qty.hashItems, h.1]; rfl, h.2⟩

theorem ansEq_hash {small : Rat} {a b : Obj} {ka kb : HKey} (h : ansEq small a b = .val true)
    (ha : pyHash a = .ok ka) (hb : pyHash b = .ok kb) : ka = kb := by
  cases a <;> cases b <;> simp only [ansEq, Arr.ans, Ans.val.injEq, reduceCtorEq, Bool.false_eq_true] at h
  case arr.arr x y => rcases x with ⟨_, _, _, _ | _⟩ <;> cases ha
  all_goals cases ha
  all_goals cases hb
  case quantity.quantity => rw [(Qty.eq_hashes h).1, (Qty.eq_hashes h).2]
  case scalar.scalar =>
    rw [Bool.and_eq_true] at h
    rw [eq_of_beq h.1, (Qty.eq_hashes h.2).1, (Qty.eq_hashes h.2).2]
  case none.none => rfl
  all_goals rw [eq_of_beq h]

/-! ### order: simple quantities and base amounts -/

/-- the quantities that `Db.simpleQuantity` (i.e. `Quantity(category, unit)`) returns -/
def SimpleQ.Built (db : Db) (q : SimpleQ) : Prop := ∃ cat u, db.simpleQuantity cat u = .ok q

theorem checkedUnit_valid {db : Db} {cat u u' : Sym} (h : db.checkedUnit cat u = .ok u') :
    db.categoryUnitValid cat u' = true := by
  unfold Db.checkedUnit at h
  split at h
  · cases h; assumption
  · split at h
    · split at h
      · cases h; assumption
      · cases h
    · cases h

theorem simpleQuantity_spec {db : Db} {cat u : Sym} {q : SimpleQ} (h : db.simpleQuantity cat u = .ok q) :
    ∃ ci, db.catByName cat = some ci ∧ q.cat = cat ∧ q.qtype = ci.qtype
      ∧ db.categoryUnitValid cat q.unit = true ∧ db.getInfo q.qtype q.unit true = .ok q.row := by
  unfold Db.simpleQuantity at h
  cases hc : db.catByName cat with
  | none => rw [hc] at h; cases h
  | some ci =>
    rw [hc] at h; simp only at h
    cases hu : db.checkedUnit cat u with
    | error e => rw [hu] at h; cases h
    | ok u' =>
      rw [hu] at h; simp only at h
      cases hg : db.getInfo ci.qtype u' true with
      | error e => rw [hg] at h; cases h
      | ok r =>
        rw [hg] at h
        cases h
        exact ⟨ci, rfl, rfl, rfl, checkedUnit_valid hu, hg⟩

/-- `ObtainQuantity(q.unit, q.category)` gives the quantity back -/
theorem simpleQuantity_rebuild {db : Db} {q : SimpleQ} (h : q.Built db) :
    db.simpleQuantity q.cat q.unit = .ok q := by
  obtain ⟨cat, u, h⟩ := h
  obtain ⟨ci, hc, hcat, hqt, hv, hg⟩ := simpleQuantity_spec h
  unfold Db.simpleQuantity
  rw [hcat, hc]
  simp only
  have : db.checkedUnit cat q.unit = .ok q.unit := by unfold Db.checkedUnit; simp [hv]
  rw [this]
  simp only
  rw [← hqt, hg, ← hcat]

/-- `Quantity.ConvertScalarValue` of a quantity built from a category is `UnitDatabase.Convert` with
that category: the function C01 is about -/
theorem convertScalarValue_eq_convert {db : Db} {q : SimpleQ} (h : q.Built db) (x : Rat) (toU : Sym) :
    q.convertScalarValue db x toU = db.convert q.cat q.unit toU x := by
  obtain ⟨cat, u, h⟩ := h
  obtain ⟨ci, hc, hcat, hqt, _, hg⟩ := simpleQuantity_spec h
  unfold SimpleQ.convertScalarValue Db.convert
  split
  · rfl
  · have : db.typeOf q.cat = .ok q.qtype := by unfold Db.typeOf; rw [hcat, hc, hqt]
    rw [this]; simp only; rw [hg]; rfl

theorem UnitRow.WF.eval_to {w : UnitRow} (h : w.WF) (z : Rat) :
    w.toBase.eval z = w.toBase.p / w.toBase.r + (w.toBase.q / w.toBase.r) * z := by
  unfold Mob.eval
  rw [h.ts]
  ring

theorem UnitRow.WF.toBase_lt_iff {w : UnitRow} (h : w.WF) (x y : Rat) :
    w.toBase.eval x < w.toBase.eval y ↔ x < y := by
  rw [h.eval_to x, h.eval_to y, add_lt_add_iff_left, mul_lt_mul_iff_right₀ h.to_slope_pos]

theorem UnitRow.WF.toBase_le_iff {w : UnitRow} (h : w.WF) (x y : Rat) :
    w.toBase.eval x ≤ w.toBase.eval y ↔ x ≤ y := by
  rw [← not_lt, ← not_lt, h.toBase_lt_iff]

theorem convert_base {db : Db} (hdb : ∀ r ∈ db.units, r.WF) {a b : SimpleQ} (ha : a.Built db)
    (hb : b.Built db) (hq : a.qtype = b.qtype) (x : Rat) :
    ∃ y, b.convertScalarValue db x a.unit = .ok y ∧ a.baseAmount y = b.baseAmount x := by
  obtain ⟨ca, ua, ha⟩ := ha
  obtain ⟨cb, ub, hb⟩ := hb
  obtain ⟨cia, _, _, _, _, hga⟩ := simpleQuantity_spec ha
  obtain ⟨cib, _, _, _, _, hgb⟩ := simpleQuantity_spec hb
  have wa := hdb _ (Db.getInfo_mem hga)
  have wb := hdb _ (Db.getInfo_mem hgb)
  unfold SimpleQ.convertScalarValue SimpleQ.baseAmount
  by_cases hu : b.unit = a.unit
  · refine ⟨x, by simp [hu], ?_⟩
    rw [hq, ← hu, hgb] at hga
    rw [Except.ok.inj hga]
  · have hu' : (b.unit == a.unit) = false := by simpa using hu
    rw [hu', ← hq, hga]
    simp only [Bool.false_eq_true, ↓reduceIte]
    refine ⟨convVal b.row a.row x, convRows_eq wb wa x, ?_⟩
    have e1 : a.row.toBase.eval (convVal b.row a.row x)
        = (a.row.toBase.p + a.row.toBase.q * (convVal b.row a.row x)) / a.row.toBase.r := by
      unfold Mob.eval; rw [wa.ts]; simp
    have e2 : b.row.toBase.eval x = (b.row.toBase.p + b.row.toBase.q * x) / b.row.toBase.r := by
      unfold Mob.eval; rw [wb.ts]; simp
    rw [e1, e2]
    unfold convVal
    rw [wa.to_from]

theorem Op.apply_base {w : UnitRow} (h : w.WF) (op : Op) (x y : Rat) :
    op.apply x y = op.apply (w.toBase.eval x) (w.toBase.eval y) := by
  cases op <;> simp only [Op.apply, h.toBase_lt_iff, h.toBase_le_iff]

theorem SimpleQ.Built.wf {db : Db} (hdb : ∀ r ∈ db.units, r.WF) {a : SimpleQ} (ha : a.Built db) : a.row.WF := by
  obtain ⟨ca, ua, ha⟩ := ha
  obtain ⟨_, _, _, _, _, hga⟩ := simpleQuantity_spec ha
  exact hdb _ (Db.getInfo_mem hga)

theorem convertFractionValue_base {db : Db} (hdb : ∀ r ∈ db.units, r.WF) {small : Rat} {a : SimpleQ}
    {b : FSc} (ha : a.Built db) (hb : b.q.Built db) (hq : a.qtype = b.q.qtype)
    (hk : b.NumeratorKept db small a.unit) :
    ∃ y, convertFractionValue db small b.v b.q a.unit = .ok y
      ∧ a.baseAmount y.toFloat = b.q.baseAmount b.v.toFloat := by
  obtain ⟨n, hn, en⟩ := convert_base hdb ha hb hq b.v.number
  obtain ⟨m, hm, em⟩ := convert_base hdb ha hb hq (b.v.frac.num : Rat)
  obtain ⟨z, hz, ez⟩ := convert_base hdb ha hb hq 0
  have wa := ha.wf hdb
  have wb := hb.wf hdb
  refine ⟨⟨n, (m - z) / (b.v.frac.den : Rat)⟩, ?_, ?_⟩
  · unfold convertFractionValue
    rw [simpleQuantity_rebuild hb]
    simp only
    rw [hn]; simp only
    rw [hm]; simp only
    rw [hz]; simp only
    rw [hk m z hm hz]
  · unfold SimpleQ.baseAmount at *
    unfold FVal.toFloat
    rw [wa.eval_to] at en em ez ⊢
    rw [wb.eval_to] at en em ez ⊢
    have hfrac : b.v.frac = (b.v.frac.num : Rat) / (b.v.frac.den : Rat) := (Rat.num_div_den b.v.frac).symm
    generalize (b.v.frac.num : Rat) = nu at *
    generalize (b.v.frac.den : Rat) = d at *
    simp only
    rw [hfrac]
    linear_combination en + (em - ez) / d

/-! ### `Fraction(number)` on integers: nothing to shift, nothing lost -/

theorem pyRound_intCast (n : Int) : pyRound (n : Rat) = n := by
  unfold pyRound
  have hf : (n : Rat).floor = n := Rat.floor_intCast n
  simp only [hf, sub_self]
  norm_num

theorem fractionOfNumber_intCast {small : Rat} (hs : 0 ≤ small) (n : Int) :
    fractionOfNumber small (n : Rat) = n := by
  unfold fractionOfNumber
  have h : fracLoop 64 small (n : Rat) 1 = ((n : Rat), 1) := by
    show fracLoop (63 + 1) small (n : Rat) 1 = ((n : Rat), 1)
    unfold fracLoop
    have : ¬ small < absR ((n : Rat) - ((pyRound (n : Rat) : Int) : Rat)) := by
      rw [pyRound_intCast]; simp [absR]; exact hs
    simp [this]
  rw [h]
  simp [pyRound_intCast]

/-- two FractionScalars in one unit: nothing is converted, so the numerator is kept -/
theorem numeratorKept_same_unit {db : Db} {small : Rat} (hs : 0 ≤ small) (b : FSc) :
    b.NumeratorKept db small b.q.unit := by
  intro a z ha hz
  unfold SimpleQ.convertScalarValue at ha hz
  simp at ha hz
  subst ha; subst hz
  simpa using fractionOfNumber_intCast hs b.v.frac.num

/-! ### sessions: the pool is static and the `_hash` memo stays consistent with it -/

theorem memoGet_mem {m : List (Nat × QKey)} {id : Nat} {k : QKey} (h : memoGet m id = some k) :
    (id, k) ∈ m := by
  induction m with
  | nil => simp [memoGet] at h
  | cons e m ih =>
    obtain ⟨i, k'⟩ := e
    unfold memoGet at h
    split at h
    · rename_i hi
      have hi' : i = id := by simpa using hi
      cases h
      simp [hi']
    · exact List.mem_cons_of_mem _ (ih h)

/-- every memoised `_hash` is the key of the content of every pooled holder of that Quantity object -/
def Session.Consistent (s : Session) : Prop :=
  ∀ id k, (id, k) ∈ s.memo → ∀ p ∈ s.pool, ∀ q, p.obj.heldQty = some q → p.qid = id → k = q.key

/-- the invariant of a history: a well-formed pool and a consistent memo -/
def Session.Inv (s : Session) : Prop := poolWF s.pool = true ∧ s.Consistent

theorem Session.fresh_inv {pool : List PObj} (h : poolWF pool = true) : (Session.fresh pool).Inv :=
  ⟨h, by intro id k hk; simp [Session.fresh] at hk⟩

theorem poolWF_compatible {pool : List PObj} (h : poolWF pool = true) {a b : PObj} (ha : a ∈ pool)
    (hb : b ∈ pool) : a.compatible b = true := by
  unfold poolWF at h
  rw [List.all_eq_true] at h
  have h1 := h a ha
  rw [List.all_eq_true] at h1
  exact h1 b hb

theorem PObj.compatible_obj {a b : PObj} (h : a.compatible b = true) (ho : a.oid = b.oid) : a.obj = b.obj := by
  unfold PObj.compatible at h
  simp only [Bool.and_eq_true, Bool.or_eq_true, bne_iff_ne, ne_eq, beq_iff_eq] at h
  rcases h.1 with h1 | h1
  · exact absurd ho h1
  · exact h1

theorem PObj.compatible_qty {a b : PObj} (h : a.compatible b = true) {qa qb : Qty}
    (ha : a.obj.heldQty = some qa) (hb : b.obj.heldQty = some qb) (hq : a.qid = b.qid) : qa = qb := by
  unfold PObj.compatible at h
  rw [ha, hb] at h
  simp only [Bool.and_eq_true, Bool.or_eq_true, bne_iff_ne, ne_eq, beq_iff_eq] at h
  rcases h.2 with h1 | h1
  · exact absurd hq h1
  · exact h1

theorem Session.qtyHash_pool (s : Session) (id : Nat) (q : Qty) : (s.qtyHash id q).2.pool = s.pool := by
  unfold Session.qtyHash
  split <;> rfl

theorem Session.qtyHash_spec {s : Session} (h : s.Inv) {p : PObj} (hp : p ∈ s.pool) {q : Qty}
    (hq : p.obj.heldQty = some q) : (s.qtyHash p.qid q).1 = q.key ∧ (s.qtyHash p.qid q).2.Inv := by
  unfold Session.qtyHash
  cases hm : memoGet s.memo p.qid with
  | some k => exact ⟨h.2 _ _ (memoGet_mem hm) p hp q hq rfl, h⟩
  | none =>
    refine ⟨rfl, h.1, ?_⟩
    intro id k hk p' hp' q' hq' hid
    simp only [List.mem_cons, Prod.mk.injEq] at hk
    rcases hk with ⟨h1, h2⟩ | hk
    · have : q' = q := PObj.compatible_qty (poolWF_compatible h.1 hp' hp) hq' hq (by rw [hid, h1])
      rw [h2, this]
    · exact h.2 id k hk p' hp' q' hq' hid

theorem Session.hash_pool (s : Session) (i : Nat) : (s.hash i).2.pool = s.pool := by
  unfold Session.hash
  cases hp : s.pool[i]? with
  | none => rfl
  | some p =>
    dsimp only
    cases p.obj.cls.hashSlot
    case unhashable | raises => rfl
    all_goals
      cases p.obj
      case quantity | scalar => exact Session.qtyHash_pool _ _ _
      all_goals rfl

theorem Session.hash_spec {s : Session} (h : s.Inv) (i : Nat) :
    (s.hash i).1 = s.pureHash i ∧ (s.hash i).2.Inv := by
  unfold Session.hash Session.pureHash
  cases hp : s.pool[i]? with
  | none => exact ⟨rfl, h⟩
  | some p =>
    have hmem : p ∈ s.pool := List.mem_of_getElem? hp
    dsimp only
    unfold pyHash
    cases hs : p.obj.cls.hashSlot <;> dsimp only
    case unhashable | raises => exact ⟨rfl, h⟩
    all_goals
      cases ho : p.obj <;> dsimp only
      -- only a Quantity and a Scalar go through the memo
      case quantity q | scalar v q =>
        have hq : p.obj.heldQty = some q := by rw [ho]; rfl
        obtain ⟨h1, h2⟩ := Session.qtyHash_spec h hmem hq
        exact ⟨by rw [h1]; rfl, h2⟩
      all_goals exact ⟨rfl, h⟩

theorem Session.step_pool (s : Session) (op : StirOp) : (s.step op).pool = s.pool := by
  cases op <;> simp [Session.step, Session.hash_pool]

theorem Session.step_inv {s : Session} (h : s.Inv) (op : StirOp) : (s.step op).Inv := by
  cases op <;> simp only [Session.step] <;> first | exact h | exact (Session.hash_spec h _).2

theorem Session.run_pool (s : Session) (ops : List StirOp) : (s.run ops).pool = s.pool := by
  unfold Session.run
  induction ops generalizing s with
  | nil => rfl
  | cons op ops ih => rw [List.foldl_cons, ih, Session.step_pool]

theorem Session.run_inv {s : Session} (h : s.Inv) (ops : List StirOp) : (s.run ops).Inv := by
  unfold Session.run
  induction ops generalizing s with
  | nil => exact h
  | cons op ops ih => rw [List.foldl_cons]; exact ih (Session.step_inv h op)

/-! ### order after histories -/

theorem OSession.step_prefix (s : OSession) (op : OStirOp) : ∃ ext, (s.step op).pool = s.pool ++ ext := by
  cases op with
  | copy i =>
    simp only [OSession.step]
    cases h : s.pool[i]? with
    | none => exact ⟨[], by simp⟩
    | some o => exact ⟨[o], rfl⟩
  | _ => exact ⟨[], by simp [OSession.step]⟩

theorem OSession.run_prefix (s : OSession) (ops : List OStirOp) : ∃ ext, (s.run ops).pool = s.pool ++ ext := by
  unfold OSession.run
  induction ops generalizing s with
  | nil => exact ⟨[], by simp⟩
  | cons op ops ih =>
    obtain ⟨e1, h1⟩ := OSession.step_prefix s op
    obtain ⟨e2, h2⟩ := ih (s.step op)
    exact ⟨e1 ++ e2, by rw [List.foldl_cons, h2, h1, List.append_assoc]⟩

theorem OSession.run_getElem? (s : OSession) (ops : List OStirOp) {i : Nat} (hi : i < s.pool.length) :
    (s.run ops).pool[i]? = s.pool[i]? := by
  obtain ⟨ext, h⟩ := OSession.run_prefix s ops
  rw [h, List.getElem?_append_left hi]

theorem OSession.step_mem (s : OSession) (op : OStirOp) {o : Operand} (h : o ∈ (s.step op).pool) : o ∈ s.pool := by
  cases op with
  | copy i =>
    simp only [OSession.step] at h
    cases hi : s.pool[i]? with
    | none => simpa [hi] using h
    | some x =>
      simp only [hi] at h
      rcases List.mem_append.mp h with h | h
      · exact h
      · rw [List.mem_singleton.mp h]; exact List.mem_of_getElem? hi
  | _ => exact h

theorem OSession.run_mem (s : OSession) (ops : List OStirOp) {o : Operand} (h : o ∈ (s.run ops).pool) : o ∈ s.pool := by
  unfold OSession.run at h
  induction ops generalizing s with
  | nil => exact h
  | cons op ops ih => exact OSession.step_mem s op (ih (s.step op) (by simpa [List.foldl_cons] using h))

end Barril
