/-
`UnitRow.derivedOk` reads the database three times: its unit rows, its legacy list and, in `typeNameStable`, its
categories.  The two POSC databases share rows and legacy list, so the string work done for one serves the other.
-/
import Barril.Model.LegacyApi

namespace Barril

/-- over the same rows and legacy list only `typeNameStable` can tell two databases apart, and only on rows that
have legacy spellings; the Boolean is written in this order so that its evaluation stops at `typeNameStable`
where that holds and never derives a spelling -/
theorem UnitRow.derivedOk_of_same_rows {db db' : Db} (hu : db'.units = db.units) (hl : db'.legacy = db.legacy)
    (h : db.units.all (UnitRow.derivedOk db) = true)
    (h' : db'.units.all (fun r => r.typeNameStable db' || (deriveFor db'.legacy r.sym).isEmpty) = true) :
    db'.units.all (UnitRow.derivedOk db') = true := by
  rw [List.all_eq_true] at h h' ⊢
  intro r hr
  have h1 := h r (hu ▸ hr)
  have h2 := h' r hr
  simp only [UnitRow.derivedOk, UnitRow.onlyOne, hu, hl, Bool.or_eq_true, Bool.and_eq_true] at h1 h2 ⊢
  rcases h1 with h1 | ⟨⟨⟨ha, hb⟩, hc⟩, _⟩
  · exact .inl h1
  · rcases h2 with h2 | h2
    · exact .inr ⟨⟨⟨ha, hb⟩, hc⟩, h2⟩
    · exact .inl h2

end Barril
