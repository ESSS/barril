/-
What C12's statements rest on (engine `Valid`): IEEE `<=` as the order of `WithBot (WithTop Rat)`, the scan invariant
`IsMinMax`, conversions between table rows as lifted exact conversions (`liftV`), the limit check, `Canon` for
produced quantities, the memo of an Array, and the inversions of `AddCategory`.
-/
import Barril.Model.Valid
import Barril.Proofs.ConvLemmas

namespace Barril.Valid

namespace Val

/-- the non-NaN values in their order; NaN goes to `⊥` like `-inf`, and `le_iff` keeps it apart -/
def ext : Val → WithBot (WithTop Rat)
  | fin q => ((q : WithTop Rat) : WithBot (WithTop Rat))
  | posInf => ((⊤ : WithTop Rat) : WithBot (WithTop Rat))
  | _ => ⊥

theorem le_iff {a b : Val} : le a b = true ↔ a.isNan = false ∧ b.isNan = false ∧ ext a ≤ ext b := by
  cases a <;> cases b <;> simp [le, isNan, ext]

theorem le_refl' {a : Val} (ha : a.isNan = false) : le a a = true :=
  le_iff.mpr ⟨ha, ha, le_rfl⟩

theorem le_trans' {a b c : Val} (h1 : le a b = true) (h2 : le b c = true) : le a c = true := by
  obtain ⟨ha, _, h⟩ := le_iff.mp h1
  obtain ⟨_, hc, h'⟩ := le_iff.mp h2
  exact le_iff.mpr ⟨ha, hc, h.trans h'⟩

theorem le_total' {a b : Val} (ha : a.isNan = false) (hb : b.isNan = false) :
    le a b = true ∨ le b a = true :=
  (le_total (ext a) (ext b)).imp (fun h => le_iff.mpr ⟨ha, hb, h⟩) (fun h => le_iff.mpr ⟨hb, ha, h⟩)

theorem le_antisymm' {a b : Val} (h1 : le a b = true) (h2 : le b a = true) : a = b := by
  cases a <;> cases b <;> simp_all [le]
  exact _root_.le_antisymm h1 h2

theorem not_nan_of_le_left {a b : Val} (h : le a b = true) : a.isNan = false := (le_iff.mp h).1

theorem not_nan_of_le_right {a b : Val} (h : le a b = true) : b.isNan = false := (le_iff.mp h).2.1

theorem lt_iff {a b : Val} : lt a b = true ↔ le a b = true ∧ le b a = false := by
  cases a <;> cases b <;> simp [lt, le]
  exact _root_.le_of_lt

theorem le_of_lt {a b : Val} (h : lt a b = true) : le a b = true := (lt_iff.mp h).1

theorem le_of_not_lt {a b : Val} (ha : a.isNan = false) (hb : b.isNan = false)
    (h : lt a b = false) : le b a = true := by
  rcases le_total' ha hb with hab | hba
  · cases hba : le b a with
    | true => rfl
    | false => rw [lt_iff.mpr ⟨hab, hba⟩] at h; cases h
  · exact hba

theorem lt_of_lt_of_le {a b c : Val} (h1 : lt a b = true) (h2 : le b c = true) : lt a c = true := by
  obtain ⟨h, h'⟩ := lt_iff.mp h1
  refine lt_iff.mpr ⟨le_trans' h h2, ?_⟩
  cases hca : le c a with
  | false => rfl
  | true => rw [le_trans' h2 hca] at h'; cases h'

theorem lt_of_le_of_lt {a b c : Val} (h1 : le a b = true) (h2 : lt b c = true) : lt a c = true := by
  obtain ⟨h, h'⟩ := lt_iff.mp h2
  refine lt_iff.mpr ⟨le_trans' h1 h, ?_⟩
  cases hca : le c a with
  | false => rfl
  | true => rw [le_trans' hca h1] at h'; cases h'

theorem fin_le_fin {x y : Rat} : le (fin x) (fin y) = true ↔ x ≤ y := by simp [le]

theorem fin_lt_fin {x y : Rat} : lt (fin x) (fin y) = true ↔ x < y := by simp [lt]

theorem fin_of_between {a b : Rat} {v : Val} (h1 : le (fin a) v = true) (h2 : le v (fin b) = true) :
    ∃ x, v = fin x := by
  cases v <;> simp_all [le]

end Val

structure IsMinMax (vs : List Val) (mn mx : Val) : Prop where
  mn_mem : mn ∈ vs
  mx_mem : mx ∈ vs
  mn_num : mn.isNan = false
  mx_num : mx.isNan = false
  bounds : ∀ v ∈ vs, v.isNan = false → Val.le mn v = true ∧ Val.le v mx = true

theorem scan_none_iff (vs : List Val) : scan vs = none ↔ ∀ v ∈ vs, v.isNan = true := by
  induction vs with
  | nil => simp [scan]
  | cons v vs ih =>
    unfold scan
    cases hv : v.isNan with
    | true => simp only [↓reduceIte, ih, List.mem_cons, forall_eq_or_imp, hv, true_and]
    | false => simp [hv]

theorem scanRest_cons (mn mx v : Val) (vs : List Val) :
    scanRest mn mx (v :: vs) = scanRest (scanRest mn mx [v]).1 (scanRest mn mx [v]).2 vs := by
  simp only [scanRest]
  split
  · rfl
  · split
    · rfl
    · split <;> rfl

theorem IsMinMax.widen {seen : List Val} {mn mx v mn' mx' : Val} (h : IsMinMax seen mn mx)
    (hmn : mn' ∈ seen ++ [v]) (hmx : mx' ∈ seen ++ [v]) (hn : mn'.isNan = false) (hx : mx'.isNan = false)
    (h1 : Val.le mn' mn = true) (h2 : Val.le mx mx' = true)
    (hv : v.isNan = false → Val.le mn' v = true ∧ Val.le v mx' = true) : IsMinMax (seen ++ [v]) mn' mx' :=
  ⟨hmn, hmx, hn, hx, fun w hw hwn => by
    rcases List.mem_append.mp hw with hw | hw
    · exact ⟨Val.le_trans' h1 (h.bounds w hw hwn).1, Val.le_trans' (h.bounds w hw hwn).2 h2⟩
    · rw [List.mem_singleton.mp hw] at hwn ⊢
      exact hv hwn⟩

theorem IsMinMax.snoc {seen : List Val} {mn mx : Val} (h : IsMinMax seen mn mx) (v : Val) :
    IsMinMax (seen ++ [v]) (scanRest mn mx [v]).1 (scanRest mn mx [v]).2 := by
  have hle : Val.le mn mx = true := (h.bounds mx h.mx_mem h.mx_num).1
  have hm := List.mem_append_left [v] h.mn_mem
  have hM := List.mem_append_left [v] h.mx_mem
  have hvm : v ∈ seen ++ [v] := List.mem_append_right seen (List.mem_singleton.mpr rfl)
  have rmn := Val.le_refl' h.mn_num
  have rmx := Val.le_refl' h.mx_num
  cases hv : v.isNan with
  | true =>
    simp only [scanRest, hv, ↓reduceIte]
    exact h.widen hm hM h.mn_num h.mx_num rmn rmx (fun hn => by rw [hv] at hn; cases hn)
  | false =>
    cases hlt : Val.lt v mn with
    | true =>
      simp only [scanRest, hv, hlt, Bool.false_eq_true, ↓reduceIte]
      exact h.widen hvm hM hv h.mx_num (Val.le_of_lt hlt) rmx
        (fun _ => ⟨Val.le_refl' hv, Val.le_trans' (Val.le_of_lt hlt) hle⟩)
    | false =>
      have hmv := Val.le_of_not_lt hv h.mn_num hlt
      cases hgt : Val.lt mx v with
      | true =>
        simp only [scanRest, Val.gt, hv, hlt, hgt, Bool.false_eq_true, ↓reduceIte]
        exact h.widen hm hvm h.mn_num hv rmn (Val.le_of_lt hgt) (fun _ => ⟨hmv, Val.le_refl' hv⟩)
      | false =>
        simp only [scanRest, Val.gt, hv, hlt, hgt, Bool.false_eq_true, ↓reduceIte]
        exact h.widen hm hM h.mn_num h.mx_num rmn rmx
          (fun _ => ⟨hmv, Val.le_of_not_lt h.mx_num hv hgt⟩)

theorem scanRest_spec (vs : List Val) : ∀ {seen : List Val} {mn mx : Val}, IsMinMax seen mn mx →
    IsMinMax (seen ++ vs) (scanRest mn mx vs).1 (scanRest mn mx vs).2 := by
  induction vs with
  | nil => intro seen mn mx h; simpa [scanRest] using h
  | cons v vs ih =>
    intro seen mn mx h
    rw [scanRest_cons, List.append_cons]
    exact ih (h.snoc v)

theorem scan_some_spec {vs : List Val} {mn mx : Val} (h : scan vs = some (mn, mx)) :
    IsMinMax vs mn mx := by
  induction vs with
  | nil => simp [scan] at h
  | cons v vs ih =>
    unfold scan at h
    cases hv : v.isNan with
    | true =>
      rw [hv] at h
      simp only [↓reduceIte] at h
      have r := ih h
      refine ⟨List.mem_cons_of_mem _ r.mn_mem, List.mem_cons_of_mem _ r.mx_mem, r.mn_num, r.mx_num, ?_⟩
      intro w hw hwn
      rcases List.mem_cons.mp hw with rfl | hw
      · rw [hv] at hwn; cases hwn
      · exact r.bounds w hw hwn
    | false =>
      rw [hv] at h
      simp only [Bool.false_eq_true, ↓reduceIte, Option.some.injEq] at h
      -- the first non-NaN element is minimum and maximum of itself; the inner loop does the rest
      have r := scanRest_spec vs (seen := [v]) (mn := v) (mx := v)
        ⟨List.mem_singleton.mpr rfl, List.mem_singleton.mpr rfl, hv, hv, fun w hw _ => by
          rw [List.mem_singleton.mp hw]; exact ⟨Val.le_refl' hv, Val.le_refl' hv⟩⟩
      rw [h] at r
      exact r

theorem IsMinMax.unique {vs : List Val} {a b a' b' : Val} (h : IsMinMax vs a b) (h' : IsMinMax vs a' b') :
    a = a' ∧ b = b' := by
  constructor
  · exact Val.le_antisymm' (h.bounds a' h'.mn_mem h'.mn_num).1 (h'.bounds a h.mn_mem h.mn_num).1
  · exact Val.le_antisymm' (h'.bounds b h.mx_mem h.mx_num).2 (h.bounds b' h'.mx_mem h'.mx_num).2

theorem IsMinMax.of_perm {vs ws : List Val} {a b : Val} (p : vs.Perm ws) (h : IsMinMax vs a b) :
    IsMinMax ws a b :=
  ⟨p.mem_iff.mp h.mn_mem, p.mem_iff.mp h.mx_mem, h.mn_num, h.mx_num,
   fun v hv hn => h.bounds v (p.mem_iff.mpr hv) hn⟩

theorem applyV_fin (m : Mob) (x : Rat) :
    m.applyV (.fin x) = (match m.apply x with | .ok y => .ok (.fin y) | .error e => .error e) := by
  unfold Mob.applyV Mob.apply Mob.eval
  by_cases hs : m.s = 0
  · simp only [hs, ↓reduceIte, Val.mul, Val.add, Val.div, zero_mul, add_zero]
    split <;> rfl
  · simp only [hs, ↓reduceIte, Val.mul, Val.add, Val.div]
    split <;> rfl

theorem applyV_nonfinite {m : Mob} (hs : m.s = 0) (hpos : 0 < m.q * m.r) {v : Val}
    (hv : ∀ x, v ≠ .fin x) : m.applyV v = .ok v := by
  unfold Mob.applyV
  simp only [hs, ↓reduceIte]
  have hr : m.r ≠ 0 := by intro h; rw [h] at hpos; simp at hpos
  have hq : m.q ≠ 0 := by intro h; rw [h] at hpos; simp at hpos
  rcases pos_and_pos_or_neg_and_neg_of_mul_pos hpos with ⟨h1, h2⟩ | ⟨h1, h2⟩
  · cases v with
    | fin x => exact absurd rfl (hv x)
    | nan => simp [Val.mul, Val.add, Val.div, hr]
    | posInf => simp [Val.mul, Val.add, Val.div, Val.infTimes, hr, hq, h1, h2]
    | negInf => simp [Val.mul, Val.add, Val.div, Val.infTimes, hr, hq, h1, h2]
  · have n1 : ¬ (0 < m.q) := not_lt.mpr (le_of_lt h1)
    have n2 : ¬ (0 < m.r) := not_lt.mpr (le_of_lt h2)
    cases v with
    | fin x => exact absurd rfl (hv x)
    | nan => simp [Val.mul, Val.add, Val.div, hr]
    | posInf => simp [Val.mul, Val.add, Val.div, Val.infTimes, hr, hq, n1, n2]
    | negInf => simp [Val.mul, Val.add, Val.div, Val.infTimes, hr, hq, n1, n2]

theorem _root_.Barril.UnitRow.WF.from_pos {w : UnitRow} (h : w.WF) : 0 < w.fromBase.q * w.fromBase.r :=
  mul_pos_iff.mpr (div_pos_iff.mp h.from_slope_pos)

/-- the hypotheses on a unit table: every row well-formed (`UnitRow.wf`, the C01 table theorem) and
of the modelled shape (`UnitRow.valShape`, the C12 table theorem) -/
def RowsOK (units : List UnitRow) : Prop := ∀ r ∈ units, r.WF ∧ r.valShape = true

/-- one side of a row on a finite value: the formula when there is one, else the identity, which the shape
assumption makes the same affine map -/
theorem sideV_fin {m : Mob} {flag : Bool} {x : Rat} (happ : m.apply x = .ok ((m.p + m.q * x) / m.r))
    (hid : flag = false → m = Mob.ident) :
    (if flag then m.applyV (.fin x) else .ok (.fin x)) = .ok (.fin ((m.p + m.q * x) / m.r)) := by
  cases flag with
  | true => simp only [↓reduceIte]; rw [applyV_fin, happ]
  | false => rw [hid rfl]; simp [Mob.ident]

theorem toBaseV_fin {r : UnitRow} (hw : r.WF) (hs : r.valShape = true) (x : Rat) :
    toBaseV r (.fin x) = .ok (.fin ((r.toBase.p + r.toBase.q * x) / r.toBase.r)) :=
  sideV_fin (hw.to_apply x) (fun hc => by
    unfold UnitRow.valShape at hs
    simp [hc] at hs
    exact hs.1)

theorem fromBaseV_fin {r : UnitRow} (hw : r.WF) (hs : r.valShape = true) (y : Rat) :
    fromBaseV r (.fin y) = .ok (.fin ((r.fromBase.p + r.fromBase.q * y) / r.fromBase.r)) :=
  sideV_fin (hw.from_apply y) (fun hc => by
    unfold UnitRow.valShape at hs
    simp [hc] at hs
    exact hs.2)

theorem convRowsV_fin {a b : UnitRow} (ha : a.WF) (hb : b.WF) (sa : a.valShape = true)
    (sb : b.valShape = true) (x : Rat) : convRowsV a b (.fin x) = .ok (.fin (convVal a b x)) := by
  unfold convRowsV convVal
  simp only [ha.ok, hb.ok, Bool.and_self, Bool.not_true, Bool.false_eq_true, ↓reduceIte]
  rw [toBaseV_fin ha sa]
  simp only
  rw [fromBaseV_fin hb sb]

theorem convRowsV_nonfinite {a b : UnitRow} (ha : a.WF) (hb : b.WF) {v : Val} (hv : ∀ x, v ≠ .fin x) :
    convRowsV a b v = .ok v := by
  unfold convRowsV toBaseV fromBaseV
  simp only [ha.ok, hb.ok, Bool.and_self, Bool.not_true, Bool.false_eq_true, ↓reduceIte]
  cases h1 : a.hasConvTo <;> cases h2 : b.hasConvFrom <;> simp only [↓reduceIte, Bool.false_eq_true]
  · rw [applyV_nonfinite hb.fs hb.from_pos hv]
  · rw [applyV_nonfinite ha.ts ha.pos hv]
  · rw [applyV_nonfinite ha.ts ha.pos hv]
    simp only
    rw [applyV_nonfinite hb.fs hb.from_pos hv]

def liftV (f : Rat → Rat) : Val → Val
  | .fin x => .fin (f x)
  | w => w

theorem liftV_liftV (f g : Rat → Rat) (v : Val) : liftV f (liftV g v) = liftV (fun x => f (g x)) v := by
  cases v <;> rfl

theorem liftV_id {f : Rat → Rat} (hf : ∀ x, f x = x) (v : Val) : liftV f v = v := by
  cases v <;> simp only [liftV, hf]

theorem liftV_mono {f : Rat → Rat} (hf : ∀ x y, x < y → f x < f y) {a b : Val}
    (h : Val.le a b = true) : Val.le (liftV f a) (liftV f b) = true := by
  cases a <;> cases b <;> simp_all [liftV, Val.le]
  -- left: two finite values, where `f` is strictly increasing
  rename_i x y
  rcases lt_or_eq_of_le h with h | h
  · exact _root_.le_of_lt (hf _ _ h)
  · rw [h]

theorem convRowsV_eq {a b : UnitRow} (ha : a.WF) (hb : b.WF) (sa : a.valShape = true)
    (sb : b.valShape = true) (v : Val) : convRowsV a b v = .ok (liftV (convVal a b) v) := by
  cases v with
  | fin x => exact convRowsV_fin ha hb sa sb x
  | _ => exact convRowsV_nonfinite ha hb (by intro x h; cases h)

theorem checkLimits_nan {c : CatInfo} (h : c.limited = true) : checkLimits c .nan ≠ .ok () := by
  unfold checkLimits checkMin checkMax CatInfo.limited at *
  cases hm : c.minV with
  | some m => cases c.minExcl <;> simp [Val.gt, Val.ge, Val.lt, Val.le]
  | none =>
    cases hM : c.maxV with
    | some M => cases c.maxExcl <;> simp [Val.lt, Val.le]
    | none => simp [hm, hM] at h

/-- one comparison of `CheckValue`: passed or reported -/
theorem guard_ok {b : Bool} {e : VErr} : (if b = true then Except.ok () else .error e) = .ok () ↔ b = true := by
  cases b <;> simp

theorem guard_error {b : Bool} {e e' : VErr} (h : (if b = true then Except.ok () else .error e') = .error e) :
    b = false ∧ e' = e := by
  cases b
  · exact ⟨rfl, Except.error.inj h⟩
  · cases h

theorem checkMin_ok_iff {c : CatInfo} {v : Val} : checkMin c v = .ok () ↔
    ∀ m, c.minV = some m → (if c.minExcl then Val.lt (.fin m) v else Val.le (.fin m) v) = true := by
  unfold checkMin
  cases c.minV with
  | none => simp
  | some m => cases c.minExcl <;> simp [Val.gt, Val.ge] <;> exact guard_ok

theorem checkMax_ok_iff {c : CatInfo} {v : Val} : checkMax c v = .ok () ↔
    ∀ m, c.maxV = some m → (if c.maxExcl then Val.lt v (.fin m) else Val.le v (.fin m)) = true := by
  unfold checkMax
  cases c.maxV with
  | none => simp
  | some m => cases c.maxExcl <;> simp

theorem checkLimits_ok_iff {c : CatInfo} {v : Val} :
    checkLimits c v = .ok () ↔ checkMin c v = .ok () ∧ checkMax c v = .ok () := by
  unfold checkLimits
  cases h : checkMin c v with
  | error e => simp
  | ok u => cases u; simp

def Violated (c : CatInfo) (op : CmpOp) (m : Rat) (w : Val) : Prop :=
  match op with
  | .gt => c.minV = some m ∧ c.minExcl = true ∧ Val.lt (.fin m) w = false
  | .ge => c.minV = some m ∧ c.minExcl = false ∧ Val.le (.fin m) w = false
  | .lt => c.maxV = some m ∧ c.maxExcl = true ∧ Val.lt w (.fin m) = false
  | .le => c.maxV = some m ∧ c.maxExcl = false ∧ Val.le w (.fin m) = false

theorem checkLimits_error {c : CatInfo} {v : Val} {e : VErr} (h : checkLimits c v = .error e) :
    ∃ op m, e = .validation op m v ∧ Violated c op m v := by
  unfold checkLimits at h
  split at h
  · rename_i e' h1
    cases h
    unfold checkMin at h1
    split at h1
    · cases h1
    rename_i m hm
    split at h1 <;> rename_i hx <;> obtain ⟨hb, rfl⟩ := guard_error h1
    · exact ⟨.gt, m, rfl, hm, hx, hb⟩
    · exact ⟨.ge, m, rfl, hm, by simpa using hx, hb⟩
  · unfold checkMax at h
    split at h
    · cases h
    rename_i m hm
    split at h <;> rename_i hx <;> obtain ⟨hb, rfl⟩ := guard_error h
    · exact ⟨.lt, m, rfl, hm, hx, hb⟩
    · exact ⟨.le, m, rfl, hm, by simpa using hx, hb⟩

theorem checkLimits_convex {c : CatInfo} {a v b : Val} (ha : checkLimits c a = .ok ())
    (hb : checkLimits c b = .ok ()) (hav : Val.le a v = true) (hvb : Val.le v b = true) :
    checkLimits c v = .ok () := by
  rw [checkLimits_ok_iff] at ha hb ⊢
  constructor
  · rw [checkMin_ok_iff] at ha ⊢
    intro m hm
    have := ha.1 m hm
    cases hx : c.minExcl
    · simp only [hx, Bool.false_eq_true, ↓reduceIte] at this ⊢; exact Val.le_trans' this hav
    · simp only [hx, ↓reduceIte] at this ⊢; exact Val.lt_of_lt_of_le this hav
  · rw [checkMax_ok_iff] at hb ⊢
    intro m hm
    have := hb.2 m hm
    cases hx : c.maxExcl
    · simp only [hx, Bool.false_eq_true, ↓reduceIte] at this ⊢; exact Val.le_trans' hvb this
    · simp only [hx, ↓reduceIte] at this ⊢; exact Val.lt_of_le_of_lt hvb this

theorem convToDefault_eq {g : Reg} (hg : RowsOK g.units) (c : CatInfo) (unit : Sym) {this : UnitRow}
    (ht : this ∈ g.units) (v : Val) :
    convToDefault g c unit this v =
      if unit == c.defaultUnit then .ok v else
      match g.db.getInfo c.qtype c.defaultUnit true with
      | .error e => .error e
      | .ok other => .ok (liftV (convVal this other) v) := by
  unfold convToDefault
  split
  · rfl
  · cases hi : g.db.getInfo c.qtype c.defaultUnit true with
    | error e => rfl
    | ok other =>
      obtain ⟨wt, st⟩ := hg this ht
      obtain ⟨wo, so⟩ := hg other (Db.getInfo_mem hi)
      exact convRowsV_eq wt wo st so v

theorem convToDefault_shape {g : Reg} (hg : RowsOK g.units) (c : CatInfo) (unit : Sym) {this : UnitRow}
    (ht : this ∈ g.units) :
    (∃ e, ∀ v, convToDefault g c unit this v = .error e) ∨
    ∃ f : Rat → Rat, (∀ x y, x < y → f x < f y) ∧ ∀ v, convToDefault g c unit this v = .ok (liftV f v) := by
  simp only [convToDefault_eq hg c unit ht]
  split
  · exact .inr ⟨id, fun _ _ h => h, fun v => by rw [liftV_id (f := id) (fun _ => rfl)]⟩
  · cases hi : g.db.getInfo c.qtype c.defaultUnit true with
    | error e => exact .inl ⟨e, fun _ => rfl⟩
    | ok other =>
      exact .inr ⟨convVal this other, fun _ _ h =>
        convVal_strictMono (hg this ht).1 (hg other (Db.getInfo_mem hi)).1 h, fun _ => rfl⟩

theorem checkValue_simple {g : Reg} {c : CatInfo} {unit : Sym} {this : UnitRow} (hl : c.limited = true)
    (v : Val) : checkValue g (.simple c unit this) v =
      (match convToDefault g c unit this v with
       | .error e => .error (.other e)
       | .ok v' => checkLimits c v') := by
  simp only [checkValue, hl, Bool.not_true, Bool.false_eq_true, ↓reduceIte]
  cases convToDefault g c unit this v <;> rfl

/-- **interval convexity + monotone conversion**: between two accepted values every value is
accepted -/
theorem checkValue_between {g : Reg} (hg : RowsOK g.units) {c : CatInfo} {unit : Sym} {this : UnitRow}
    (ht : this ∈ g.units) (hl : c.limited = true) {a v b : Val}
    (ha : checkValue g (.simple c unit this) a = .ok ())
    (hb : checkValue g (.simple c unit this) b = .ok ())
    (hav : Val.le a v = true) (hvb : Val.le v b = true) :
    checkValue g (.simple c unit this) v = .ok () := by
  rw [checkValue_simple hl] at ha hb ⊢
  rcases convToDefault_shape hg c unit ht with ⟨e, h⟩ | ⟨f, mono, h⟩
  · rw [h a] at ha; cases ha
  · rw [h] at ha hb ⊢
    exact checkLimits_convex ha hb (liftV_mono mono hav) (liftV_mono mono hvb)

theorem fixValidUnits_mem {g : Reg} {qunits : List Sym} : ∀ {vs r : List Sym},
    fixValidUnits g qunits vs = .ok r → ∀ u ∈ r, u ∈ qunits := by
  intro vs
  induction vs with
  | nil => intro r h u hu; simp [fixValidUnits] at h; subst h; cases hu
  | cons v vs ih =>
    intro r h u hu
    unfold fixValidUnits at h
    simp only at h
    split at h
    · rename_i hc
      cases hr : fixValidUnits g qunits vs with
      | error e => rw [hr] at h; cases h
      | ok r' =>
        rw [hr] at h
        simp only [Except.ok.injEq] at h
        subst h
        rcases List.mem_cons.mp hu with rfl | hu
        · simpa using hc
        · exact ih hr u hu
    · cases h


/-- a quantity that is exactly what `Quantity(category, unit)` gives for its own category name and unit
(a derived one carries nothing) -/
def Canon (g : Reg) (q : Quant) : Prop :=
  ∀ c u r, q = .simple c u r → mkQuant g c.name u = .ok (.simple c u r)

def CanonF {α : Type} (g : Reg) (f : α → Quant) (r : Except ErrKind α) : Prop :=
  ∀ a, r = .ok a → Canon g (f a)

theorem CanonF.error {α : Type} {g : Reg} {f : α → Quant} {e : ErrKind} : CanonF g f (.error e) := by
  intro a h; cases h

theorem CanonF.ok {α : Type} {g : Reg} {f : α → Quant} {a : α} (h : Canon g (f a)) : CanonF g f (.ok a) := by
  intro a' h'; cases h'; exact h

theorem settleUnit_idem {g : Reg} {c u u' : Sym} (h : settleUnit g c u = some u') :
    settleUnit g c u' = some u' := by
  unfold settleUnit at h
  split at h
  · cases h; rename_i hv; unfold settleUnit; rw [if_pos hv]
  · split at h
    · cases h
      rename_i hv
      have hv2 := (Bool.and_eq_true _ _).mp hv
      unfold settleUnit; rw [if_pos hv2.2]
    · cases h

theorem mkQuant_inv {g : Reg} {cn u : Sym} {q : Quant} (h : mkQuant g cn u = .ok q) :
    ∃ ci u' r, g.cat? cn = some ci ∧ settleUnit g cn u = some u'
      ∧ g.db.getInfo ci.qtype u' true = .ok r ∧ q = .simple ci u' r := by
  unfold mkQuant at h
  split at h
  · cases h
  · rename_i ci hc
    split at h
    · cases h
    · rename_i u' hs
      split at h
      · rename_i r hi
        cases h
        exact ⟨ci, u', r, hc, hs, hi, rfl⟩
      · cases h

theorem mkQuant_canon {g : Reg} {cn u : Sym} : CanonF g id (mkQuant g cn u) := by
  intro q h c u' r hq
  obtain ⟨ci, u1, r1, hc, hs, hi, rfl⟩ := mkQuant_inv h
  cases hq
  -- the registry finds the category under its own name, and the settled unit settles on itself
  have hn : c.name = cn := by simpa using List.find?_some hc
  simp only [mkQuant, hn, hc, settleUnit_idem hs, hi]

theorem mkQuantNoCat_canon {g : Reg} {u : Sym} : CanonF g id (mkQuantNoCat g u) := by
  unfold mkQuantNoCat
  split
  · exact .error
  · exact mkQuant_canon
  · split
    · split
      · exact .error
      · exact mkQuant_canon
      · exact .error
    · exact .error

theorem obtainComposing_canon {g : Reg} {es : List Entry} : CanonF g id (obtainComposing g es) := by
  unfold obtainComposing
  split
  · exact .error
  · exact .ok (fun _ _ _ h => by cases h)

theorem obtainMapping_canon {g : Reg} {es : List Entry} : CanonF g id (obtainMapping g es) := by
  unfold obtainMapping
  split
  · split
    · exact mkQuant_canon
    · exact obtainComposing_canon
  · exact obtainComposing_canon

theorem createDerived_canon {g : Reg} {es : List Entry} : CanonF g id (createDerived g es) := by
  unfold createDerived
  split
  · exact .error
  · exact obtainMapping_canon

theorem obtainList_canon {g : Reg} {units : List (Sym × Int)} {cat : CatArg} :
    CanonF g id (obtainList g units cat) := by
  unfold obtainList
  simp only
  have comp : CanonF g id (match cat with
      | .many cs => obtainMapping g (zipEntries cs units)
      | _ => (.error .assertion : Except ErrKind Quant)) := by
    split
    · exact obtainMapping_canon
    · exact .error
  split
  · split
    · split
      · exact mkQuantNoCat_canon
      · exact mkQuant_canon
      · exact .error
      · exact mkQuant_canon
    · exact comp
  · exact comp

theorem opNumberQuant_canon {g : Reg} {q : Quant} {op : BinOp} {nl : Bool} :
    CanonF g id (opNumberQuant g q op nl) := by
  unfold opNumberQuant
  split
  · exact .error
  · split
    · exact obtainMapping_canon
    · exact obtainMapping_canon
    · exact createDerived_canon
    · exact createDerived_canon

theorem opNumber_canon {g : Reg} {q : Quant} {s : Shape} {op : BinOp} {x : Val} {nl : Bool}
    (hq : Canon g q) : CanonF g Prod.fst (opNumber g q s op x nl) := by
  unfold opNumber
  split
  · exact .error
  · exact .error
  · split
    · exact .error
    · rename_i h1
      split
      · exact .error
      · exact .ok (opNumberQuant_canon _ h1)
  · split
    · split
      · exact .error
      · rename_i h1
        split
        · exact .error
        · exact .ok (opNumberQuant_canon _ h1)
    · split
      · exact .error
      · exact .ok hq

theorem reobtainPair_canon {g : Reg} {e1 e2 : Entry} : CanonF g id (reobtainPair g e1 e2) := by
  unfold reobtainPair
  split
  · exact .error
  · rename_i h1
    split
    · exact .error
    · exact .ok (obtainMapping_canon _ h1)

theorem sameQuantityOp_canon {g : Reg} {q1 q2 : Quant} (hq : Canon g q1) :
    CanonF g Prod.fst (sameQuantityOp g q1 q2) := by
  unfold sameQuantityOp
  split
  · split
    · exact .ok hq
    · split
      · split
        · split
          · exact .error
          · split
            · exact .error
            · rename_i h; exact .ok (reobtainPair_canon _ h)
        · split
          · exact .error
          · rename_i h
            split
            · exact .ok (reobtainPair_canon _ h)
            · exact .error
      · exact .error
  · exact .error

theorem opObjects_canon {g : Reg} {q1 q2 : Quant} {s1 s2 : Shape} {op : BinOp} (hq : Canon g q1) :
    CanonF g Prod.fst (opObjects g q1 s1 q2 s2 op) := by
  unfold opObjects
  split
  · exact .error
  · split
    · split
      · exact .error
      · rename_i h1
        split
        · exact .ok (sameQuantityOp_canon hq _ h1)
        · exact .error
        · exact .error
    · split
      · exact .error
      · split
        · exact .error
        · rename_i h1
          split
          · exact .error
          · exact .ok (sameQuantityOp_canon hq _ h1)
    · exact .error

theorem pickled_canon {g : Reg} {q : Quant} {s : Shape} : CanonF g Prod.fst (pickled g q s) := by
  unfold pickled
  split
  · exact .error
  · split
    · exact .error
    · rename_i h1; exact .ok (obtainMapping_canon _ h1)

/-- the quantity of a `CreateCopy` once the values are there: the last `match` of `createCopy` and of
`createCopyScalar`, the same text in both, stated once -/
theorem copyQuant_canon {α : Type} {g : Reg} {q : Quant} {c : CatInfo} {unit cat : Option Sym} {x : α}
    (hq : Canon g q) :
    CanonF g Prod.fst (match unit, cat with
      | none, none => .ok (q, x)
      | none, some _ => .error .type
      | some u', some c' =>
        match mkQuant g c' u' with
        | .error e => .error e
        | .ok q' => .ok (q', x)
      | some u', none =>
        if c.name == 0 then .error .other else
        match mkQuant g c.name u' with
        | .error e => .error e
        | .ok q' => .ok (q', x)) := by
  split
  · exact .ok hq
  · exact .error
  · split
    · exact .error
    · rename_i h1; exact .ok (mkQuant_canon _ h1)
  · split
    · exact .error
    · split
      · exact .error
      · rename_i h1; exact .ok (mkQuant_canon _ h1)

theorem createCopy_canon {g : Reg} {q : Quant} {a : ArrVal} {k : Cache} {unit cat : Option Sym}
    (hq : Canon g q) : CanonF g Prod.fst (createCopy g q a k unit cat) := by
  unfold createCopy
  split
  · exact .error
  · split
    · exact .error
    · exact copyQuant_canon hq

theorem createCopyScalar_canon {g : Reg} {q : Quant} {v : Val} {unit cat : Option Sym}
    (hq : Canon g q) : CanonF g Prod.fst (createCopyScalar g q v unit cat) := by
  unfold createCopyScalar
  split
  · exact .error
  · simp only
    split
    · exact .error
    · exact copyQuant_canon hq

/-- **every production path ends in a quantity of the direct constructor** -/
theorem build_canon {g : Reg} {p : Prov} : CanonF g Prod.fst (build g p) := by
  induction p with
  | direct c u s0 =>
    unfold build
    split
    · exact .error
    · rename_i h1; exact .ok (mkQuant_canon _ h1)
  | viaMapping es s0 =>
    unfold build
    split
    · exact .error
    · rename_i h1; exact .ok (obtainMapping_canon _ h1)
  | viaList units cat s0 =>
    unfold build
    split
    · exact .error
    · rename_i h1; exact .ok (obtainList_canon _ h1)
  | opNumber p op x nl ih =>
    unfold build
    split
    · exact .error
    · rename_i h1; exact opNumber_canon (ih _ h1)
  | opObjects p1 p2 op ih1 ih2 =>
    unfold build
    split
    · exact .error
    · rename_i h1
      split
      · exact .error
      · exact opObjects_canon (ih1 _ h1)
  | pickle p ih =>
    unfold build
    split
    · exact .error
    · exact pickled_canon
  | copy p unit cat ih =>
    unfold build
    split
    · exact .error
    · rename_i h1
      split
      · rename_i h2; exact .ok (createCopy_canon (ih _ h1) _ h2)
      · exact .error
      · exact .error
    · rename_i h1
      split
      · rename_i h2; exact .ok (createCopyScalar_canon (ih _ h1) _ h2)
      · exact .error
    · exact .error
  | validated p cs ih =>
    unfold build
    exact ih


theorem applyV_nan {m : Mob} {w : Val} (h : m.applyV .nan = .ok w) : w = .nan := by
  unfold Mob.applyV at h
  simp only [Val.mul, Val.add, Val.div] at h
  split at h
  · split at h
    · cases h
    · cases h; rfl
  · cases h; rfl

theorem convToDefault_nan {g : Reg} {c : CatInfo} {unit : Sym} {this : UnitRow} {w : Val}
    (h : convToDefault g c unit this .nan = .ok w) : w = .nan := by
  unfold convToDefault at h
  split at h
  · cases h; rfl
  split at h
  · cases h
  unfold convRowsV toBaseV fromBaseV at h
  split at h
  · cases h
  split at h
  · cases h
  rename_i b hb
  have hb' : b = .nan := by
    split at hb
    · exact applyV_nan hb
    · cases hb; rfl
  subst hb'
  split at h
  · exact applyV_nan h
  · cases h; rfl

def uncached (g : Reg) (q : Quant) (a : ArrVal) : Call → CallOut
  | .check => .checked (doValidate g q a)
  | .isValid =>
    match q with
    | .derived => .valid (.ok true)
    | .simple _ _ _ =>
      match doValidate g q a with
      | .ok _ => .valid (.ok true)
      | .error e => if e.isValueError then .valid (.ok false) else .valid (.error e)

def CacheOK (g : Reg) (q : Quant) (a : ArrVal) (k : Cache) : Prop :=
  k = Cache.fresh ∨ (k = ⟨some true, none⟩ ∧ doValidate g q a = .ok ())
    ∨ ∃ e, k = ⟨some false, some e⟩ ∧ doValidate g q a = .error e

theorem validateValues_ok {g : Reg} {q : Quant} {a : ArrVal} {k : Cache} (hk : CacheOK g q a k) :
    (validateValues g q a k).2 = doValidate g q a ∧ CacheOK g q a (validateValues g q a k).1 := by
  rcases hk with rfl | ⟨rfl, h⟩ | ⟨e, rfl, h⟩
  · unfold validateValues Cache.fresh
    cases h : doValidate g q a with
    | error e => simp [CacheOK, h]
    | ok u => cases u; simp [CacheOK, h]
  · simp [validateValues, h, CacheOK]
  · simp [validateValues, h, CacheOK]

theorem call_array {g : Reg} {q : Quant} {a : ArrVal} {k : Cache} (hk : CacheOK g q a k) (c : Call) :
    ∃ k', call g q (.array a k) c = (.array a k', uncached g q a c) ∧ CacheOK g q a k' := by
  obtain ⟨h1, h2⟩ := validateValues_ok hk
  cases c with
  | check => exact ⟨_, by simp only [call, checkValidity, uncached, h1], h2⟩
  | isValid =>
    cases q with
    | derived => exact ⟨k, rfl, hk⟩
    | simple c' u t =>
      refine ⟨_, ?_, h2⟩
      simp only [call, isValid, checkValidity, uncached, h1]
      cases doValidate g (.simple c' u t) a with
      | ok _ => rfl
      | error e => cases he : e.isValueError <;> simp only [he, Bool.false_eq_true, ↓reduceIte]

theorem afterCalls_array {g : Reg} {q : Quant} {a : ArrVal} (cs : List Call) :
    ∀ {k : Cache}, CacheOK g q a k → ∃ k', afterCalls g q (.array a k) cs = .array a k' ∧ CacheOK g q a k' := by
  induction cs with
  | nil => intro k hk; exact ⟨k, rfl, hk⟩
  | cons c cs ih =>
    intro k hk
    obtain ⟨k', hc, hk'⟩ := call_array hk c
    simp only [afterCalls, hc]
    exact ih hk'

theorem fixValidOpt_mem {g : Reg} {qt : Sym} {o valid : Option (List Sym)} (h : fixValidOpt g qt o = .ok valid)
    {vs qunits : List Sym} (hv : valid = some vs) (hu : g.unitsOf qt = .ok qunits) : ∀ u ∈ vs, u ∈ qunits := by
  unfold fixValidOpt at h
  split at h
  · cases h; cases hv
  · split at h
    · cases h
    · rename_i q0 hq
      split at h
      · rename_i r hf
        cases h; cases hv
        rw [hq] at hu; cases hu
        exact fixValidUnits_mem hf
      · cases h

theorem pickDefaultUnit_mem {g : Reg} {qt : Sym} {valid : Option (List Sym)} {du : Option Sym} {u : Sym}
    (hv : ∀ vs qunits, valid = some vs → g.unitsOf qt = .ok qunits → ∀ w ∈ vs, w ∈ qunits)
    (h : pickDefaultUnit g qt valid du = .ok u) : ∃ qunits, g.unitsOf qt = .ok qunits ∧ u ∈ qunits := by
  unfold pickDefaultUnit at h
  split at h
  · split at h
    · cases h
    · cases h
    · rename_i base rest hq
      refine ⟨_, hq, ?_⟩
      split at h
      · split at h
        · cases h; exact List.mem_cons_self
        · cases h; exact hv _ _ rfl hq _ List.mem_cons_self
      · cases h; exact List.mem_cons_self
  · split at h
    · cases h
    · rename_i qunits hq
      simp only at h
      split at h
      · rename_i hc; cases h; exact ⟨_, hq, by simpa using hc⟩
      · cases h

/-- `hc` is `AddCategory`'s `max_value < min_value` guard, which runs before a default is derived from the limits -/
theorem pickDefaultValue_ok {c : CatInfo} {dv : Option Val} {d : Val}
    (h : pickDefaultValue c.minV c.maxV c.minExcl c.maxExcl dv = .ok d)
    (hc : dv = none → ∀ m M, c.minV = some m → c.maxV = some M → ¬ M < m) : checkLimits c d = .ok () := by
  unfold pickDefaultValue at h
  rw [checkLimits_ok_iff, checkMin_ok_iff, checkMax_ok_iff]
  split at h
  · split at h
    · cases h
    · rename_i hex
      simp only [Bool.or_eq_true, not_or, Bool.not_eq_true] at hex
      simp only [hex.1, hex.2, Bool.false_eq_true, ↓reduceIte]
      cases hm : c.minV with
      | some m =>
        -- the minimum itself: it meets the minimum, and the guard has compared it with the maximum
        simp only [hm] at h
        cases h
        refine ⟨fun m' h' => ?_, fun M hM => Val.fin_le_fin.mpr (not_lt.mp (hc rfl m M hm hM))⟩
        cases h'
        exact Val.fin_le_fin.mpr le_rfl
      | none =>
        cases hM : c.maxV with
        | some M =>
          -- no minimum: the maximum itself
          simp only [hm, hM] at h
          cases h
          refine ⟨fun _ h' => (by cases h'), fun M' h' => ?_⟩
          cases h'
          exact Val.fin_le_fin.mpr le_rfl
        | none => exact ⟨fun _ h' => (by cases h'), fun _ h' => (by cases h')⟩
  · split at h
    · rename_i hassert
      cases h
      unfold assertDefault at hassert
      simp only [Bool.and_eq_true] at hassert
      constructor
      · intro m hm
        have := hassert.1
        rw [hm] at this
        cases hx : c.minExcl <;> simp_all [Val.gt, Val.ge]
      · intro m hm
        have := hassert.2
        rw [hm] at this
        cases hx : c.maxExcl <;> simp_all
    · cases h

/-- `from_category` keeps the name, the flags and the caption.  It always supplies a default value: when one is
still missing afterwards, there was no `from_category` and the arguments are the ones passed. -/
theorem mergeArgs_ok {g : Reg} {a a' : AddArgs} (h : mergeArgs g a = .ok a') :
    a'.category = a.category ∧ (a'.defaultValue = none → a' = a)
      ∧ a'.minExcl = a.minExcl ∧ a'.maxExcl = a.maxExcl ∧ a'.caption = a.caption := by
  unfold mergeArgs at h
  split at h
  · split at h
    · cases h
    · cases h
      refine ⟨rfl, fun h0 => ?_, rfl, rfl, rfl⟩
      revert h0
      unfold mergeFrom
      cases a.defaultValue <;> simp
  · cases h; exact ⟨rfl, fun _ => rfl, rfl, rfl, rfl⟩

theorem addCategory_inv {g g' : Reg} {a : AddArgs} {info : CatInfo} (h : addCategory g a = .ok (g', info)) :
    ∃ a' qt valid du dv, ¬ limitsCrossed a = true ∧ mergeArgs g a = .ok a'
      ∧ fixValidOpt g qt a'.validUnits = .ok valid ∧ pickDefaultUnit g qt valid a'.defaultUnit = .ok du
      ∧ pickDefaultValue a'.minV a'.maxV a'.minExcl a'.maxExcl a'.defaultValue = .ok dv
      ∧ info = { name := a'.category, qtype := qt, validUnits := valid, defaultUnit := du, defaultValue := dv,
                 minV := a'.minV, maxV := a'.maxV, minExcl := a'.minExcl, maxExcl := a'.maxExcl,
                 caption := a'.caption }
      ∧ g' = { g with cats := info :: g.cats } := by
  unfold addCategory at h
  split at h
  · cases h
  split at h
  · cases h
  split at h
  · cases h
  rename_i hcross
  split at h
  · cases h
  rename_i a' hm
  split at h
  · cases h
  rename_i info' hc
  cases h
  unfold addCategoryCore at hc
  split at hc
  · cases hc
  rename_i qt hq
  split at hc
  · cases hc
  rename_i valid hvalid
  split at hc
  · cases hc
  rename_i du hdu
  split at hc
  · cases hc
  rename_i dv hdv
  cases hc
  exact ⟨a', qt, valid, du, dv, hcross, hm, hvalid, hdu, hdv, rfl, rfl⟩

theorem addCategory_flags {g g' : Reg} {a : AddArgs} {info : CatInfo} (h : addCategory g a = .ok (g', info)) :
    info.minExcl = a.minExcl ∧ info.maxExcl = a.maxExcl ∧ info.caption = a.caption := by
  obtain ⟨a', _, _, _, _, _, hm, _, _, _, rfl, _⟩ := addCategory_inv h
  exact (mergeArgs_ok hm).2.2

end Barril.Valid
