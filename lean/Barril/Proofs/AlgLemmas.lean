/-
Helper lemmas for C03/C04 (`Alg` engine): conversions between two rows; the semantics (`slope`, `mag`, `dim`) and the
exponent sums (`expSum`) that the merge adds up and the magnitude is a function of; the invariant of the matching
loop (`Matched`, `matchOne_spec`) with what follows for `opNew` and `opSame`; the vocabulary of the property theorems
(`Known`, `Scales`, `Operand`, decidable forms for the examples); the accumulators of `addJoined` (`expOf`), on which
`joined`, `pickSame` and `Proofs/AlgTypeLemmas.lean` rest.
-/
import Barril.Model.AlgType
import Barril.Proofs.ConvLemmas

namespace Barril.Alg
open Barril

theorem zpowR_eq (q : Rat) (e : Int) : zpowR q e = q ^ e := by
  cases e with
  | ofNat n => simp [zpowR]
  | negSucc n => simp [zpowR, zpow_negSucc]

theorem scaleByPow_of_ne {r : Rat} (h : r ≠ 0) (e : Int) (v : Rat) : scaleByPow r e v = .ok (v * r ^ e) := by
  simp [scaleByPow, h, zpowR_eq]

def rowSlope (r : UnitRow) : Rat := r.toBase.q / r.toBase.r

theorem rowSlope_pos {r : UnitRow} (h : r.WF) : 0 < rowSlope r := h.to_slope_pos

theorem convVal_affine {u w : UnitRow} (hu : u.WF) (hw : w.WF) (x : Rat) :
    convVal u w x = convVal u w 0 + x * (rowSlope u / rowSlope w) := by
  unfold convVal rowSlope
  have h1 := hw.inv1
  have tr := hu.tr
  have fr := hw.fr
  have wtr := hw.tr
  have wtq := hw.tq
  have e : w.fromBase.q = w.toBase.r * w.fromBase.r / w.toBase.q := by
    field_simp; linarith
  rw [e]
  field_simp
  ring

theorem convVal_zero {u w : UnitRow} (hw : w.WF) (h0 : u.toBase.p = 0) (h1 : w.toBase.p = 0) :
    convVal u w 0 = 0 := by
  have hp : w.fromBase.p = 0 := by simpa [h1, hw.tr] using hw.inv0
  simp [convVal, h0, hp]

/-- a unit symbol with its row; the name of its quantity type is not shadowed by a category of another type -/
structure UnitOK (db : Db) (u : Sym) (r : UnitRow) : Prop where
  row : db.unitBySym u = some r
  ty : db.typeOf r.qtype = .ok r.qtype

theorem UnitOK.unique {db : Db} {u : Sym} {r r' : UnitRow} (h : UnitOK db u r) (h' : UnitOK db u r') : r = r' :=
  Option.some.inj (h.row.symm.trans h'.row)

theorem unitBySym_mem {db : Db} {u : Sym} {r : UnitRow} (h : db.unitBySym u = some r) : r ∈ db.units :=
  List.mem_of_find?_eq_some h

theorem unitBySym_sym {db : Db} {u : Sym} {r : UnitRow} (h : db.unitBySym u = some r) : r.sym = u := by
  unfold Db.unitBySym at h
  have := List.find?_some h
  simpa using this

theorem getInfo_of_row {db : Db} {u : Sym} {r : UnitRow} (h : db.unitBySym u = some r) (a b : Bool) :
    db.getInfo r.qtype u a b = .ok r := by
  simp [Db.getInfo, Db.tryInfo, h]

theorem convert_rows {db : Db} (hdb : ∀ r ∈ db.units, r.WF) {u w : Sym} {ru rw : UnitRow}
    (hu : UnitOK db u ru) (hw : UnitOK db w rw) (hq : rw.qtype = ru.qtype) (x : Rat) :
    db.convert ru.qtype u w x = .ok (convVal ru rw x) := by
  have wu := hdb _ (unitBySym_mem hu.row)
  unfold Db.convert
  split
  · rename_i huw
    obtain rfl : u = w := by simpa using huw
    rw [hu.unique hw, convVal_self (hdb _ (unitBySym_mem hw.row))]
  · have h2 := getInfo_of_row hw.row true true
    rw [hq] at h2
    simp only [hu.ty, getInfo_of_row hu.row, h2]
    exact convRows_eq wu (hdb _ (unitBySym_mem hw.row)) x

theorem baseIncrement_eq {r : UnitRow} (h : r.WF) : baseIncrement r = .ok (rowSlope r) := by
  have tr := h.tr
  simp only [baseIncrement, rowSlope, h.ok, Bool.not_true, Bool.false_eq_true, ↓reduceIte, h.to_apply]
  congr 1
  field_simp
  ring

/-- `_ConvertMatchingExp` on two such units: the plain (affine) conversion for the same unit and for
exponent 1 outside a derived operand, otherwise a scaling by the ratio of the slopes raised to the exponent
(for exponent 1 without offset the plain conversion IS that scaling); it never fails -/
theorem convertMatchingExp_rows {db : Db} (hdb : ∀ r ∈ db.units, r.WF) {u w : Sym} {ru rw : UnitRow}
    (hu : UnitOK db u ru) (hw : UnitOK db w rw) (hq : rw.qtype = ru.qtype) (exp : Int) (v : Rat) (inD : Bool) :
    convertMatchingExp db ru.qtype u w exp v inD
      = .ok (if u = w ∨ (exp = 1 ∧ inD = false) then convVal ru rw v else v * (rowSlope ru / rowSlope rw) ^ exp) := by
  have wu := hdb _ (unitBySym_mem hu.row)
  have ww := hdb _ (unitBySym_mem hw.row)
  have hne : rowSlope ru / rowSlope rw ≠ 0 := div_ne_zero (rowSlope_pos wu).ne' (rowSlope_pos ww).ne'
  -- without offset the ratio is Convert(1.0)
  have h1 : convVal ru rw 0 = 0 → convVal ru rw 1 = rowSlope ru / rowSlope rw := fun h0 => by
    rw [convVal_affine wu ww 1, h0]; ring
  -- with an offset it is the quotient of the base increments of the two rows
  have hr : ratioByIncrements db ru.qtype u w = .ok (rowSlope ru / rowSlope rw) := by
    have g2 := getInfo_of_row hw.row false true
    rw [hq] at g2
    simp [ratioByIncrements, getInfo_of_row hu.row false true, g2, baseIncrement_eq wu, baseIncrement_eq ww,
      (rowSlope_pos ww).ne']
  simp only [convertMatchingExp, convert_rows hdb hu hw hq, Bool.or_eq_true, Bool.and_eq_true, beq_iff_eq,
    Bool.not_eq_eq_eq_not, Bool.not_true]
  split
  · rfl
  · split
    · rename_i hz
      rw [convVal_affine wu ww v, hz.2, hz.1]
      simp
    · split
      · rename_i h0
        rw [h1 h0, scaleByPow_of_ne hne]
      · simp only [hr, scaleByPow_of_ne hne]

theorem convertMatchingExp_scale {db : Db} (hdb : ∀ r ∈ db.units, r.WF) {u w : Sym} {ru rw : UnitRow}
    (hu : UnitOK db u ru) (hw : UnitOK db w rw) (hq : rw.qtype = ru.qtype) (exp : Int) (v : Rat) (inD : Bool)
    (hsc : inD = true ∨ exp ≠ 1 ∨ (ru.toBase.p = 0 ∧ rw.toBase.p = 0)) :
    convertMatchingExp db ru.qtype u w exp v inD = .ok (v * (rowSlope ru / rowSlope rw) ^ exp) := by
  have ww := hdb _ (unitBySym_mem hw.row)
  rw [convertMatchingExp_rows hdb hu hw hq]
  split
  · rename_i hc
    congr 1
    rcases hc with rfl | ⟨he, hd⟩
    · rw [hu.unique hw, convVal_self ww, div_self (rowSlope_pos ww).ne', one_zpow, mul_one]
    · have h01 : ru.toBase.p = 0 ∧ rw.toBase.p = 0 := by simpa [he, hd] using hsc
      rw [convVal_affine (hdb _ (unitBySym_mem hu.row)) ww, convVal_zero ww h01.1 h01.2, he]
      simp
  · rfl

/-- base-unit amount of one step of a unit (0 for a symbol that is not in the table; every theorem that
uses it assumes the symbol is) -/
def slope (db : Db) (u : Sym) : Rat :=
  match db.unitBySym u with
  | some r => rowSlope r
  | none => 0

def mag (db : Db) : List Entry → Rat
  | [] => 1
  | e :: es => slope db e.unit ^ e.exp * mag db es

def hasType (db : Db) (qt : Sym) (e : Entry) : Bool :=
  match db.catByName e.cat with
  | some ci => ci.qtype == qt
  | none => false

def dim (db : Db) (qt : Sym) : List Entry → Int
  | [] => 0
  | e :: es => (if hasType db qt e then e.exp else 0) + dim db qt es

/-- the shape `ObtainQuantity` turns into a simple quantity: one entry with exponent 1 -/
def isSimpleShape : List Entry → Bool
  | [e] => e.exp == 1
  | _ => false

theorem scaled_of_not_simple {es : List Entry} (h : isSimpleShape es = false) :
    ∀ e ∈ es, isDerivedDict es = true ∨ e.exp ≠ 1 := by
  intro e he
  match es, h, he with
  | [x], h, he =>
    simp only [List.mem_singleton] at he; subst he
    right; intro h1; simp [isSimpleShape, h1] at h
  | _ :: _ :: _, _, _ => left; simp [isDerivedDict]

/-- no offset: the to-base map of the unit is a pure scaling -/
def ScaleOnly (db : Db) (u : Sym) : Prop := ∀ r, db.unitBySym u = some r → r.toBase.p = 0

theorem slope_of {db : Db} {u : Sym} {r : UnitRow} (h : db.unitBySym u = some r) : slope db u = rowSlope r := by
  unfold slope; rw [h]

theorem slope_ne_zero {db : Db} (hdb : ∀ r ∈ db.units, r.WF) {u : Sym} {r : UnitRow} (h : UnitOK db u r) :
    slope db u ≠ 0 := by
  rw [slope_of h.row]; exact (rowSlope_pos (hdb _ (unitBySym_mem h.row))).ne'

theorem mag_append (db : Db) (a b : List Entry) : mag db (a ++ b) = mag db a * mag db b := by
  induction a with
  | nil => simp [mag]
  | cons e es ih => simp only [List.cons_append, mag, ih, mul_assoc]

theorem mag_ne_zero {db : Db} (L : List Entry) (h : ∀ e ∈ L, slope db e.unit ≠ 0) : mag db L ≠ 0 := by
  induction L with
  | nil => simp [mag]
  | cons e L ih =>
    rw [List.forall_mem_cons] at h
    exact mul_ne_zero (zpow_ne_zero _ h.1) (ih h.2)

/-- an entry whose unit is found by its symbol and belongs to the quantity type of the category -/
def EntryOK (db : Db) (e : Entry) : Prop := ∃ r, UnitOK db e.unit r ∧ catQType db e.cat = .ok r.qtype

def UsedOK (db : Db) (used : List (Sym × Sym)) : Prop :=
  ∀ qt w, lookupU qt used = some w → ∃ r, UnitOK db w r ∧ r.qtype = qt

/-- after matching: the unit of an entry is the unit recorded for its quantity type -/
def Good (db : Db) (used : List (Sym × Sym)) (c u : Sym) : Prop :=
  ∃ r, UnitOK db u r ∧ catQType db c = .ok r.qtype ∧ lookupU r.qtype used = some u

def catExp (e : Entry) : Sym × Int := (e.cat, e.exp)

theorem lookupU_cons_self (qt u : Sym) (used : List (Sym × Sym)) : lookupU qt ((qt, u) :: used) = some u := by
  simp [lookupU]

theorem lookupU_cons_ne {qt qt' u : Sym} (used : List (Sym × Sym)) (h : qt ≠ qt') :
    lookupU qt' ((qt, u) :: used) = lookupU qt' used := by
  simp [lookupU, h]

theorem lookupU_cons_of_none {qt0 u0 : Sym} {used : List (Sym × Sym)} (h0 : lookupU qt0 used = none) {qt w : Sym}
    (h : lookupU qt used = some w) : lookupU qt ((qt0, u0) :: used) = some w := by
  rw [lookupU_cons_ne]
  · exact h
  · rintro rfl; rw [h0] at h; cases h

theorem forall_lookupU_nil {Q : Sym → Sym → Prop} : ∀ qt w, lookupU qt [] = some w → Q qt w :=
  fun _ _ h => by cases h

theorem forall_lookupU_cons {Q : Sym → Sym → Prop} {qt0 u0 : Sym} {used : List (Sym × Sym)} (h0 : Q qt0 u0)
    (h : ∀ qt w, lookupU qt used = some w → Q qt w) : ∀ qt w, lookupU qt ((qt0, u0) :: used) = some w → Q qt w := by
  intro qt w hw
  by_cases hq : qt0 = qt
  · subst hq; rw [lookupU_cons_self] at hw; cases hw; exact h0
  · rw [lookupU_cons_ne _ hq] at hw; exact h qt w hw

/-! ### exponent sums: `dim` per quantity type, `unitTotal` per unit -/

def expSum (c : Entry → Bool) : List Entry → Int
  | [] => 0
  | e :: es => (if c e then e.exp else 0) + expSum c es

theorem dim_eq_expSum (db : Db) (qt : Sym) (L : List Entry) : dim db qt L = expSum (hasType db qt) L := by
  induction L with
  | nil => rfl
  | cons e L ih => simp only [dim, expSum, ih]

theorem unitTotal_eq_expSum (u : Sym) (L : List Entry) : unitTotal u L = expSum (·.unit == u) L := by
  induction L with
  | nil => rfl
  | cons e L ih => simp only [unitTotal, expSum, ih]

theorem expSum_append (c : Entry → Bool) (a b : List Entry) : expSum c (a ++ b) = expSum c a + expSum c b := by
  induction a with
  | nil => simp [expSum]
  | cons e es ih => simp only [List.cons_append, expSum, ih, add_assoc]

theorem expSum_congr {c c' : Entry → Bool} {L : List Entry} (h : ∀ e ∈ L, c e = c' e) : expSum c L = expSum c' L := by
  induction L with
  | nil => rfl
  | cons e L ih =>
    rw [List.forall_mem_cons] at h
    simp only [expSum, h.1, ih h.2]

theorem expSum_eq_zero {c : Entry → Bool} {L : List Entry} (h : ∀ e ∈ L, c e = false) : expSum c L = 0 := by
  induction L with
  | nil => rfl
  | cons e L ih =>
    rw [List.forall_mem_cons] at h
    simp [expSum, h.1, ih h.2]

theorem dim_eq_unitTotal {db : Db} {qt u : Sym} (L : List Entry)
    (h : ∀ e ∈ L, hasType db qt e = (e.unit == u)) : dim db qt L = unitTotal u L := by
  rw [dim_eq_expSum, unitTotal_eq_expSum]; exact expSum_congr h

theorem dim_zero_of_none {db : Db} {qt : Sym} (L : List Entry) (h : ∀ e ∈ L, hasType db qt e = false) :
    dim db qt L = 0 := by
  rw [dim_eq_expSum]; exact expSum_eq_zero h

theorem unitTotal_zero_of_notin (u : Sym) (L : List Entry) (h : ∀ e ∈ L, e.unit ≠ u) : unitTotal u L = 0 := by
  rw [unitTotal_eq_expSum]; exact expSum_eq_zero (fun e he => by simpa using h e he)

theorem hasType_cat {db : Db} {qt : Sym} {e x : Entry} (h : e.cat = x.cat) : hasType db qt e = hasType db qt x := by
  unfold hasType; rw [h]

theorem hasType_iff {db : Db} {qt : Sym} {e : Entry} : hasType db qt e = true ↔ catQType db e.cat = .ok qt := by
  unfold hasType catQType
  cases db.catByName e.cat <;> simp

theorem dim_of_catExp {db : Db} {qt : Sym} : ∀ (L L' : List Entry), L'.map catExp = L.map catExp →
    dim db qt L' = dim db qt L
  | [], [], _ => rfl
  | e :: L, e' :: L', h => by
    simp only [List.map_cons, List.cons.injEq, catExp, Prod.mk.injEq] at h
    simp only [dim]
    rw [dim_of_catExp L L' h.2, hasType_cat (db := db) (qt := qt) h.1.1, h.1.2]

theorem mem_dropZero {L : List Entry} {e : Entry} (h : e ∈ dropZero L) :
    e ∈ L ∧ e.exp ≠ 0 ∧ unitTotal e.unit L ≠ 0 := by
  simpa [dropZero, keepEntry] using h

theorem unitTotal_filter (k : Entry → Bool) (u : Sym) (L : List Entry)
    (h : ∀ e ∈ L, e.unit = u → k e = false → e.exp = 0) : unitTotal u (L.filter k) = unitTotal u L := by
  induction L with
  | nil => rfl
  | cons e L ih =>
    rw [List.forall_mem_cons] at h
    cases hk : k e
    · rw [List.filter_cons_of_neg (by simp [hk]), ih h.2, unitTotal]
      by_cases hu : e.unit = u
      · simp [h.1 hu hk]
      · simp [hu]
    · rw [List.filter_cons_of_pos hk]
      simp only [unitTotal, ih h.2]

/-- deleting the zero entries does not change the accumulated exponent of any unit: a unit whose accumulated
exponent is 0 loses all its entries, any other unit only entries with exponent 0 -/
theorem unitTotal_dropZero (u : Sym) (L : List Entry) : unitTotal u (dropZero L) = unitTotal u L := by
  by_cases h : unitTotal u L = 0
  · rw [h]
    exact unitTotal_zero_of_notin u _ (fun e he hu => (mem_dropZero he).2.2 (hu ▸ h))
  · exact unitTotal_filter _ u L (fun e _ hu hk => by simpa [keepEntry, hu, h] using hk)

theorem dropZero_subset (L : List Entry) : dropZero L ⊆ L := fun _ h => (mem_dropZero h).1

/-- one unit per quantity type and one quantity type per unit: the shape every list has after matching -/
def Unified (db : Db) (L : List Entry) : Prop :=
  ∀ e ∈ L, ∀ e' ∈ L, ∀ qt, hasType db qt e = true → (hasType db qt e' = true ↔ e'.unit = e.unit)

theorem Unified.hasType_eq {db : Db} {L : List Entry} (hU : Unified db L) {e0 : Entry} (h0 : e0 ∈ L) {qt : Sym}
    (ht : hasType db qt e0 = true) : ∀ e ∈ L, hasType db qt e = (e.unit == e0.unit) := by
  intro e he
  rw [Bool.eq_iff_iff, beq_iff_eq]
  exact hU e0 h0 e he qt ht

theorem Unified.dim_cases {db : Db} {L : List Entry} (hU : Unified db L) (qt : Sym) :
    (∃ u, ∀ L', L' ⊆ L → dim db qt L' = unitTotal u L') ∨ (∀ L', L' ⊆ L → dim db qt L' = 0) := by
  by_cases hex : ∃ e ∈ L, hasType db qt e = true
  · obtain ⟨e0, h0, ht⟩ := hex
    exact Or.inl ⟨e0.unit, fun L' hs => dim_eq_unitTotal L' (fun e he => hU.hasType_eq h0 ht e (hs he))⟩
  · exact Or.inr fun L' hs => dim_zero_of_none L' fun e he => by simpa using fun h => hex ⟨e, hs he, h⟩

theorem dim_dropZero {db : Db} {qt : Sym} {L : List Entry} (hU : Unified db L) :
    dim db qt (dropZero L) = dim db qt L := by
  rcases hU.dim_cases qt with ⟨u, h⟩ | h
  · rw [h _ (dropZero_subset L), h _ (List.Subset.refl L), unitTotal_dropZero]
  · rw [h _ (dropZero_subset L), h _ (List.Subset.refl L)]

/-! ### the magnitude depends on the accumulated exponents only -/

theorem mag_eq_prod {db : Db} (S : Finset Sym) (hs : ∀ u ∈ S, slope db u ≠ 0) (L : List Entry)
    (hL : ∀ e ∈ L, e.unit ∈ S) : mag db L = ∏ u ∈ S, slope db u ^ unitTotal u L := by
  induction L with
  | nil => simp [mag, unitTotal]
  | cons e L ih =>
    rw [List.forall_mem_cons] at hL
    have h1 : slope db e.unit ^ e.exp = ∏ u ∈ S, slope db u ^ (if e.unit == u then e.exp else 0) := by
      rw [Finset.prod_eq_single_of_mem e.unit hL.1 (fun u _ hne => by simp [hne.symm])]
      simp
    rw [mag, ih hL.2, h1, ← Finset.prod_mul_distrib]
    exact Finset.prod_congr rfl (fun u hu => (zpow_add₀ (hs u hu) _ _).symm)

theorem mag_of_totals {db : Db} (s : Int) (A B C : List Entry) (hs : ∀ e ∈ A ++ (B ++ C), slope db e.unit ≠ 0)
    (ht : ∀ u, unitTotal u A = unitTotal u B + s * unitTotal u C) : mag db A = mag db B * mag db C ^ s := by
  have hS : ∀ u ∈ ((A ++ (B ++ C)).map Entry.unit).toFinset, slope db u ≠ 0 := by
    intro u hu
    obtain ⟨e, he, rfl⟩ := List.mem_map.mp (List.mem_toFinset.mp hu)
    exact hs e he
  have hmem : ∀ e ∈ A ++ (B ++ C), e.unit ∈ ((A ++ (B ++ C)).map Entry.unit).toFinset :=
    fun e he => List.mem_toFinset.mpr (List.mem_map_of_mem he)
  rw [mag_eq_prod _ hS A (fun e he => hmem e (by simp [he])), mag_eq_prod _ hS B (fun e he => hmem e (by simp [he])),
    mag_eq_prod _ hS C (fun e he => hmem e (by simp [he])), ← Finset.prod_zpow, ← Finset.prod_mul_distrib]
  exact Finset.prod_congr rfl (fun u hu => by rw [ht u, zpow_add₀ (hS u hu), mul_comm s, zpow_mul])

theorem mag_congr_totals {db : Db} (L L' : List Entry) (hs : ∀ e ∈ L ++ L', slope db e.unit ≠ 0)
    (ht : ∀ u, unitTotal u L' = unitTotal u L) : mag db L' = mag db L := by
  have := mag_of_totals 0 L' L [] (fun e he => hs e (by simpa [or_comm] using he)) (by simpa using ht)
  simpa using this

theorem mag_dropZero {db : Db} (L : List Entry) (hs : ∀ e ∈ L, slope db e.unit ≠ 0) :
    mag db (dropZero L) = mag db L :=
  mag_congr_totals L (dropZero L)
    (fun e he => hs e ((List.mem_append.mp he).elim id (fun h => dropZero_subset L h))) (fun u => unitTotal_dropZero u L)

def sgn : NewOp → Int
  | .mul => 1
  | .div => -1
  | .floordiv => -1

theorem expOp_eq (op : NewOp) (a b : Int) : expOp op a b = a + sgn op * b := by
  cases op <;> simp [expOp, sgn] <;> ring

theorem mergeOne_cases (f : Int → Int → Int) : ∀ (L : List Entry) (x : Entry) (L' : List Entry),
    mergeOne f L x = .ok L' →
    (∃ A e B, L = A ++ e :: B ∧ e.cat = x.cat ∧ e.unit = x.unit ∧ L' = A ++ { e with exp := f e.exp x.exp } :: B)
      ∨ L' = L ++ [⟨x.cat, x.unit, f 0 x.exp⟩]
  | [], x, L', h => Or.inr (by simpa [mergeOne, eq_comm] using h)
  | e :: L, x, L', h => by
    simp only [mergeOne] at h
    split at h
    · rename_i hc
      split at h
      · rename_i hu
        cases h
        exact Or.inl ⟨[], e, L, rfl, by simpa using hc, by simpa using hu, rfl⟩
      · cases h
    · split at h
      · cases h
      · rename_i rest hr
        cases h
        rcases mergeOne_cases f L x rest hr with ⟨A, e', B, rfl, hc, hu, rfl⟩ | rfl
        · exact Or.inl ⟨e :: A, e', B, rfl, hc, hu, rfl⟩
        · exact Or.inr rfl

theorem mergeOne_expSum {c : Entry → Bool} (hc : ∀ e x : Entry, e.cat = x.cat → e.unit = x.unit → c e = c x)
    {s : Int} {f : Int → Int → Int} (hf : ∀ a b, f a b = a + s * b) {L : List Entry} {x : Entry} {L' : List Entry}
    (h : mergeOne f L x = .ok L') : expSum c L' = expSum c L + (if c x then s * x.exp else 0) := by
  rcases mergeOne_cases f L x L' h with ⟨A, e, B, rfl, h1, h2, rfl⟩ | rfl
  · have e1 : c { e with exp := f e.exp x.exp } = c x := hc _ _ h1 h2
    have e2 : c e = c x := hc _ _ h1 h2
    simp only [expSum_append, expSum, e1, e2]
    rw [hf]
    split <;> ring
  · have e1 : c ⟨x.cat, x.unit, f 0 x.exp⟩ = c x := hc _ _ rfl rfl
    simp only [expSum_append, expSum, e1]
    rw [hf]
    split <;> ring

theorem mergeAll_expSum {c : Entry → Bool} (hc : ∀ e x : Entry, e.cat = x.cat → e.unit = x.unit → c e = c x)
    {s : Int} {f : Int → Int → Int} (hf : ∀ a b, f a b = a + s * b) :
    ∀ (X L m : List Entry), mergeAll f L X = .ok m → expSum c m = expSum c L + s * expSum c X
  | [], L, m, h => by cases h; simp [expSum]
  | x :: X, L, m, h => by
    simp only [mergeAll] at h
    split at h
    · cases h
    · rename_i L1 h1
      rw [mergeAll_expSum hc hf X L1 m h, mergeOne_expSum hc hf h1]
      simp only [expSum]
      split <;> ring

theorem mergeAll_dim {db : Db} {qt : Sym} {op : NewOp} {X L m : List Entry} (h : mergeAll (expOp op) L X = .ok m) :
    dim db qt m = dim db qt L + sgn op * dim db qt X := by
  simp only [dim_eq_expSum]
  exact mergeAll_expSum (fun _ _ h _ => hasType_cat h) (expOp_eq op) X L m h

theorem mergeAll_unitTotal {u : Sym} {op : NewOp} {X L m : List Entry} (h : mergeAll (expOp op) L X = .ok m) :
    unitTotal u m = unitTotal u L + sgn op * unitTotal u X := by
  simp only [unitTotal_eq_expSum]
  exact mergeAll_expSum (fun _ _ _ h => by simp only [h]) (expOp_eq op) X L m h

theorem mergeOne_forall {Q : Sym → Sym → Prop} {f : Int → Int → Int} {L : List Entry} {x : Entry} {L' : List Entry}
    (h : mergeOne f L x = .ok L') (hL : ∀ e ∈ L, Q e.cat e.unit) (hx : Q x.cat x.unit) : ∀ e ∈ L', Q e.cat e.unit := by
  rcases mergeOne_cases f L x L' h with ⟨A, e, B, rfl, _, _, rfl⟩ | rfl
  · simp only [List.forall_mem_append, List.forall_mem_cons] at hL ⊢
    exact hL
  · simp only [List.forall_mem_append, List.forall_mem_singleton]
    exact ⟨hL, hx⟩

theorem mergeAll_forall {Q : Sym → Sym → Prop} {f : Int → Int → Int} : ∀ (X L m : List Entry), mergeAll f L X = .ok m →
    (∀ e ∈ L, Q e.cat e.unit) → (∀ e ∈ X, Q e.cat e.unit) → ∀ e ∈ m, Q e.cat e.unit
  | [], L, m, h, hL, _ => by cases h; exact hL
  | x :: X, L, m, h, hL, hX => by
    simp only [mergeAll] at h
    rw [List.forall_mem_cons] at hX
    split at h
    · cases h
    · rename_i L1 h1
      exact mergeAll_forall X L1 m h (mergeOne_forall h1 hL hX.1) hX.2

theorem mergeOne_ok (f : Int → Int → Int) : ∀ (L : List Entry) (x : Entry),
    (∀ e ∈ L, e.cat = x.cat → e.unit = x.unit) → ∃ L', mergeOne f L x = .ok L'
  | [], x, _ => ⟨_, rfl⟩
  | e :: L, x, h => by
    rw [List.forall_mem_cons] at h
    simp only [mergeOne]
    by_cases hc : e.cat = x.cat
    · simp [hc, h.1 hc]
    · obtain ⟨L', hL'⟩ := mergeOne_ok f L x h.2
      simp [hc, hL']

/-- the `RuntimeError` of the merge needs two units for one category: impossible after matching -/
theorem mergeAll_ok {R : Sym → Sym → Prop} (hR : ∀ e x : Entry, R e.cat e.unit → R x.cat x.unit → e.cat = x.cat → e.unit = x.unit)
    (f : Int → Int → Int) : ∀ (X L : List Entry),
    (∀ e ∈ L, R e.cat e.unit) → (∀ e ∈ X, R e.cat e.unit) → ∃ m, mergeAll f L X = .ok m
  | [], L, _, _ => ⟨L, rfl⟩
  | x :: X, L, hL, hX => by
    rw [List.forall_mem_cons] at hX
    obtain ⟨L1, h1⟩ := mergeOne_ok f L x (fun e he => hR e x (hL e he) hX.1)
    obtain ⟨m, hm⟩ := mergeAll_ok hR f X L1 (mergeOne_forall h1 hL hX.1) hX.2
    exact ⟨m, by simp only [mergeAll, h1, hm]⟩

theorem Good.mono {db : Db} {used used' : List (Sym × Sym)} {c u : Sym}
    (hm : ∀ qt w, lookupU qt used = some w → lookupU qt used' = some w) (h : Good db used c u) : Good db used' c u := by
  obtain ⟨r, h1, h2, h3⟩ := h
  exact ⟨r, h1, h2, hm _ _ h3⟩

theorem Good.entryOK {db : Db} {used : List (Sym × Sym)} {e : Entry} (h : Good db used e.cat e.unit) : EntryOK db e := by
  obtain ⟨r, h1, h2, _⟩ := h
  exact ⟨r, h1, h2⟩

theorem Good.slope_ne_zero {db : Db} (hdb : ∀ r ∈ db.units, r.WF) {used : List (Sym × Sym)} {c u : Sym}
    (h : Good db used c u) : slope db u ≠ 0 := by
  obtain ⟨r, hr, _⟩ := h
  exact Alg.slope_ne_zero hdb hr

theorem Good.same_cat {db : Db} {used : List (Sym × Sym)} {c u u' : Sym} (h : Good db used c u) (h' : Good db used c u') :
    u = u' := by
  obtain ⟨r, _, h2, h3⟩ := h
  obtain ⟨r', _, h2', h3'⟩ := h'
  rw [h2', Except.ok.injEq] at h2
  rw [← h2, h3', Option.some.injEq] at h3
  exact h3.symm

theorem unified_of_good {db : Db} {used : List (Sym × Sym)} {L : List Entry} (h : ∀ e ∈ L, Good db used e.cat e.unit) :
    Unified db L := by
  intro e he e' he' qt ht
  obtain ⟨r, h1, h2, h3⟩ := h e he
  obtain ⟨r', h1', h2', h3'⟩ := h e' he'
  have hq : r.qtype = qt := by
    have := hasType_iff.mp ht; rw [h2, Except.ok.injEq] at this; exact this
  constructor
  · intro ht'
    rw [hasType_iff, h2', Except.ok.injEq] at ht'
    rw [ht', ← hq, h3, Option.some.injEq] at h3'
    exact h3'.symm
  · intro hu
    have : r' = r := UnitOK.unique (hu ▸ h1') h1
    rw [hasType_iff, h2', this, hq]

/-! ### `ObtainQuantity` and `CreateDerived` return the dict they were given -/

theorem catByName_of_catQType {db : Db} {c qt : Sym} (h : catQType db c = .ok qt) :
    ∃ ci, db.catByName c = some ci ∧ ci.qtype = qt := by
  unfold catQType at h
  split at h
  · rename_i ci hc; exact ⟨ci, hc, by simpa using h⟩
  · cases h

theorem checkQTU_of_row {db : Db} {u : Sym} {r : UnitRow} (h : db.unitBySym u = some r) :
    db.checkQuantityTypeUnit r.qtype u = .ok () := by
  unfold Db.checkQuantityTypeUnit; rw [getInfo_of_row h]

theorem validateEntries_ok {db : Db} : ∀ (es : List Entry), (∀ e ∈ es, EntryOK db e) → validateEntries db es = .ok ()
  | [], _ => rfl
  | e :: es, h => by
    rw [List.forall_mem_cons] at h
    obtain ⟨⟨r, hr, hc⟩, h'⟩ := h
    obtain ⟨ci, hci, hq⟩ := catByName_of_catQType hc
    simp only [validateEntries, hci, hq, checkQTU_of_row hr.row]
    exact validateEntries_ok es h'

theorem checkCats_ok {db : Db} : ∀ (es : List Entry), (∀ e ∈ es, EntryOK db e) → checkCats db es = .ok ()
  | [], _ => rfl
  | e :: es, h => by
    rw [List.forall_mem_cons] at h
    obtain ⟨⟨r, _, hc⟩, h'⟩ := h
    simp only [checkCats, hc]
    exact checkCats_ok es h'

theorem obtainFromDict_known {db : Db} (es : List Entry) (cap : Sym) (h : ∀ e ∈ es, EntryOK db e) :
    obtainFromDict db es cap = .ok ⟨es, cap, !isSimpleShape es⟩ := by
  have hder : derivedQuantity db es cap = .ok ⟨es, cap, true⟩ := by
    unfold derivedQuantity; rw [checkCats_ok es h]
  match es, h, hder with
  | [], _, hder => exact hder
  | _ :: _ :: _, _, hder => exact hder
  | [e], h, hder =>
    by_cases hexp : e.exp = 1
    · obtain ⟨r, hr, hc⟩ := h e (by simp)
      obtain ⟨ci, hci, hq⟩ := catByName_of_catQType hc
      have hvalid : db.categoryUnitValid e.cat e.unit = true := by
        simp [Db.categoryUnitValid, hci, hq, checkQTU_of_row hr.row]
      -- the simple quantity is built from category and unit with exponent 1: the entry itself
      have he : (⟨e.cat, e.unit, 1⟩ : Entry) = e := hexp ▸ rfl
      simp only [obtainFromDict, hexp, beq_self_eq_true, ↓reduceIte, simpleQuantity, hci, hvalid, he, isSimpleShape,
        Bool.not_true]
    · have : (e.exp == 1) = false := by simpa using hexp
      simpa [obtainFromDict, isSimpleShape, this] using hder

theorem createDerived_known {db : Db} (es : List Entry) (h : ∀ e ∈ es, EntryOK db e) :
    createDerived db es = .ok ⟨es, 0, !isSimpleShape es⟩ := by
  unfold createDerived
  rw [validateEntries_ok es h]
  exact obtainFromDict_known es 0 h

/-- an operand that is matched already: one unit per quantity type, and that is the recorded one if one is
recorded -/
def Consistent (db : Db) (used : List (Sym × Sym)) (L : List Entry) : Prop :=
  Unified db L ∧ ∀ e ∈ L, ∀ qt, catQType db e.cat = .ok qt → ∀ w, lookupU qt used = some w → w = e.unit

theorem Consistent.tail {db : Db} {used : List (Sym × Sym)} {e : Entry} {es : List Entry}
    (h : Consistent db used (e :: es)) : Consistent db used es :=
  ⟨fun a ha b hb => h.1 a (List.mem_cons_of_mem _ ha) b (List.mem_cons_of_mem _ hb),
    fun x hx => h.2 x (List.mem_cons_of_mem _ hx)⟩

theorem Consistent.record {db : Db} {used : List (Sym × Sym)} {e : Entry} {es : List Entry} {qt : Sym}
    (h : Consistent db used (e :: es)) (hcat : catQType db e.cat = .ok qt) : Consistent db ((qt, e.unit) :: used) es :=
  ⟨h.tail.1, fun x hx qt' hq w hw =>
    forall_lookupU_cons (Q := fun qt' w => catQType db x.cat = .ok qt' → w = x.unit)
      (fun hq => ((h.1 e List.mem_cons_self x (List.mem_cons_of_mem _ hx) qt (hasType_iff.mpr hcat)).mp
        (hasType_iff.mpr hq)).symm)
      (fun qt' w hw hq => h.tail.2 x hx qt' hq w hw) qt' w hw hq⟩

theorem consistent_of_good {db : Db} {used : List (Sym × Sym)} {L : List Entry}
    (h : ∀ e ∈ L, Good db used e.cat e.unit) : Consistent db used L := by
  refine ⟨unified_of_good h, fun e he qt hq w hw => ?_⟩
  obtain ⟨r, _, hc, hl⟩ := h e he
  rw [hc, Except.ok.injEq] at hq
  rw [← hq, hl, Option.some.injEq] at hw
  exact hw.symm

theorem scale_step {a b : Rat} (hb : b ≠ 0) (x : Int) (v M : Rat) : b ^ x * (v * (a / b) ^ x * M) = v * (a ^ x * M) := by
  have := zpow_ne_zero x hb
  rw [div_zpow]
  field_simp

/-- what one operand's pass of the matching loop (from `used`, `es` to `used'`, `es'`) has done: recorded units stay;
categories and exponents are untouched; every entry carries the unit recorded for its quantity type; an operand that
is matched already is not touched; the pass never fails, and which units it records does not depend on the value;
the base magnitude `value · Π slope(unit)^exp` is unchanged when the operand is derived (`inD`: every entry is then
scaled), or no entry has exponent 1, or no unit involved has an offset.  `P` is any property that the units of `es`
and those recorded in `used` have (the callers take `ScaleOnly db` or `True`, see `Scales.pred`). -/
structure Matched (db : Db) (P : Sym → Prop) (inD : Bool) (used : List (Sym × Sym)) (es : List Entry)
    (used' : List (Sym × Sym)) (es' : List Entry) : Prop where
  usedOK : UsedOK db used'
  mono : ∀ qt w, lookupU qt used = some w → lookupU qt used' = some w
  catExp : es'.map catExp = es.map catExp
  good : ∀ e' ∈ es', Good db used' e'.cat e'.unit
  recorded : ∀ qt w, lookupU qt used' = some w → P w
  same : Consistent db used es → es' = es
  run : ∀ v, ∃ v', matchOne db inD used es v = .ok (used', es', v')
    ∧ (Consistent db used es → v' = v)
    ∧ (((∀ e ∈ es, inD = true ∨ e.exp ≠ 1) ∨ (∀ u, P u → ScaleOnly db u)) → v' * mag db es' = v * mag db es)

/-- **the invariant of the matching loop** (one operand's pass), by induction over the entry list, for entries
whose units are known -/
theorem matchOne_spec {db : Db} (hdb : ∀ r ∈ db.units, r.WF) (P : Sym → Prop) (inD : Bool) :
    ∀ (es : List Entry) (used : List (Sym × Sym)),
      (∀ e ∈ es, EntryOK db e) → UsedOK db used →
      (∀ e ∈ es, P e.unit) → (∀ qt w, lookupU qt used = some w → P w) →
      ∃ used' es', Matched db P inD used es used' es' := by
  intro es
  induction es with
  | nil =>
    intro used _ hu _ hpu
    exact ⟨used, [], {
      usedOK := hu
      mono := fun _ _ h => h
      catExp := rfl
      good := by simp
      recorded := hpu
      same := fun _ => rfl
      run := fun v => ⟨v, rfl, fun _ => rfl, fun _ => rfl⟩ }⟩
  | cons e es ih =>
    intro used hes hu hpe hpu
    rw [List.forall_mem_cons] at hes hpe
    obtain ⟨⟨r, hr, hcat⟩, hes'⟩ := hes
    have tail : (∀ x ∈ e :: es, inD = true ∨ x.exp ≠ 1) ∨ (∀ u, P u → ScaleOnly db u) →
        (∀ x ∈ es, inD = true ∨ x.exp ≠ 1) ∨ (∀ u, P u → ScaleOnly db u) :=
      Or.imp_left fun h => (List.forall_mem_cons.mp h).2
    cases hl : lookupU r.qtype used with
    | none =>
      -- first entry of its quantity type: its unit is recorded, nothing is converted
      obtain ⟨used', es', m⟩ :=
        ih ((r.qtype, e.unit) :: used) hes' (forall_lookupU_cons ⟨r, hr, rfl⟩ hu) hpe.2
          (forall_lookupU_cons (Q := fun _ w => P w) hpe.1 hpu)
      refine ⟨used', e :: es', {
        usedOK := m.usedOK
        recorded := m.recorded
        mono := fun qt w hw => m.mono _ _ (lookupU_cons_of_none hl hw)
        catExp := by simp [m.catExp]
        good := List.forall_mem_cons.mpr ⟨⟨r, hr, hcat, m.mono _ _ (lookupU_cons_self ..)⟩, m.good⟩
        same := fun hC => by rw [m.same (hC.record hcat)]
        run := fun v => ?_ }⟩
      obtain ⟨v', hm, hvid, hmag⟩ := m.run v
      refine ⟨v', by simp only [matchOne, hcat, hl, hm], fun hC => hvid (hC.record hcat), fun hs => ?_⟩
      simp only [mag]
      rw [mul_left_comm, hmag (tail hs), mul_left_comm]
    | some w =>
      -- a later entry: it gets the recorded unit `w`, the value is converted
      obtain ⟨rw', hrw, hqw⟩ := hu _ _ hl
      have hpw : P w := hpu _ _ hl
      obtain ⟨used', es', m⟩ := ih used hes' hu hpe.2 hpu
      have hsame : Consistent db used (e :: es) → w = e.unit := fun hC => hC.2 e List.mem_cons_self _ hcat w hl
      refine ⟨used', { e with unit := w } :: es', {
        usedOK := m.usedOK
        mono := m.mono
        recorded := m.recorded
        catExp := by simp [m.catExp, catExp]
        good := List.forall_mem_cons.mpr ⟨⟨rw', hrw, hqw ▸ hcat, hqw ▸ m.mono _ _ hl⟩, m.good⟩
        same := fun hC => by rw [m.same hC.tail, hsame hC]
        run := fun v => ?_ }⟩
      obtain ⟨x, hconv⟩ : ∃ x, convertMatchingExp db r.qtype e.unit w e.exp v inD = .ok x :=
        ⟨_, convertMatchingExp_rows hdb hr hrw hqw e.exp v inD⟩
      obtain ⟨v', hm, hvid, hmag⟩ := m.run x
      refine ⟨v', by simp only [matchOne, hcat, hl, hconv, hm], fun hC => ?_, fun hs => ?_⟩
      · -- the recorded unit is the entry's own: the conversion is the identity
        obtain rfl := hsame hC
        have hx : convertMatchingExp db r.qtype e.unit e.unit e.exp v inD = .ok v := by
          simp [convertMatchingExp, Db.convert]
        rw [hconv, Except.ok.injEq] at hx
        rw [hvid hC.tail, hx]
      · have hcond : inD = true ∨ e.exp ≠ 1 ∨ (r.toBase.p = 0 ∧ rw'.toBase.p = 0) := by
          rcases hs with h | h
          · exact (h e List.mem_cons_self).imp_right Or.inl
          · exact Or.inr (Or.inr ⟨h _ hpe.1 _ hr.row, h _ hpw _ hrw.row⟩)
        have hsc := convertMatchingExp_scale hdb hr hrw hqw e.exp v inD hcond
        rw [hconv, Except.ok.injEq] at hsc
        simp only [mag]
        rw [mul_left_comm, hmag (tail hs), hsc, slope_of hr.row, slope_of hrw.row,
          scale_step (rowSlope_pos (hdb _ (unitBySym_mem hrw.row))).ne']

/-- **the invariant of `_MatchQuantities`** (both passes): on operands whose units are known the matching
never fails, keeps categories and exponents, leaves one unit per quantity type across BOTH operands; the left
operand's base magnitude is always kept (in the first pass only a dict with several entries is ever
converted, and that is scaled), the right operand's when it is not of the simple shape or no unit involved has
an offset -/
theorem matchQuantities_spec {db : Db} (hdb : ∀ r ∈ db.units, r.WF) (P : Sym → Prop) (e1 e2 : List Entry) (v1 v2 : Rat)
    (h1 : ∀ e ∈ e1, EntryOK db e) (h2 : ∀ e ∈ e2, EntryOK db e)
    (p1 : ∀ e ∈ e1, P e.unit) (p2 : ∀ e ∈ e2, P e.unit) :
    ∃ used e1' e2' w1 w2, matchQuantities db e1 e2 v1 v2 = .ok (e1', e2', w1, w2)
      ∧ e1'.map catExp = e1.map catExp ∧ e2'.map catExp = e2.map catExp
      ∧ (∀ e ∈ e1' ++ e2', Good db used e.cat e.unit)
      ∧ (∀ qt w, lookupU qt used = some w → P w)
      ∧ w1 * mag db e1' = v1 * mag db e1
      ∧ ((isSimpleShape e2 = false ∨ (∀ u, P u → ScaleOnly db u)) → w2 * mag db e2' = v2 * mag db e2) := by
  obtain ⟨used1, e1', m1⟩ :=
    matchOne_spec hdb P (isDerivedDict e1) e1 [] h1 forall_lookupU_nil p1 forall_lookupU_nil
  obtain ⟨used2, e2', m2⟩ := matchOne_spec hdb P (isDerivedDict e2) e2 used1 h2 m1.usedOK p2 m1.recorded
  obtain ⟨w1, hm1, _, hmag1⟩ := m1.run v1
  obtain ⟨w2, hm2, _, hmag2⟩ := m2.run v2
  have hfirst : w1 * mag db e1' = v1 * mag db e1 := by
    match e1, h1, hm1, hmag1 with
    | [], _, hm1, _ =>
      simp only [matchOne, Except.ok.injEq, Prod.mk.injEq] at hm1
      obtain ⟨_, rfl, rfl⟩ := hm1; rfl
    | [e], h1, hm1, _ =>
      -- nothing is recorded yet, so the one entry is not converted
      obtain ⟨r, _, hc⟩ := h1 e (by simp)
      simp only [matchOne, hc, lookupU, Except.ok.injEq, Prod.mk.injEq] at hm1
      obtain ⟨_, rfl, rfl⟩ := hm1; rfl
    | _ :: _ :: _, _, _, hmag1 => exact hmag1 (Or.inl (fun _ _ => Or.inl (by simp [isDerivedDict])))
  exact ⟨used2, e1', e2', w1, w2, by simp only [matchQuantities, hm1, hm2], m1.catExp, m2.catExp,
    List.forall_mem_append.mpr ⟨fun e h => (m1.good e h).mono m2.mono, m2.good⟩, m2.recorded, hfirst,
    fun hs => hmag2 (hs.imp_left scaled_of_not_simple)⟩

/-- after a successful matching the merge cannot fail and `CreateDerived` returns the merged dict without its zero
entries: only the operation on the values can still fail -/
theorem opNew_eq {db : Db} {op : NewOp} {q1 q2 : Quantity} {v1 v2 w1 w2 : Rat} {used : List (Sym × Sym)}
    {e1 e2 : List Entry} (hm : matchQuantities db q1.entries q2.entries v1 v2 = .ok (e1, e2, w1, w2))
    (hg : ∀ e ∈ e1 ++ e2, Good db used e.cat e.unit) :
    ∃ m, mergeAll (expOp op) e1 e2 = .ok m ∧ (∀ e ∈ m, Good db used e.cat e.unit)
      ∧ opNew db op q1 q2 v1 v2 = (match applyNew op w1 w2 with
          | .error err => .error err
          | .ok v => .ok (⟨dropZero m, 0, !isSimpleShape (dropZero m)⟩, v)) := by
  rw [List.forall_mem_append] at hg
  obtain ⟨m, hmerge⟩ := mergeAll_ok (R := Good db used) (fun e x he hx hc => by rw [hc] at he; exact he.same_cat hx)
    (expOp op) e2 e1 hg.1 hg.2
  have hgm := mergeAll_forall e2 e1 m hmerge hg.1 hg.2
  refine ⟨m, hmerge, hgm, ?_⟩
  simp only [opNew, hm, hmerge, createDerived_known (dropZero m) (fun e he => (hgm e (dropZero_subset m he)).entryOK)]
  rfl

/-- the amount in base units (for units without offset): `value · Π slope(unit)^exp` -/
def baseMag (db : Db) (q : Quantity) (v : Rat) : Rat := v * mag db q.entries

/-- every unit of the quantity is a table unit (found by its symbol) of the quantity type of its category -/
def Known (db : Db) (q : Quantity) : Prop := ∀ e ∈ q.entries, EntryOK db e

def ScaleOnlyQ (db : Db) (q : Quantity) : Prop := ∀ e ∈ q.entries, ScaleOnly db e.unit

theorem Known.mag_ne_zero {db : Db} (hdb : ∀ r ∈ db.units, r.WF) {q : Quantity} (h : Known db q) :
    mag db q.entries ≠ 0 :=
  Alg.mag_ne_zero _ (fun e he => by obtain ⟨r, hr, _⟩ := h e he; exact slope_ne_zero hdb hr)

/-- when does the matching scale the right operand: it is not of the simple shape, or neither operand has a
unit with an offset -/
def Scales (db : Db) (q1 q2 : Quantity) : Prop :=
  isSimpleShape q2.entries = false ∨ (ScaleOnlyQ db q1 ∧ ScaleOnlyQ db q2)

/-- the property of units to carry through the matching in either case of `Scales` -/
theorem Scales.pred {db : Db} {q1 q2 : Quantity} : Scales db q1 q2 →
    ∃ P : Sym → Prop, (∀ e ∈ q1.entries, P e.unit) ∧ (∀ e ∈ q2.entries, P e.unit)
      ∧ (isSimpleShape q2.entries = false ∨ ∀ u, P u → ScaleOnly db u)
  | .inl h => ⟨fun _ => True, fun _ _ => trivial, fun _ _ => trivial, .inl h⟩
  | .inr ⟨s1, s2⟩ => ⟨ScaleOnly db, s1, s2, .inr fun _ h => h⟩

/-- **the specification of `opNew`** on operands whose units are known (see the corollaries in Props/C04):
dimension exponents add/subtract; the result again has known units, one unit per quantity type, no zero
exponent, no caption; and, when the right operand is not of the simple shape (it is then scaled entry by entry)
or no unit has an offset, the base magnitudes multiply/divide: `w1 w2` are the two matched values that the
operation combines, `w1 * w2 ^ ±1` is the value before `//` takes its floor -/
theorem opNew_spec {db : Db} (hdb : ∀ r ∈ db.units, r.WF) (P : Sym → Prop) {op : NewOp} {q1 q2 q : Quantity}
    {v1 v2 v : Rat} (h1 : Known db q1) (h2 : Known db q2)
    (p1 : ∀ e ∈ q1.entries, P e.unit) (p2 : ∀ e ∈ q2.entries, P e.unit)
    (h : opNew db op q1 q2 v1 v2 = .ok (q, v)) :
    (∀ qt, dim db qt q.entries = dim db qt q1.entries + sgn op * dim db qt q2.entries)
    ∧ Known db q ∧ (∀ e ∈ q.entries, P e.unit) ∧ Unified db q.entries
    ∧ (∀ e ∈ q.entries, e.exp ≠ 0 ∧ unitTotal e.unit q.entries ≠ 0) ∧ q.caption = 0
    ∧ ((isSimpleShape q2.entries = false ∨ (∀ u, P u → ScaleOnly db u)) →
        ∃ w1 w2, applyNew op w1 w2 = .ok v
          ∧ baseMag db q (w1 * w2 ^ sgn op) = baseMag db q1 v1 * baseMag db q2 v2 ^ sgn op) := by
  obtain ⟨used, e1, e2, w1, w2, hm, hce1, hce2, hgood, hp, hm1, hmag⟩ :=
    matchQuantities_spec hdb P q1.entries q2.entries v1 v2 h1 h2 p1 p2
  obtain ⟨m, hmerge, hgm, heq⟩ := opNew_eq (op := op) hm hgood
  rw [heq] at h
  split at h
  · cases h
  rename_i v' hv
  cases h
  rw [List.forall_mem_append] at hgood
  have hgd : ∀ e ∈ dropZero m, Good db used e.cat e.unit := fun e he => hgm e (dropZero_subset m he)
  refine ⟨fun qt => ?_, fun e he => (hgd e he).entryOK, fun e he => (hgd e he).elim fun _ h => hp _ _ h.2.2,
    unified_of_good hgd, fun e he => ?_, rfl, fun hs => ⟨w1, w2, hv, ?_⟩⟩
  · show dim db qt (dropZero m) = _
    rw [dim_dropZero (unified_of_good hgm), mergeAll_dim hmerge, dim_of_catExp _ _ hce1, dim_of_catExp _ _ hce2]
  · have := mem_dropZero he
    exact ⟨this.2.1, by rw [unitTotal_dropZero]; exact this.2.2⟩
  · have hsl : ∀ e ∈ m ++ (e1 ++ e2), slope db e.unit ≠ 0 := by
      simp only [List.forall_mem_append]
      exact ⟨fun e he => (hgm e he).slope_ne_zero hdb, fun e he => (hgood.1 e he).slope_ne_zero hdb,
        fun e he => (hgood.2 e he).slope_ne_zero hdb⟩
    show w1 * w2 ^ sgn op * mag db (dropZero m) = _
    rw [mag_dropZero m (fun e he => hsl e (List.mem_append_left _ he)),
      mag_of_totals (sgn op) m e1 e2 hsl (fun u => mergeAll_unitTotal hmerge)]
    unfold baseMag
    rw [← hm1, ← hmag hs, mul_zpow]
    ring

theorem opNew_known {db : Db} (hdb : ∀ r ∈ db.units, r.WF) {op : NewOp} {q1 q2 q : Quantity} {v1 v2 v : Rat}
    (h1 : Known db q1) (h2 : Known db q2) (h : opNew db op q1 q2 v1 v2 = .ok (q, v)) :
    (∀ qt, dim db qt q.entries = dim db qt q1.entries + sgn op * dim db qt q2.entries)
    ∧ Known db q ∧ Unified db q.entries
    ∧ (∀ e ∈ q.entries, e.exp ≠ 0 ∧ unitTotal e.unit q.entries ≠ 0) ∧ q.caption = 0 :=
  let ⟨a, b, _, c, d, e, _⟩ := opNew_spec hdb (fun _ => True) h1 h2 (fun _ _ => trivial) (fun _ _ => trivial) h
  ⟨a, b, c, d, e⟩

theorem opNew_mag {db : Db} (hdb : ∀ r ∈ db.units, r.WF) {op : NewOp} {q1 q2 q : Quantity} {v1 v2 v : Rat}
    (h1 : Known db q1) (h2 : Known db q2) (hs : Scales db q1 q2) (h : opNew db op q1 q2 v1 v2 = .ok (q, v)) :
    ∃ w1 w2, applyNew op w1 w2 = .ok v
      ∧ baseMag db q (w1 * w2 ^ sgn op) = baseMag db q1 v1 * baseMag db q2 v2 ^ sgn op := by
  obtain ⟨P, p1, p2, hc⟩ := hs.pred
  exact (opNew_spec hdb P h1 h2 p1 p2 h).2.2.2.2.2.2 hc

/-- the loop of `Scalar.__pow__` after `k` more multiplications by `(q, v)` -/
theorem powLoop_spec {db : Db} (hdb : ∀ r ∈ db.units, r.WF) (P : Sym → Prop) {q : Quantity} {v : Rat} (hq : Known db q)
    (pq : ∀ e ∈ q.entries, P e.unit) (hs : isSimpleShape q.entries = false ∨ (∀ u, P u → ScaleOnly db u)) :
    ∀ (k : Nat) (rq : Quantity) (rv : Rat) (q' : Quantity) (v' : Rat),
      Known db rq → (∀ e ∈ rq.entries, P e.unit) → powLoop db q v k rq rv = .ok (q', v') →
      (∀ qt, dim db qt q'.entries = dim db qt rq.entries + k * dim db qt q.entries)
      ∧ baseMag db q' v' = baseMag db rq rv * baseMag db q v ^ k
  | 0, rq, rv, q', v', _, _, h => by
    cases h
    exact ⟨fun qt => by simp, by simp⟩
  | k + 1, rq, rv, q', v', hk, hsr, h => by
    simp only [powLoop] at h
    split at h
    · cases h
    · rename_i rq1 rv1 hop
      obtain ⟨hdim, hk1, hp1, _, _, _, hmag⟩ := opNew_spec hdb P hk hq hsr pq hop
      obtain ⟨hd, hm⟩ := powLoop_spec hdb P hq pq hs k rq1 rv1 q' v' hk1 hp1 h
      obtain ⟨w1, w2, hv, hb⟩ := hmag hs
      cases hv
      simp only [sgn, zpow_one] at hb hdim
      refine ⟨fun qt => ?_, ?_⟩
      · rw [hd qt, hdim qt]
        push_cast
        ring
      · rw [hm, hb, pow_succ]
        ring

/-! ### decidable forms of the hypotheses (for the non-vacuity examples) -/

def entryOKb (db : Db) (e : Entry) : Bool :=
  match db.unitBySym e.unit with
  | none => false
  | some r =>
    (match catQType db e.cat with
     | .ok qt => qt == r.qtype
     | .error _ => false)
    && (match db.typeOf r.qtype with
        | .ok qt => qt == r.qtype
        | .error _ => false)

theorem entryOK_of_b {db : Db} {e : Entry} (h : entryOKb db e = true) : EntryOK db e := by
  unfold entryOKb at h
  split at h
  · cases h
  · rename_i r hr
    rw [Bool.and_eq_true] at h
    obtain ⟨h1, h2⟩ := h
    refine ⟨r, ⟨hr, ?_⟩, ?_⟩
    · split at h2
      · rename_i qt hq; rw [hq, eq_of_beq h2]
      · cases h2
    · split at h1
      · rename_i qt hq; rw [hq, eq_of_beq h1]
      · cases h1

def scaleOnlyB (db : Db) (u : Sym) : Bool :=
  match db.unitBySym u with
  | none => true
  | some r => r.toBase.p == 0

theorem scaleOnly_of_b {db : Db} {u : Sym} (h : scaleOnlyB db u = true) : ScaleOnly db u := by
  intro r hr
  simpa [scaleOnlyB, hr] using h

theorem known_of_b {db : Db} {q : Quantity} (h : q.entries.all (entryOKb db) = true) : Known db q :=
  fun e he => entryOK_of_b (List.all_eq_true.mp h e he)

theorem scaleOnlyQ_of_b {db : Db} {q : Quantity} (h : q.entries.all (fun e => scaleOnlyB db e.unit) = true) :
    ScaleOnlyQ db q :=
  fun e he => scaleOnly_of_b (List.all_eq_true.mp h e he)

/-- an operand as the operators produce it: known units, one unit per quantity type, flag as `ObtainQuantity`
sets it -/
structure Operand (db : Db) (q : Quantity) : Prop where
  known : Known db q
  unified : Unified db q.entries
  canon : q.derived = !isSimpleShape q.entries

theorem Operand.obtain {db : Db} {q : Quantity} (h : Operand db q) : obtainFromDict db q.entries q.caption = .ok q := by
  rw [obtainFromDict_known q.entries q.caption h.known, ← h.canon]

theorem unified_of_single (db : Db) (e : Entry) : Unified db [e] := by
  intro a ha b hb qt h
  simp only [List.mem_singleton] at ha hb; subst ha; subst hb
  exact ⟨fun _ => rfl, fun _ => h⟩

/-- `Except.map` on the quantity of a result -/
def withValue (r : Except ErrKind Quantity) (x : Rat) : Except ErrKind (Quantity × Rat) :=
  match r with
  | .error e => .error e
  | .ok q => .ok (q, x)

theorem withValue_eq_ok {r : Except ErrKind Quantity} {x v : Rat} {q : Quantity} :
    withValue r x = .ok (q, v) ↔ r = .ok q ∧ v = x := by
  cases r <;> simp [withValue, eq_comm]

theorem Quantity.eqv_entries {a b : Quantity} (h : a.eqv b = true) : a.entries = b.entries := by
  simp only [Quantity.eqv, Bool.and_eq_true, beq_iff_eq] at h; exact h.1

theorem sameSet_self (a : List (Sym × Int)) : sameSet a a = true := by
  simp [sameSet]

/-- **the shape of `opSame` on a left operand with one unit per quantity type**: the left operand is not
touched by the matching, the right operand is re-expressed in the left operand's units ONCE, independently of
the operator and of the left value: whether the operation succeeds, the resulting quantity and the matched
right value `w2` are the same for `+` and `-` and for every left value.  The shortcut the code takes for equal
quantities computes the same: matching an equal right operand changes nothing -/
theorem opSame_shape {db : Db} (hdb : ∀ r ∈ db.units, r.WF) (P : Sym → Prop) {q1 q2 : Quantity} (v2 : Rat)
    (h1 : Operand db q1) (h2 : Known db q2) (p1 : ∀ e ∈ q1.entries, P e.unit) (p2 : ∀ e ∈ q2.entries, P e.unit) :
    ∃ used e2' w2, e2'.map catExp = q2.entries.map catExp
      ∧ (∀ e ∈ q1.entries ++ e2', Good db used e.cat e.unit) ∧ (∀ qt w, lookupU qt used = some w → P w)
      ∧ ((isSimpleShape q2.entries = false ∨ (∀ u, P u → ScaleOnly db u)) →
          w2 * mag db e2' = v2 * mag db q2.entries)
      ∧ ∀ op x, opSame db op q1 q2 x v2 =
          withValue (pickSame q1 ⟨e2', q2.caption, !isSimpleShape e2'⟩) (applySame op x w2) := by
  have hC1 : Consistent db [] q1.entries := ⟨h1.unified, fun _ _ _ _ _ hw => by cases hw⟩
  obtain ⟨used1, e1', m1⟩ := matchOne_spec hdb P (isDerivedDict q1.entries) q1.entries [] h1.known
    forall_lookupU_nil p1 forall_lookupU_nil
  obtain rfl := m1.same hC1
  obtain ⟨used2, e2', m2⟩ :=
    matchOne_spec hdb P (isDerivedDict q2.entries) q2.entries used1 h2 m1.usedOK p2 m1.recorded
  obtain ⟨w2, hm2, hvid2, hmag2⟩ := m2.run v2
  refine ⟨used2, e2', w2, m2.catExp, List.forall_mem_append.mpr ⟨fun e h => (m1.good e h).mono m2.mono, m2.good⟩,
    m2.recorded, fun hs => hmag2 (hs.imp_left scaled_of_not_simple), fun op x => ?_⟩
  obtain ⟨x', hm1, hx, _⟩ := m1.run x
  obtain rfl := hx hC1
  unfold opSame
  split
  · -- equal quantities: the right operand is matched already, nothing changes, and the comparison succeeds
    rename_i heq
    have hC2 : Consistent db used1 q2.entries := Quantity.eqv_entries heq ▸ consistent_of_good m1.good
    rw [m2.same hC2, hvid2 hC2]
    simp [pickSame, Quantity.eqv_entries heq, sameSet_self, withValue]
  · simp only [matchQuantities, hm1, hm2, h1.obtain,
      obtainFromDict_known e2' q2.caption (fun e he => (m2.good e he).entryOK)]
    cases pickSame q1 ⟨e2', q2.caption, !isSimpleShape e2'⟩ <;> rfl

/-! ### equal dimensions ⇔ equal joined exponents, on matched lists -/

theorem unitTotal_eq_of_dims {db : Db} {used : List (Sym × Sym)} {L1 L2 : List Entry}
    (hg : ∀ e ∈ L1 ++ L2, Good db used e.cat e.unit) (hd : ∀ qt, dim db qt L1 = dim db qt L2) (u : Sym) :
    unitTotal u L1 = unitTotal u L2 := by
  by_cases hex : ∃ e ∈ L1 ++ L2, e.unit = u
  · obtain ⟨e, he, rfl⟩ := hex
    obtain ⟨r, _, hc, _⟩ := hg e he
    have hiff := (unified_of_good hg).hasType_eq he (hasType_iff.mpr hc)
    rw [← dim_eq_unitTotal L1 (fun x hx => hiff x (List.mem_append_left _ hx)),
      ← dim_eq_unitTotal L2 (fun x hx => hiff x (List.mem_append_right _ hx))]
    exact hd r.qtype
  · rw [unitTotal_zero_of_notin u L1 (fun e he h => hex ⟨e, List.mem_append_left _ he, h⟩),
      unitTotal_zero_of_notin u L2 (fun e he h => hex ⟨e, List.mem_append_right _ he, h⟩)]

theorem dim_eq_of_totals {db : Db} {used : List (Sym × Sym)} {L1 L2 : List Entry}
    (hg : ∀ e ∈ L1 ++ L2, Good db used e.cat e.unit) (ht : ∀ u, unitTotal u L1 = unitTotal u L2) (qt : Sym) :
    dim db qt L1 = dim db qt L2 := by
  rcases (unified_of_good hg).dim_cases qt with ⟨u, h⟩ | h
  · rw [h L1 (List.subset_append_left ..), h L2 (List.subset_append_right ..), ht u]
  · rw [h L1 (List.subset_append_left ..), h L2 (List.subset_append_right ..)]

/-! ### accumulators of `addJoined`: every key once, with its accumulated exponent

`joined` (per unit) and `typeExps` (per quantity type, Model/AlgType.lean) are both folds of `addJoined`;
`expOf` reads an accumulator. -/

def KeysNodup (acc : List (Sym × Int)) : Prop := (acc.map Prod.fst).Nodup

theorem expOf_addJoined (k w : Sym) (x : Int) (acc : List (Sym × Int)) :
    expOf k (addJoined w x acc) = expOf k acc + (if w == k then x else 0) := by
  induction acc with
  | nil => simp [addJoined, expOf]
  | cons p rest ih =>
    obtain ⟨a, t⟩ := p
    by_cases ha : a = w
    · subst ha
      by_cases hk : a = k <;> simp [addJoined, expOf, hk]
    · by_cases hk : a = k
      · subst hk
        simp [addJoined, expOf, ha, Ne.symm ha]
      · simp [addJoined, expOf, ha, hk, ih]

theorem keys_addJoined (w : Sym) (x : Int) (acc : List (Sym × Int)) (k : Sym) :
    k ∈ (addJoined w x acc).map Prod.fst ↔ k ∈ acc.map Prod.fst ∨ k = w := by
  induction acc with
  | nil => simp [addJoined]
  | cons p acc ih =>
    obtain ⟨a, t⟩ := p
    by_cases ha : a = w
    · subst ha
      simp only [addJoined, beq_self_eq_true, ↓reduceIte, List.map_cons, List.mem_cons]
      tauto
    · simp only [addJoined, beq_iff_eq, ha, ↓reduceIte, List.map_cons, List.mem_cons, ih]
      tauto

theorem keysNodup_addJoined (w : Sym) (x : Int) (acc : List (Sym × Int)) (h : KeysNodup acc) :
    KeysNodup (addJoined w x acc) := by
  unfold KeysNodup at *
  induction acc with
  | nil => simp [addJoined]
  | cons p acc ih =>
    obtain ⟨a, t⟩ := p
    have hn := List.nodup_cons.mp h
    by_cases ha : a = w
    · subst ha; simpa [addJoined] using h
    · simp only [addJoined, beq_iff_eq, ha, ↓reduceIte, List.map_cons]
      exact List.nodup_cons.mpr ⟨fun hmem => ((keys_addJoined w x acc a).mp hmem).elim hn.1 ha, ih hn.2⟩

theorem expOf_of_mem {k : Sym} {x : Int} : ∀ {l : List (Sym × Int)}, KeysNodup l → (k, x) ∈ l → expOf k l = x
  | (w, t) :: rest, hn, hm => by
    have hn := List.nodup_cons.mp hn
    rcases List.mem_cons.mp hm with hm | hm
    · cases hm; simp [expOf]
    · have hne : ¬ w = k := fun h => hn.1 (List.mem_map.mpr ⟨(k, x), hm, h.symm⟩)
      simp only [expOf, beq_iff_eq, hne, ↓reduceIte]
      exact expOf_of_mem hn.2 hm

theorem expOf_spec (k : Sym) : ∀ (l : List (Sym × Int)), (k, expOf k l) ∈ l ∨ (k ∉ l.map Prod.fst ∧ expOf k l = 0)
  | [] => Or.inr ⟨by simp, rfl⟩
  | (w, t) :: rest => by
    by_cases hw : w = k
    · subst hw; simp [expOf]
    · rcases expOf_spec k rest with h | h
      · exact Or.inl (by simp [expOf, hw, h])
      · exact Or.inr (by simpa [expOf, hw, Ne.symm hw] using h)

theorem mem_of_expOf_ne_zero {k : Sym} {l : List (Sym × Int)} (h : expOf k l ≠ 0) : (k, expOf k l) ∈ l :=
  (expOf_spec k l).resolve_right (fun hn => h hn.2)

theorem keys_joinedFrom (k : Sym) : ∀ (L : List Entry) (acc : List (Sym × Int)),
    k ∈ (joinedFrom acc L).map Prod.fst ↔ k ∈ acc.map Prod.fst ∨ ∃ e ∈ L, e.unit = k
  | [], acc => by simp [joinedFrom]
  | e :: L, acc => by
    simp only [joinedFrom, keys_joinedFrom k L, keys_addJoined, List.mem_cons, exists_eq_or_imp]
    tauto

theorem expOf_joinedFrom (u : Sym) : ∀ (L : List Entry) (acc : List (Sym × Int)),
    expOf u (joinedFrom acc L) = expOf u acc + unitTotal u L
  | [], acc => by simp [joinedFrom, unitTotal]
  | e :: L, acc => by simp only [joinedFrom, expOf_joinedFrom u L, expOf_addJoined, unitTotal, add_assoc]

theorem keysNodup_joinedFrom : ∀ (L : List Entry) (acc : List (Sym × Int)), KeysNodup acc → KeysNodup (joinedFrom acc L)
  | [], _, h => h
  | _ :: L, _, h => keysNodup_joinedFrom L _ (keysNodup_addJoined _ _ _ h)

/-- **`GetComposingUnitsJoiningExponents`**: the pairs (unit, accumulated exponent) of the units that occur -/
theorem mem_joined (L : List Entry) (u : Sym) (t : Int) :
    (u, t) ∈ joined L ↔ (∃ e ∈ L, e.unit = u) ∧ t = unitTotal u L := by
  have hk : u ∈ (joined L).map Prod.fst ↔ ∃ e ∈ L, e.unit = u := by simp [joined, keys_joinedFrom]
  have hx : expOf u (joined L) = unitTotal u L := by simp [joined, expOf_joinedFrom, expOf]
  constructor
  · intro h
    exact ⟨hk.mp (List.mem_map.mpr ⟨_, h, rfl⟩),
      (hx ▸ expOf_of_mem (keysNodup_joinedFrom L [] List.nodup_nil) h).symm⟩
  · rintro ⟨hex, rfl⟩
    rw [← hx]
    exact (expOf_spec u _).resolve_right (fun hn => hn.1 (hk.mpr hex))

theorem joined_isEmpty_iff (L : List Entry) : (joined L).isEmpty = true ↔ L = [] := by
  cases L with
  | nil => simp [joined, joinedFrom]
  | cons e L =>
    have := (keys_joinedFrom e.unit (e :: L) []).mpr (Or.inr ⟨e, List.mem_cons_self, rfl⟩)
    cases hj : joinedFrom [] (e :: L) <;> simp_all [joined]

theorem pickSame_ok {c1 c2 q : Quantity} (h : pickSame c1 c2 = .ok q) :
    (sameSet (joined c1.entries) (joined c2.entries) = true ∧ q = c1) ∨ (c1.entries = [] ∧ q = c2)
      ∨ (c2.entries = [] ∧ q = c1) := by
  unfold pickSame at h
  split at h
  · rename_i hs; cases h; exact Or.inl ⟨hs, rfl⟩
  split at h
  · rename_i he; cases h; exact Or.inr (Or.inl ⟨(joined_isEmpty_iff _).mp he, rfl⟩)
  split at h
  · rename_i he; cases h; exact Or.inr (Or.inr ⟨(joined_isEmpty_iff _).mp he, rfl⟩)
  · cases h

theorem sameSet_of_totals (L1 L2 : List Entry) (hu : ∀ u, (∃ e ∈ L1, e.unit = u) ↔ (∃ e ∈ L2, e.unit = u))
    (ht : ∀ u, unitTotal u L1 = unitTotal u L2) : sameSet (joined L1) (joined L2) = true := by
  simp only [sameSet, Bool.and_eq_true, List.all_eq_true, List.contains_iff_mem, Prod.forall, mem_joined]
  exact ⟨fun u t h => ⟨(hu u).mp h.1, by rw [h.2, ht u]⟩, fun u t h => ⟨(hu u).mpr h.1, by rw [h.2, ht u]⟩⟩

/-- every quantity type that occurs in the quantity has a non-zero exponent (what `C04.no_zero_dimension`
proves of every product/quotient/power; trivially true of a simple quantity) -/
def NonZeroDims (db : Db) (q : Quantity) : Prop :=
  ∀ e ∈ q.entries, ∀ qt, hasType db qt e = true → dim db qt q.entries ≠ 0

theorem exists_hasType_of_dim_ne {db : Db} {qt : Sym} (L : List Entry) (h : dim db qt L ≠ 0) :
    ∃ e ∈ L, hasType db qt e = true := by
  by_contra hn
  exact h (dim_zero_of_none L fun e he => by simpa using fun hh => hn ⟨e, he, hh⟩)

theorem unit_occurs_of_dims {db : Db} {used : List (Sym × Sym)} {A B : List Entry}
    (hg : ∀ e ∈ A ++ B, Good db used e.cat e.unit) (hd : ∀ qt, dim db qt A = dim db qt B)
    (nA : ∀ e ∈ A, ∀ qt, hasType db qt e = true → dim db qt A ≠ 0) {e : Entry} (he : e ∈ A) :
    ∃ e' ∈ B, e'.unit = e.unit := by
  obtain ⟨r, _, hc, _⟩ := hg e (List.mem_append_left _ he)
  have ht := hasType_iff.mpr hc
  obtain ⟨e', he', ht'⟩ := exists_hasType_of_dim_ne B (hd _ ▸ nA e he _ ht)
  exact ⟨e', he', (unified_of_good hg e (List.mem_append_left _ he) e' (List.mem_append_right _ he') _ ht).mp ht'⟩

/-- **equal dimensions ⇒ the comparison of the joined composing units succeeds** -/
theorem sameSet_of_dims {db : Db} {used : List (Sym × Sym)} {L1 L2 L2o : List Entry}
    (hg : ∀ e ∈ L1 ++ L2, Good db used e.cat e.unit) (hce : L2.map catExp = L2o.map catExp)
    (hd : ∀ qt, dim db qt L1 = dim db qt L2o)
    (n1 : ∀ e ∈ L1, ∀ qt, hasType db qt e = true → dim db qt L1 ≠ 0)
    (n2 : ∀ e ∈ L2o, ∀ qt, hasType db qt e = true → dim db qt L2o ≠ 0) :
    sameSet (joined L1) (joined L2) = true := by
  have hd' : ∀ qt, dim db qt L1 = dim db qt L2 := fun qt => by rw [hd qt, dim_of_catExp _ _ hce]
  have n2' : ∀ e ∈ L2, ∀ qt, hasType db qt e = true → dim db qt L2 ≠ 0 := by
    intro e he qt ht
    obtain ⟨e0, he0, h0⟩ := List.mem_map.mp (hce ▸ List.mem_map_of_mem (f := catExp) he)
    rw [dim_of_catExp _ _ hce]
    exact n2 e0 he0 qt (by rw [hasType_cat (congrArg Prod.fst h0)]; exact ht)
  have hg' : ∀ e ∈ L2 ++ L1, Good db used e.cat e.unit := fun e he =>
    hg e (List.mem_append.mpr (List.mem_append.mp he).symm)
  refine sameSet_of_totals L1 L2 (fun u => ⟨?_, ?_⟩) (unitTotal_eq_of_dims hg hd')
  · rintro ⟨e, he, rfl⟩; exact unit_occurs_of_dims hg hd' n1 he
  · rintro ⟨e, he, rfl⟩; exact unit_occurs_of_dims hg' (fun qt => (hd' qt).symm) n2' he

end Barril.Alg
