/-
Helper definitions and lemmas for C20.

* the *layout* a rendered string must have (`layout`, `strTerm`, `unitTerm`, `nums`, `dens`);
* the two loops of `_MakeStr` and of `_CreateUnitsWithJoinedExponentsString` compute that layout;
* `splitOn`/`joinWith`, decimal numerals and `parseFactor` are inverse to the rendering;
* the `OrderedDict` accumulation `joinExps`, and what a map on keys and exponents does to it;
* the quantity constructors read off a successful result; one pass of `_MatchQuantities`; the powers of a
  quantity whose units are matched.
-/
import Barril.Model.StrRender

namespace Barril.Str

/-! ### the specification vocabulary -/

/-- factors written before the '/' : positive exponent, in order -/
def nums (items : List (Str × Int)) : List (Str × Int) := items.filter (fun p => decide (0 < p.2))
/-- factors written after the '/' : negative exponent, in order -/
def dens (items : List (Str × Int)) : List (Str × Int) := items.filter (fun p => decide (p.2 < 0))

/-- one factor of a `_MakeStr` string: the text, or `(text) ** |e|` -/
def strTerm (p : Str × Int) : Str := if p.2.natAbs = 1 then p.1 else powText p.1 p.2.natAbs
/-- one factor of a unit string: the symbol, followed by `|e|` in decimal unless it is 1 -/
def unitTerm (p : Str × Int) : Str := if p.2.natAbs = 1 then p.1 else p.1 ++ decimal p.2.natAbs

/-- numerator factors joined by `mul`, then ONE `div`, then the denominator factors joined by `mul`;
`one` replaces the numerator and the `div` when there is no numerator factor -/
def layout (mul div one : Str) : List Str → List Str → Str
  | [], [] => []
  | [], d :: ds => one ++ joinWith mul (d :: ds)
  | n :: ns, [] => joinWith mul (n :: ns)
  | n :: ns, d :: ds => joinWith mul (n :: ns) ++ div ++ joinWith mul (d :: ds)

def tailJoin (sep : Str) : List Str → Str
  | [] => []
  | t :: ts => sep ++ t ++ tailJoin sep ts

theorem joinWith_cons (sep t : Str) (ts : List Str) : joinWith sep (t :: ts) = t ++ tailJoin sep ts := by
  induction ts generalizing t with
  | nil => simp [joinWith, tailJoin]
  | cons y ys ih => simp [joinWith, tailJoin, ih]

/-- the numerator loop on the already formatted factors -/
def accNum (sep : Str) : Str → List Str → Str
  | ret, [] => ret
  | ret, t :: ts => accNum sep ((if ret ≠ [] then ret ++ sep else ret) ++ t) ts

/-- what the denominator loop appends to `ret` for the already formatted factors `ts`: only the first factor looks
at `added` and at `ret` -/
def accDen (mul div one ret : Str) (added : Bool) : List Str → Str
  | [] => ret
  | t :: ts =>
    (if added = false then (if ret ≠ [] then ret ++ div else ret ++ one) else ret ++ mul) ++ t ++ tailJoin mul ts

theorem accDen_cons (mul div one ret : Str) (added : Bool) (t : Str) (ts : List Str) :
    accDen mul div one ret added (t :: ts)
      = accDen mul div one
          ((if added = false then (if ret ≠ [] then ret ++ div else ret ++ one) else ret ++ mul) ++ t) true ts := by
  cases ts <;> simp [accDen, tailJoin, List.append_assoc]

theorem accNum_ne (sep ret : Str) (ts : List Str) (h : ret ≠ []) :
    accNum sep ret ts = ret ++ tailJoin sep ts := by
  induction ts generalizing ret with
  | nil => simp [accNum, tailJoin]
  | cons t ts ih =>
    have h2 : ret ++ sep ++ t ≠ [] := by simp [h]
    simp only [accNum, h, ne_eq, not_false_eq_true, ↓reduceIte, ih _ h2, tailJoin]
    simp [List.append_assoc]

theorem accNum_nil (sep : Str) (ts : List Str) (hts : ∀ t ∈ ts, t ≠ []) :
    accNum sep [] ts = joinWith sep ts := by
  cases ts with
  | nil => rfl
  | cons t ts =>
    have ht : t ≠ [] := hts t (by simp)
    simp only [accNum, ne_eq, not_true_eq_false, ↓reduceIte, List.nil_append]
    rw [accNum_ne sep t ts ht, joinWith_cons]

theorem acc_layout (mul div one : Str) (ns ds : List Str) (hns : ∀ t ∈ ns, t ≠ []) :
    accDen mul div one (accNum mul [] ns) false ds = layout mul div one ns ds := by
  cases ds with
  | nil =>
    cases ns with
    | nil => rfl
    | cons n ns => simp only [accDen, accNum_nil mul _ hns, layout]
  | cons d ds =>
    cases ns with
    | nil => simp [accNum, accDen, layout, joinWith_cons]
    | cons n ns =>
      have hne : joinWith mul (n :: ns) ≠ [] := by simp [joinWith_cons, hns n]
      simp only [accDen, accNum_nil mul _ hns, hne, layout, ne_eq, not_false_eq_true, ↓reduceIte, List.append_assoc]
      rw [joinWith_cons mul d ds]

/-! ### `_MakeStr` and `_CreateUnitsWithJoinedExponentsString` compute the layout -/

theorem nums_cons (p : Str × Int) (l : List (Str × Int)) :
    nums (p :: l) = if 0 < p.2 then p :: nums l else nums l := by
  simp only [nums, List.filter_cons, decide_eq_true_eq]

theorem dens_cons (p : Str × Int) (l : List (Str × Int)) :
    dens (p :: l) = if p.2 < 0 then p :: dens l else dens l := by
  simp only [dens, List.filter_cons, decide_eq_true_eq]

/-- how both loops of `_MakeStr` write a factor (`c` is `exp != 1` or `exp != -1`, `n` is `exp` or `abs(exp)`) -/
theorem append_strTerm (a rep : Str) (e : Int) {n : Nat} (hn : n = e.natAbs) {c : Prop} [Decidable c]
    (hc : c ↔ e.natAbs ≠ 1) : (if c then a ++ powText rep n else a ++ rep) = a ++ strTerm (rep, e) := by
  subst hn
  by_cases h : e.natAbs = 1 <;> simp [strTerm, hc, h]

theorem append_unitTerm (a u : Str) (e : Int) {n : Nat} (hn : n = e.natAbs) {c : Prop} [Decidable c]
    (hc : c ↔ e.natAbs ≠ 1) : (if c then a ++ (u ++ decimal n) else a ++ u) = a ++ unitTerm (u, e) := by
  subst hn
  by_cases h : e.natAbs = 1 <;> simp [unitTerm, hc, h]

theorem makeStrNum_eq (ret : Str) (items : List (Str × Int)) :
    makeStrNum ret items = accNum sepMul ret ((nums items).map strTerm) := by
  induction items generalizing ret with
  | nil => rfl
  | cons p rest ih =>
    obtain ⟨rep, exp⟩ := p
    by_cases h : 0 < exp
    · simp only [makeStrNum, nums_cons, gt_iff_lt, h, if_true, List.map_cons, accNum, ih]
      rw [append_strTerm _ rep exp (n := exp.toNat) (by omega) (c := exp ≠ 1) (by omega)]
    · simp only [makeStrNum, nums_cons, gt_iff_lt, h, if_false, ih]

theorem makeStrDen_eq (ret : Str) (added : Bool) (items : List (Str × Int)) :
    makeStrDen ret added items = accDen sepMul sepDiv oneDiv ret added ((dens items).map strTerm) := by
  induction items generalizing ret added with
  | nil => rfl
  | cons p rest ih =>
    obtain ⟨rep, exp⟩ := p
    by_cases h : exp < 0
    · simp only [makeStrDen, dens_cons, h, if_true, List.map_cons, accDen_cons, ih]
      rw [append_strTerm _ rep exp (n := exp.natAbs) rfl (c := exp ≠ -1) (by omega)]
    · simp only [makeStrDen, dens_cons, h, if_false, ih]

theorem strTerm_ne_nil (p : Str × Int) (h : p.1 ≠ []) : strTerm p ≠ [] := by
  unfold strTerm; split
  · exact h
  · simp [powText]

theorem makeStr_layout (items : List (Str × Int)) (h : ∀ p ∈ items, 0 < p.2 → p.1 ≠ []) :
    makeStr items = layout sepMul sepDiv oneDiv ((nums items).map strTerm) ((dens items).map strTerm) := by
  unfold makeStr
  rw [makeStrNum_eq, makeStrDen_eq, acc_layout]
  intro t ht
  obtain ⟨p, hp, rfl⟩ := List.mem_map.mp ht
  have hp' := List.mem_filter.mp hp
  exact strTerm_ne_nil p (h p hp'.1 (by simpa using hp'.2))

theorem renderUnitNum_eq (ret : Str) (items : List (Str × Int)) :
    renderUnitNum ret items = accNum [cDot] ret ((nums items).map unitTerm) := by
  induction items generalizing ret with
  | nil => rfl
  | cons p rest ih =>
    obtain ⟨u, exp⟩ := p
    by_cases h : 0 < exp
    · simp only [renderUnitNum, nums_cons, gt_iff_lt, h, if_true, List.map_cons, accNum, ih]
      rw [append_unitTerm _ u exp (n := exp.toNat) (by omega) (c := exp ≠ 1) (by omega)]
    · simp only [renderUnitNum, nums_cons, gt_iff_lt, h, if_false, ih]

theorem renderUnitDen_eq (ret : Str) (added : Bool) (items : List (Str × Int)) :
    renderUnitDen ret added items = accDen [cDot] [cSlash] [cOne, cSlash] ret added ((dens items).map unitTerm) := by
  induction items generalizing ret added with
  | nil => rfl
  | cons p rest ih =>
    obtain ⟨u, exp⟩ := p
    by_cases h : exp < 0
    · simp only [renderUnitDen, dens_cons, h, if_true, List.map_cons, accDen_cons, ih, List.append_assoc]
      rw [append_unitTerm _ u exp (n := exp.natAbs) rfl (c := exp ≠ -1) (by omega)]
    · simp only [renderUnitDen, dens_cons, h, if_false, ih]

theorem unitTerm_ne_nil (p : Str × Int) (h : p.1 ≠ []) : unitTerm p ≠ [] := by
  unfold unitTerm; split
  · exact h
  · simp [h]

theorem renderUnit_layout (j : List (Str × Int)) (h : ∀ p ∈ j, 0 < p.2 → p.1 ≠ []) :
    renderUnit j = layout [cDot] [cSlash] [cOne, cSlash] ((nums j).map unitTerm) ((dens j).map unitTerm) := by
  unfold renderUnit
  rw [renderUnitNum_eq, renderUnitDen_eq, acc_layout]
  intro t ht
  obtain ⟨p, hp, rfl⟩ := List.mem_map.mp ht
  have hp' := List.mem_filter.mp hp
  exact unitTerm_ne_nil p (h p hp'.1 (by simpa using hp'.2))

/-! ### splitting is inverse to joining -/

theorem splitOn_noSep (sep : Nat) (x : Str) (hx : sep ∉ x) : splitOn sep x = [x] := by
  induction x with
  | nil => simp [splitOn]
  | cons c cs ih =>
    have hc : c ≠ sep := by intro h; apply hx; simp [h]
    have hcs : sep ∉ cs := by intro h; apply hx; simp [h]
    simp only [splitOn, hc, ↓reduceIte, ih hcs]

theorem splitOn_append_sep (sep : Nat) (x : Str) (hx : sep ∉ x) (rest : Str) :
    splitOn sep (x ++ sep :: rest) = x :: splitOn sep rest := by
  induction x with
  | nil => simp [splitOn]
  | cons c cs ih =>
    have hc : c ≠ sep := by intro h; apply hx; simp [h]
    have hcs : sep ∉ cs := by intro h; apply hx; simp [h]
    simp only [List.cons_append, splitOn, hc, ↓reduceIte, ih hcs]

theorem split_join (sep : Nat) : ∀ (xs : List Str), xs ≠ [] → (∀ x ∈ xs, sep ∉ x) →
    splitOn sep (joinWith [sep] xs) = xs
  | [], h, _ => absurd rfl h
  | [x], _, hx => by simpa [joinWith] using splitOn_noSep sep x (hx x (by simp))
  | x :: y :: t, _, hx => by
    have h1 : sep ∉ x := hx x (by simp)
    have ih := split_join sep (y :: t) (by simp) (fun z hz => hx z (by simp [hz]))
    simp only [joinWith, List.append_assoc, List.singleton_append, splitOn_append_sep sep x h1, ih]

theorem mem_joinWith (sep : Str) (c : Nat) : ∀ (xs : List Str), c ∈ joinWith sep xs →
    c ∈ sep ∨ ∃ x ∈ xs, c ∈ x
  | [], h => by simp [joinWith] at h
  | [x], h => by right; exact ⟨x, by simp, by simpa [joinWith] using h⟩
  | x :: y :: t, h => by
    simp only [joinWith, List.mem_append] at h
    rcases h with (h | h) | h
    · right; exact ⟨x, by simp, h⟩
    · left; exact h
    · rcases mem_joinWith sep c (y :: t) h with h | ⟨z, hz, hc⟩
      · left; exact h
      · right; exact ⟨z, by simp [hz], hc⟩

theorem isDigit_digit {d : Nat} (h : d < 10) : isDigit (48 + d) = true := by
  simp only [isDigit, Bool.and_eq_true, decide_eq_true_eq]
  omega

theorem revDigits_spec : ∀ (f n : Nat), n < f →
    valRev (revDigits f n) = n ∧ (∀ c ∈ revDigits f n, isDigit c = true) ∧ revDigits f n ≠ []
  | 0, n, h => by omega
  | f + 1, n, h => by
    unfold revDigits
    split
    · next hn => exact ⟨by simp [valRev], by simpa using isDigit_digit hn, by simp⟩
    · obtain ⟨h1, h2, _⟩ := revDigits_spec f (n / 10) (by omega)
      refine ⟨by simp only [valRev, h1]; omega, fun c hc => ?_, by simp⟩
      rcases List.mem_cons.mp hc with rfl | hc
      · exact isDigit_digit (Nat.mod_lt _ (by decide))
      · exact h2 c hc

theorem mem_decimal (n c : Nat) (h : c ∈ decimal n) : isDigit c = true := by
  unfold decimal at h
  exact (revDigits_spec (n + 1) n (by omega)).2.1 c (by simpa using h)

theorem spanDigits_all (d : Str) (hd : ∀ c ∈ d, isDigit c = true) (r : Str)
    (hr : ∀ c, r.head? = some c → isDigit c = false) : spanDigits (d ++ r) = (d, r) := by
  induction d with
  | nil =>
    cases r with
    | nil => rfl
    | cons c cs => simp [spanDigits, hr c (by simp)]
  | cons c cs ih =>
    have hc := hd c (by simp)
    have := ih (fun x hx => hd x (by simp [hx]))
    simp [spanDigits, hc, this]

structure Atomic (u : Str) : Prop where
  ne : u ≠ []
  last : ∀ c, u.getLast? = some c → isDigit c = false
  noDot : cDot ∉ u
  noSlash : cSlash ∉ u

theorem atomic_iff (u : Str) : atomic u = true ↔ Atomic u := by
  unfold atomic
  constructor
  · intro h
    split at h
    · cases h
    · rename_i c hc
      simp only [Bool.and_eq_true, Bool.not_eq_true', List.contains_eq_mem, decide_eq_false_iff_not] at h
      refine ⟨?_, ?_, h.1.2, h.2⟩
      · intro hu; subst hu; simp at hc
      · intro c' hc'; rw [hc] at hc'; cases hc'; exact h.1.1
  · intro ⟨hne, hl, hd, hs⟩
    split
    · rename_i hc; simp [List.getLast?_eq_none_iff] at hc; exact absurd hc hne
    · rename_i c hc
      simp [hl c hc, hd, hs]

theorem parseFactor_unitTerm (sign : Int) (u : Str) (e : Int) (hu : Atomic u) (he : e ≠ 0) :
    parseFactor sign (unitTerm (u, e)) = some (u, sign * (e.natAbs : Int)) := by
  have hhead : ∀ c, u.reverse.head? = some c → isDigit c = false := by
    intro c hc; apply hu.last; simpa [List.head?_reverse] using hc
  have hrne : u.reverse ≠ [] := by simpa using hu.ne
  unfold unitTerm parseFactor
  by_cases h1 : e.natAbs = 1
  · have := spanDigits_all [] (by simp) u.reverse hhead
    simp only [List.nil_append] at this
    simp [h1, this, hrne]
  · obtain ⟨hv, hdig, hnn⟩ := revDigits_spec (e.natAbs + 1) e.natAbs (by omega)
    have := spanDigits_all (revDigits (e.natAbs + 1) e.natAbs) hdig u.reverse hhead
    have hv0 : e.natAbs ≠ 0 := by omega
    simp only [h1, ↓reduceIte, decimal, List.reverse_append, List.reverse_reverse, this]
    simp [hnn, hv, hv0, hrne]

theorem unitTerm_no (c : Nat) (hc : isDigit c = false) (p : Str × Int) (hp : c ∉ p.1) : c ∉ unitTerm p := by
  unfold unitTerm
  split
  · exact hp
  · intro h
    rcases List.mem_append.mp h with h | h
    · exact hp h
    · have := mem_decimal _ _ h; rw [hc] at this; cases this

/-- a list of factors all on one side of the '/' -/
structure Side (sign : Int) (l : List (Str × Int)) : Prop where
  atomic : ∀ p ∈ l, Atomic p.1
  signed : ∀ p ∈ l, p.2 ≠ 0 ∧ sign * (p.2.natAbs : Int) = p.2

theorem parseFactors_terms (sign : Int) : ∀ (l : List (Str × Int)), Side sign l →
    parseFactors sign (l.map unitTerm) = some l
  | [], _ => rfl
  | p :: rest, h => by
    have ih := parseFactors_terms sign rest ⟨fun q hq => h.atomic q (by simp [hq]), fun q hq => h.signed q (by simp [hq])⟩
    have hp := parseFactor_unitTerm sign p.1 p.2 (h.atomic p (by simp)) (h.signed p (by simp)).1
    rw [(h.signed p (by simp)).2] at hp
    simp only [List.map_cons, parseFactors, hp, ih]

theorem parseSide_join (sign : Int) (l : List (Str × Int)) (hl : l ≠ []) (h : Side sign l) :
    parseSide sign (joinWith [cDot] (l.map unitTerm)) = some l := by
  unfold parseSide
  rw [split_join cDot (l.map unitTerm) (by simpa using hl)]
  · exact parseFactors_terms sign l h
  · intro x hx
    obtain ⟨p, hp, rfl⟩ := List.mem_map.mp hx
    exact unitTerm_no cDot (by decide) p (h.atomic p hp).noDot

theorem join_noSlash (sign : Int) (l : List (Str × Int)) (h : Side sign l) :
    cSlash ∉ joinWith [cDot] (l.map unitTerm) := by
  intro hc
  rcases mem_joinWith _ _ _ hc with hc | ⟨x, hx, hc⟩
  · simp at hc
  · obtain ⟨p, hp, rfl⟩ := List.mem_map.mp hx
    exact unitTerm_no cSlash (by decide) p (h.atomic p hp).noSlash hc

theorem join_ne_one (sign : Int) (p : Str × Int) (l : List (Str × Int)) (h : Side sign (p :: l)) :
    joinWith [cDot] ((p :: l).map unitTerm) ≠ [cOne] := by
  have hp := h.atomic p (by simp)
  -- the string starts with the atomic symbol `p.1`; were it "1", that symbol would be "1"
  obtain ⟨t, ht⟩ : ∃ t, unitTerm p = p.1 ++ t := by
    unfold unitTerm; split
    · exact ⟨[], by simp⟩
    · exact ⟨_, rfl⟩
  rw [List.map_cons, joinWith_cons, ht, List.append_assoc]
  intro heq
  rcases List.append_eq_singleton_iff.mp heq with ⟨h1, _⟩ | ⟨h1, _⟩
  · exact hp.ne h1
  · exact absurd (hp.last cOne (by rw [h1]; rfl)) (by decide)

theorem parse_layout (a b : List (Str × Int)) (ha : Side 1 a) (hb : Side (-1) b) :
    parseUnit (layout [cDot] [cSlash] [cOne, cSlash] (a.map unitTerm) (b.map unitTerm)) = some (a ++ b) := by
  cases b with
  | nil =>
    cases a with
    | nil => rfl
    | cons p a =>
      have hne : joinWith [cDot] ((p :: a).map unitTerm) ≠ [] := by
        rw [List.map_cons, joinWith_cons]
        simp [unitTerm_ne_nil p (ha.atomic p (by simp)).ne]
      have hs := splitOn_noSep cSlash _ (join_noSlash 1 (p :: a) ha)
      have hp := parseSide_join 1 (p :: a) (by simp) ha
      unfold parseUnit
      rw [List.map_nil, List.append_nil]
      simp only [List.map_cons, layout] at hne hs hp ⊢
      rw [if_neg hne, hs]
      exact hp
  | cons q b =>
    -- before the one '/' stands `1` or the joined numerator; either way it has no '/' and parses to `a`
    obtain ⟨N, hlay, hN, hslash⟩ : ∃ N,
        layout [cDot] [cSlash] [cOne, cSlash] (a.map unitTerm) ((q :: b).map unitTerm)
          = N ++ cSlash :: joinWith [cDot] ((q :: b).map unitTerm)
        ∧ parseNum N = some a ∧ cSlash ∉ N := by
      cases a with
      | nil => exact ⟨[cOne], rfl, rfl, by decide⟩
      | cons p a =>
        refine ⟨joinWith [cDot] ((p :: a).map unitTerm), by simp [layout], ?_, join_noSlash 1 (p :: a) ha⟩
        rw [parseNum, if_neg (join_ne_one 1 p a ha)]
        exact parseSide_join 1 (p :: a) (by simp) ha
    unfold parseUnit
    rw [hlay, if_neg (by simp), splitOn_append_sep cSlash N hslash,
      splitOn_noSep cSlash _ (join_noSlash (-1) (q :: b) hb)]
    simp only [hN, parseSide_join (-1) (q :: b) (by simp) hb]

theorem side_of_filter {s : Int} {sel : Str × Int → Bool}
    (hs : ∀ p, sel p = true → p.2 ≠ 0 ∧ s * (p.2.natAbs : Int) = p.2)
    (j : List (Str × Int)) (h : ∀ p ∈ j, Atomic p.1) : Side s (j.filter sel) :=
  ⟨fun p hp => h p (List.mem_filter.mp hp).1, fun p hp => hs p (List.mem_filter.mp hp).2⟩

/-! ### the `OrderedDict` accumulation -/

/-- sum of the exponents written next to key `k` -/
def expSum (k : Str) : List (Str × Int) → Int
  | [] => 0
  | (v, f) :: rest => (if v = k then f else 0) + expSum k rest

def keys (l : List (Str × Int)) : List Str := l.map (·.1)

theorem expSum_addExp (k' : Str) (acc : List (Str × Int)) (k : Str) (e : Int) :
    expSum k' (addExp acc k e) = expSum k' acc + (if k = k' then e else 0) := by
  induction acc with
  | nil => simp [addExp, expSum]
  | cons p rest ih =>
    obtain ⟨v, f⟩ := p
    by_cases hv : v = k
    · subst hv
      by_cases hk : v = k' <;> simp [addExp, expSum, hk] <;> omega
    · simp only [addExp, hv, ↓reduceIte, expSum, ih]; omega

theorem expSum_joinExpsFrom (k' : Str) (acc ps : List (Str × Int)) :
    expSum k' (joinExpsFrom acc ps) = expSum k' acc + expSum k' ps := by
  induction ps generalizing acc with
  | nil => simp [joinExpsFrom, expSum]
  | cons p rest ih =>
    obtain ⟨k, e⟩ := p
    simp only [joinExpsFrom, ih, expSum_addExp, expSum]; omega

theorem keys_nil : keys [] = [] := rfl
theorem keys_cons (p : Str × Int) (l : List (Str × Int)) : keys (p :: l) = p.1 :: keys l := rfl

theorem keys_addExp (acc : List (Str × Int)) (k : Str) (e : Int) :
    keys (addExp acc k e) = if k ∈ keys acc then keys acc else keys acc ++ [k] := by
  induction acc with
  | nil => rfl
  | cons p rest ih =>
    obtain ⟨v, f⟩ := p
    by_cases hv : v = k
    · simp [addExp, keys, hv]
    · have hkv : ¬ k = v := fun h => hv h.symm
      simp only [addExp, hv, if_false, keys_cons, ih, List.mem_cons, hkv, false_or]
      split <;> rfl

theorem mem_keys_addExp (acc : List (Str × Int)) (k : Str) (e : Int) (x : Str) :
    x ∈ keys (addExp acc k e) ↔ x ∈ keys acc ∨ x = k := by
  rw [keys_addExp]
  split
  · next h => exact ⟨Or.inl, fun hx => hx.elim id (· ▸ h)⟩
  · simp

theorem nodup_addExp (acc : List (Str × Int)) (k : Str) (e : Int) (h : (keys acc).Nodup) :
    (keys (addExp acc k e)).Nodup := by
  rw [keys_addExp]
  split
  · exact h
  · next hk => exact List.nodup_append.mpr ⟨h, by simp, fun a ha b hb hab => hk (List.mem_singleton.mp hb ▸ hab ▸ ha)⟩

theorem nodup_joinExpsFrom (acc ps : List (Str × Int)) (h : (keys acc).Nodup) :
    (keys (joinExpsFrom acc ps)).Nodup := by
  induction ps generalizing acc with
  | nil => exact h
  | cons p rest ih =>
    obtain ⟨k, e⟩ := p
    exact ih _ (nodup_addExp acc k e h)

theorem mem_keys_joinExpsFrom (acc ps : List (Str × Int)) (k : Str) :
    k ∈ keys (joinExpsFrom acc ps) ↔ k ∈ keys acc ∨ k ∈ keys ps := by
  induction ps generalizing acc with
  | nil => simp [joinExpsFrom, keys_nil]
  | cons p rest ih =>
    obtain ⟨k2, e⟩ := p
    rw [joinExpsFrom, ih, mem_keys_addExp, keys_cons, List.mem_cons]
    exact or_assoc

theorem expSum_of_not_mem (k : Str) : ∀ l : List (Str × Int), k ∉ keys l → expSum k l = 0
  | [], _ => rfl
  | (w, g) :: r, h => by
    simp only [keys_cons, List.mem_cons, not_or] at h
    have hw : ¬ w = k := fun hh => h.1 hh.symm
    simp [expSum, hw, expSum_of_not_mem k r h.2]

theorem expSum_of_mem_nodup (l : List (Str × Int)) (h : (keys l).Nodup) (k : Str) (e : Int)
    (hm : (k, e) ∈ l) : expSum k l = e := by
  induction l with
  | nil => cases hm
  | cons p rest ih =>
    obtain ⟨v, f⟩ := p
    simp only [keys_cons, List.nodup_cons] at h
    rcases List.mem_cons.mp hm with heq | hm'
    · cases heq
      simp [expSum, expSum_of_not_mem k rest h.1]
    · have hvk : ¬ v = k := by
        rintro rfl
        exact h.1 (List.mem_map.mpr ⟨(v, e), hm', rfl⟩)
      simp only [expSum, hvk, ↓reduceIte, Int.zero_add]
      exact ih h.2 hm'

/-- first occurrences, in order, of the keys not yet `seen` -/
def dedupFrom (seen : List Str) : List Str → List Str
  | [] => []
  | k :: ks => if k ∈ seen then dedupFrom seen ks else k :: dedupFrom (seen ++ [k]) ks

theorem keys_joinExpsFrom (acc ps : List (Str × Int)) :
    keys (joinExpsFrom acc ps) = keys acc ++ dedupFrom (keys acc) (keys ps) := by
  induction ps generalizing acc with
  | nil => simp [joinExpsFrom, keys_nil, dedupFrom]
  | cons p rest ih =>
    obtain ⟨k, e⟩ := p
    rw [joinExpsFrom, ih, keys_cons]
    by_cases hk : k ∈ keys acc <;> simp [keys_addExp, dedupFrom, hk]

/-! ### mapping a joined list: keys through a function injective on them, exponents through an additive one -/

theorem addExp_map (f : Str → Str) (φ : Int → Int) (hφ : ∀ a b, φ (a + b) = φ a + φ b)
    (acc : List (Str × Int)) (k : Str) (e : Int) (hinj : ∀ a ∈ keys acc, f a = f k → a = k) :
    addExp (acc.map (fun p => (f p.1, φ p.2))) (f k) (φ e) = (addExp acc k e).map (fun p => (f p.1, φ p.2)) := by
  induction acc with
  | nil => simp [addExp]
  | cons p rest ih =>
    obtain ⟨v, x⟩ := p
    by_cases hv : v = k
    · subst hv; simp [addExp, hφ]
    · have hfv : f v ≠ f k := fun h => hv (hinj v (by simp [keys]) h)
      simp only [List.map_cons, addExp, hv, hfv, if_false]
      rw [ih fun a ha => hinj a (by simp [keys] at ha ⊢; exact Or.inr ha)]

theorem joinExpsFrom_map (f : Str → Str) (φ : Int → Int) (hφ : ∀ a b, φ (a + b) = φ a + φ b)
    (S : List Str) (hinj : ∀ a ∈ S, ∀ b ∈ S, f a = f b → a = b) (acc ps : List (Str × Int))
    (hacc : ∀ a ∈ keys acc, a ∈ S) (hps : ∀ a ∈ keys ps, a ∈ S) :
    joinExpsFrom (acc.map (fun p => (f p.1, φ p.2))) (ps.map (fun p => (f p.1, φ p.2)))
      = (joinExpsFrom acc ps).map (fun p => (f p.1, φ p.2)) := by
  induction ps generalizing acc with
  | nil => rfl
  | cons p rest ih =>
    obtain ⟨k, e⟩ := p
    have hk : k ∈ S := hps k List.mem_cons_self
    simp only [List.map_cons, joinExpsFrom]
    rw [addExp_map f φ hφ acc k e (fun a ha => hinj a (hacc a ha) k hk)]
    exact ih _ (fun a ha => ((mem_keys_addExp acc k e a).mp ha).elim (hacc a) (· ▸ hk))
      (fun a ha => hps a (List.mem_cons_of_mem _ ha))

theorem joinExps_rename (f : Str → Str) (ps : List (Str × Int))
    (hinj : ∀ a ∈ keys ps, ∀ b ∈ keys ps, f a = f b → a = b) :
    joinExps (ps.map (fun p => (f p.1, p.2))) = (joinExps ps).map (fun p => (f p.1, p.2)) :=
  joinExpsFrom_map f id (fun _ _ => rfl) (keys ps) hinj [] ps nofun (fun _ h => h)

theorem joinedUnits_scale (n : Int) (es : List Entry) :
    joinedUnits (scaleEntries n es) = (joinedUnits es).map (fun p => (p.1, p.2 * n)) := by
  have : unitPairs (scaleEntries n es) = (unitPairs es).map (fun p => (p.1, p.2 * n)) := by
    simp [unitPairs, scaleEntries]
  rw [joinedUnits, this]
  exact joinExpsFrom_map id (· * n) (fun a b => Int.add_mul a b n) _ (fun _ _ _ _ h => h) [] (unitPairs es)
    nofun (fun _ h => h)

theorem mem_joinExps_key {ps : List (Str × Int)} {p : Str × Int} (hp : p ∈ joinExps ps) : p.1 ∈ keys ps :=
  ((mem_keys_joinExpsFrom [] ps p.1).mp (List.mem_map.mpr ⟨p, hp, rfl⟩)).resolve_left nofun

theorem mem_joinedUnits {es : List Entry} {p : Str × Int} (hp : p ∈ joinedUnits es) : ∃ e ∈ es, e.unit = p.1 := by
  obtain ⟨pe, hpe, hk⟩ := List.mem_map.mp (mem_joinExps_key hp)
  obtain ⟨e, he, rfl⟩ := List.mem_map.mp hpe
  exact ⟨e, he, hk⟩

/-! ### the two branches of `Quantity.__init__`, read off a successful result -/

theorem Reg.qtypeOf_mem {reg : Reg} {c qt : Str} (h : reg.qtypeOf c = .ok qt) : ∃ p ∈ reg.cats, p.2 = qt := by
  unfold Reg.qtypeOf at h
  split at h
  · next p hp => cases h; exact ⟨p, List.mem_of_find?_eq_some hp, rfl⟩
  · cases h

theorem Reg.unitName_mem {reg : Reg} {qt u n : Str} (h : reg.unitName qt u = .ok n) :
    ∃ p ∈ reg.names, p.2 = n := by
  unfold Reg.unitName at h
  split at h
  · next p hp => cases h; exact ⟨p, List.mem_of_find?_eq_some hp, rfl⟩
  · cases h

theorem typePairs_cons_ok {reg : Reg} {e : Entry} {es : List Entry} {ts : List (Str × Int)}
    (h : typePairs reg (e :: es) = .ok ts) :
    ∃ qt ps, reg.qtypeOf e.cat = .ok qt ∧ typePairs reg es = .ok ps ∧ ts = (qt, e.exp) :: ps := by
  unfold typePairs at h
  split at h
  · cases h
  · next qt hqt =>
    split at h
    · cases h
    · next ps hps => cases h; exact ⟨qt, ps, hqt, hps, rfl⟩

theorem namePairs_cons_ok {reg : Reg} {e : Entry} {es : List Entry} {ts : List (Str × Int)}
    (h : namePairs reg (e :: es) = .ok ts) :
    ∃ qt n ps, reg.qtypeOf e.cat = .ok qt ∧ reg.unitName qt e.unit = .ok n ∧ namePairs reg es = .ok ps
      ∧ ts = (n, e.exp) :: ps := by
  unfold namePairs at h
  split at h
  · cases h
  · next qt hqt =>
    split at h
    · cases h
    · next n hn =>
      split at h
      · cases h
      · next ps hps => cases h; exact ⟨qt, n, ps, hqt, hn, hps, rfl⟩

theorem typePairs_keys {reg : Reg} : ∀ {es : List Entry} {ts : List (Str × Int)}, typePairs reg es = .ok ts →
    ∀ k ∈ keys ts, ∃ p ∈ reg.cats, p.2 = k
  | [], _, h, k, hk => by cases h; cases hk
  | e :: es, _, h, k, hk => by
    obtain ⟨qt, ps, hqt, hps, rfl⟩ := typePairs_cons_ok h
    rcases List.mem_cons.mp hk with rfl | hk
    · exact Reg.qtypeOf_mem hqt
    · exact typePairs_keys hps k hk

theorem namePairs_keys {reg : Reg} : ∀ {es : List Entry} {ts : List (Str × Int)}, namePairs reg es = .ok ts →
    ∀ k ∈ keys ts, ∃ p ∈ reg.names, p.2 = k
  | [], _, h, k, hk => by cases h; cases hk
  | e :: es, _, h, k, hk => by
    obtain ⟨qt, n, ps, _, hn, hps, rfl⟩ := namePairs_cons_ok h
    rcases List.mem_cons.mp hk with rfl | hk
    · exact Reg.unitName_mem hn
    · exact namePairs_keys hps k hk

theorem newSimple_ok {reg : Reg} {c u : Str} {q : Quantity} (h : newSimple reg c u = .ok q) :
    ∃ qt, reg.qtypeOf c = .ok qt ∧ q = ⟨[⟨c, u, 1⟩], false, c, qt, u⟩ := by
  unfold newSimple at h
  split at h
  · cases h
  · next qt hqt => cases h; exact ⟨qt, hqt, rfl⟩

theorem newDerived_ok {reg : Reg} {es : List Entry} {q : Quantity} (h : newDerived reg es = .ok q) :
    ∃ tps, typePairs reg es = .ok tps
      ∧ q = ⟨es, true, makeStr (catPairs es), makeStr (joinExps tps), renderUnit (joinedUnits es)⟩ := by
  unfold newDerived at h
  split at h
  · cases h
  · next tps htps => cases h; exact ⟨tps, htps, rfl⟩

theorem obtainFromDict_ok {reg : Reg} {es : List Entry} {q : Quantity} (h : obtainFromDict reg es = .ok q) :
    (∃ c u, es = [⟨c, u, 1⟩] ∧ newSimple reg c u = .ok q)
    ∨ ((∀ c u, es ≠ [⟨c, u, 1⟩]) ∧ newDerived reg es = .ok q) := by
  unfold obtainFromDict at h
  split at h
  · next e =>
    split at h
    · next he => exact Or.inl ⟨e.cat, e.unit, by rw [← he], h⟩
    · next he => exact Or.inr ⟨fun c u hcu => he (by cases hcu; rfl), h⟩
  · next hne => exact Or.inr ⟨fun c u hcu => hne _ hcu, h⟩

theorem obtainFromDict_entries (reg : Reg) (es : List Entry) (r : Quantity) (h : obtainFromDict reg es = .ok r) :
    r.entries = es := by
  rcases obtainFromDict_ok h with ⟨c, u, rfl, hs⟩ | ⟨_, hd⟩
  · obtain ⟨_, _, rfl⟩ := newSimple_ok hs
    rfl
  · obtain ⟨_, _, rfl⟩ := newDerived_ok hd
    rfl

/-! ### `OrderedDict(zip(category, unit))` -/

theorem odictSet_fresh (acc : List Entry) (e : Entry) (h : ∀ x ∈ acc, x.cat ≠ e.cat) :
    odictSet acc e = acc ++ [e] := by
  induction acc with
  | nil => rfl
  | cons x rest ih =>
    have hx : x.cat ≠ e.cat := h x (by simp)
    simp only [odictSet, hx, if_false, List.cons_append]
    rw [ih (fun y hy => h y (by simp [hy]))]

theorem foldl_odictSet_nodup (acc es : List Entry) (h : ((acc ++ es).map (·.cat)).Nodup) :
    es.foldl odictSet acc = acc ++ es := by
  induction es generalizing acc with
  | nil => simp
  | cons e rest ih =>
    simp only [List.foldl_cons]
    have hfresh : ∀ x ∈ acc, x.cat ≠ e.cat := by
      intro x hx heq
      rw [List.map_append, List.nodup_append] at h
      exact h.2.2 x.cat (List.mem_map.mpr ⟨x, hx, rfl⟩) e.cat (by simp) heq
    rw [odictSet_fresh acc e hfresh, ih]
    · simp
    · simpa using h

theorem odictOf_nodup (es : List Entry) (h : (es.map (·.cat)).Nodup) : odictOf es = es := by
  have := foldl_odictSet_nodup [] es (by simpa using h)
  simpa [odictOf] using this

theorem zipEntries_spec (cats : List Str) (pairs : List (Str × Int)) (h : cats.length = pairs.length) :
    (zipEntries cats pairs).map (·.cat) = cats ∧ unitPairs (zipEntries cats pairs) = pairs := by
  induction cats generalizing pairs with
  | nil =>
    cases pairs with
    | nil => exact ⟨rfl, rfl⟩
    | cons _ _ => simp at h
  | cons c cs ih =>
    cases pairs with
    | nil => simp at h
    | cons p ps =>
      obtain ⟨h1, h2⟩ := ih ps (by simpa using h)
      simp only [unitPairs] at h2
      simp [zipEntries, unitPairs, h1, h2]

def cats (es : List Entry) : List Str := es.map (·.cat)

theorem cats_cons (e : Entry) (es : List Entry) : cats (e :: es) = e.cat :: cats es := rfl

theorem cats_mergeOne (f : Int → Int → Int) (a : List Entry) (x : Entry) (m : List Entry)
    (h : mergeOne f a x = .ok m) : cats m = if x.cat ∈ cats a then cats a else cats a ++ [x.cat] := by
  induction a generalizing m with
  | nil => cases h; rfl
  | cons e rest ih =>
    unfold mergeOne at h
    split at h
    · next hc =>
      split at h
      · cases h; simp [cats_cons, hc]
      · cases h
    · next hc =>
      split at h
      · cases h
      · next rest' hr =>
        cases h
        have hne : ¬ x.cat = e.cat := fun h' => hc h'.symm
        rw [cats_cons, cats_cons, ih rest' hr]
        by_cases hx : x.cat ∈ cats rest <;> simp [hx, hne]

/-- the loop of `Quantity.__pow__`, which multiplies into its accumulator, peeled at the LAST multiplication -/
theorem qpowLoop_succ (reg : Reg) (q : Quantity) (k : Nat) (r : Quantity) :
    qpowLoop reg q (k + 1) r = match qpowLoop reg q k r with
      | .error err => .error err
      | .ok x => opQ reg .mul q x := by
  have e : ∀ j r, qpowLoop reg q (j + 1) r = match opQ reg .mul q r with
      | .error err => .error err
      | .ok r' => qpowLoop reg q j r' := fun _ _ => rfl
  induction k generalizing r with
  | zero =>
    rw [e]
    show _ = opQ reg .mul q r
    cases opQ reg .mul q r <;> rfl
  | succ k ih =>
    rw [e (k + 1) r, e k r]
    cases opQ reg .mul q r with
    | error err => rfl
    | ok r' => exact ih r'

theorem scaleEntries_cons (n : Int) (e : Entry) (es : List Entry) :
    scaleEntries n (e :: es) = { e with exp := e.exp * n } :: scaleEntries n es := rfl

theorem scaleEntries_one (es : List Entry) : scaleEntries 1 es = es := by
  induction es with
  | nil => rfl
  | cons e rest ih => rw [scaleEntries_cons, ih]; simp

theorem cats_scaleEntries (n : Int) (es : List Entry) : cats (scaleEntries n es) = cats es := by
  induction es with
  | nil => rfl
  | cons e rest ih => rw [scaleEntries_cons, cats_cons, cats_cons, ih]

theorem matchOne_cons_ok {reg : Reg} {used used' : List (Str × Str)} {e : Entry} {es es' : List Entry}
    (h : matchOne reg used (e :: es) = .ok (used', es')) :
    ∃ qt rest', reg.qtypeOf e.cat = .ok qt
      ∧ matchOne reg (if (lookupUsed qt used).isSome then used else (qt, e.unit) :: used) es = .ok (used', rest')
      ∧ es' = { e with unit := (lookupUsed qt used).getD e.unit } :: rest' := by
  unfold matchOne at h
  cases hq : reg.qtypeOf e.cat with
  | error err => simp [hq] at h
  | ok qt =>
    simp only [hq] at h
    cases hl : lookupUsed qt used with
    | none =>
      -- the dict learns `qt ↦ e.unit`, the entry stays
      simp only [hl] at h
      split at h
      · cases h
      · next u' es'' hr => cases h; exact ⟨qt, es'', rfl, by simpa [hl] using hr, by simp [hl]⟩
    | some w =>
      -- the dict stays, the entry takes `w`
      simp only [hl] at h
      split at h
      · cases h
      · next u' es'' hr => cases h; exact ⟨qt, es'', rfl, by simpa [hl] using hr, by simp [hl]⟩

theorem matchOne_scale {reg : Reg} (n : Int) {es es' : List Entry} {used used' : List (Str × Str)}
    (h : matchOne reg used es = .ok (used', es')) :
    matchOne reg used (scaleEntries n es) = .ok (used', scaleEntries n es') := by
  induction es generalizing used es' with
  | nil => cases h; rfl
  | cons e rest ih =>
    obtain ⟨qt, rest', hq, hr, rfl⟩ := matchOne_cons_ok h
    rw [scaleEntries_cons, matchOne]
    simp only [hq]
    cases hl : lookupUsed qt used with
    | none =>
      simp only [hl, Option.isSome, Bool.false_eq_true, if_false] at hr
      simp only [ih hr]
      rfl
    | some w =>
      simp only [hl, Option.isSome, if_true] at hr
      simp only [ih hr]
      rfl

theorem matchOne_mono {reg : Reg} {es es' : List Entry} {used used' : List (Str × Str)}
    (h : matchOne reg used es = .ok (used', es')) {qt w : Str} (hl : lookupUsed qt used = some w) :
    lookupUsed qt used' = some w := by
  induction es generalizing used es' with
  | nil => cases h; exact hl
  | cons e rest ih =>
    obtain ⟨qt0, rest', _, hr, _⟩ := matchOne_cons_ok h
    apply ih hr
    split
    · exact hl
    · next hn =>
      have hne : qt0 ≠ qt := by rintro rfl; simp [hl] at hn
      simp [lookupUsed, hne, hl]

theorem matchOne_settled {reg : Reg} {es es' : List Entry} {used used' : List (Str × Str)}
    (h : matchOne reg used es = .ok (used', es')) :
    ∀ e' ∈ es', ∃ qt, reg.qtypeOf e'.cat = .ok qt ∧ lookupUsed qt used' = some e'.unit := by
  induction es generalizing used es' with
  | nil => cases h; simp
  | cons e rest ih =>
    obtain ⟨qt0, rest', hq, hr, rfl⟩ := matchOne_cons_ok h
    intro e' he'
    rcases List.mem_cons.mp he' with rfl | hmem
    · refine ⟨qt0, hq, matchOne_mono hr ?_⟩
      cases hl : lookupUsed qt0 used <;> simp [lookupUsed, hl]
    · exact ih hr e' hmem

theorem matchOne_fixed (reg : Reg) (U : List (Str × Str)) (es : List Entry)
    (h : ∀ e ∈ es, ∃ qt, reg.qtypeOf e.cat = .ok qt ∧ lookupUsed qt U = some e.unit) :
    matchOne reg U es = .ok (U, es) := by
  induction es with
  | nil => rfl
  | cons e rest ih =>
    obtain ⟨qt, hq, hl⟩ := h e (by simp)
    have := ih (fun e' he' => h e' (by simp [he']))
    unfold matchOne
    simp only [hq, hl, this]

theorem matchOne_idem {reg : Reg} {es es' : List Entry} {used used' : List (Str × Str)}
    (h : matchOne reg used es = .ok (used', es')) : matchOne reg used' es' = .ok (used', es') :=
  matchOne_fixed reg used' es' (matchOne_settled h)

/-! ### powers

`E` is the entry list of a quantity whose units are matched; `q ** n` is built from quantities that carry `E` with
every exponent multiplied by some `m`. -/

theorem mergeOne_hit (f : Int → Int → Int) (pre : List Entry) (x : Entry) (rest : List Entry) (y : Entry)
    (hpre : ∀ p ∈ pre, p.cat ≠ y.cat) (hc : x.cat = y.cat) (hu : x.unit = y.unit) :
    mergeOne f (pre ++ x :: rest) y = .ok (pre ++ { x with exp := f x.exp y.exp } :: rest) := by
  induction pre with
  | nil => simp [mergeOne, hc, hu]
  | cons p ps ih =>
    have hp : p.cat ≠ y.cat := hpre p (by simp)
    have := ih (fun p' hp' => hpre p' (by simp [hp']))
    simp [mergeOne, hp, this]

theorem mergeAll_scaled (a b : Int) (pre suf : List Entry) (h : (cats (pre ++ suf)).Nodup) :
    mergeAll (expOp .mul) (pre ++ scaleEntries a suf) (scaleEntries b suf)
      = .ok (pre ++ scaleEntries (a + b) suf) := by
  induction suf generalizing pre with
  | nil => simp [mergeAll, scaleEntries]
  | cons x rest ih =>
    have hpre : ∀ p ∈ pre, p.cat ≠ x.cat := by
      intro p hp hpc
      have : (cats pre ++ x.cat :: cats rest).Nodup := by simpa [cats] using h
      exact (List.nodup_append.mp this).2.2 p.cat (List.mem_map.mpr ⟨p, hp, rfl⟩) x.cat (by simp) hpc
    rw [scaleEntries_cons, scaleEntries_cons, mergeAll,
      mergeOne_hit (expOp .mul) pre { x with exp := x.exp * a } (scaleEntries a rest) { x with exp := x.exp * b }
        hpre rfl rfl]
    have := ih (pre ++ [{ x with exp := expOp .mul (x.exp * a) (x.exp * b) }]) (by simpa [cats] using h)
    simp only [List.append_assoc, List.singleton_append] at this
    simp only [scaleEntries_cons, Int.mul_add]
    exact this

theorem unitTotal_scale (u : Str) (n : Int) (es : List Entry) :
    unitTotal u (scaleEntries n es) = unitTotal u es * n := by
  induction es with
  | nil => simp [unitTotal, scaleEntries]
  | cons e rest ih =>
    rw [scaleEntries_cons, unitTotal, unitTotal, ih, Int.add_mul]
    by_cases hu : e.unit = u <;> simp [hu]

theorem dropZero_scale (n : Int) (hn : n ≠ 0) (es : List Entry)
    (hkeep : ∀ e ∈ es, e.exp ≠ 0 ∧ unitTotal e.unit es ≠ 0) :
    dropZero (scaleEntries n es) = scaleEntries n es := by
  unfold dropZero
  rw [List.filter_eq_self]
  intro e he
  obtain ⟨e0, he0, rfl⟩ := List.mem_map.mp he
  obtain ⟨h1, h2⟩ := hkeep e0 he0
  simp [keepEntry, unitTotal_scale e0.unit n es, Int.mul_eq_zero, h1, h2, hn]

theorem obtainFromDict_scaled (reg : Reg) (n : Int) (hn : 2 ≤ n) (es : List Entry) :
    obtainFromDict reg (scaleEntries n es) = newDerived reg (scaleEntries n es) := by
  cases es with
  | nil => rfl
  | cons e rest =>
    cases rest with
    | nil =>
      have hne : e.exp * n ≠ 1 := fun h => by
        have h2 := congrArg Int.natAbs h
        rw [Int.natAbs_mul] at h2
        have := Nat.eq_one_of_mul_eq_one_left h2
        omega
      simp only [scaleEntries, List.map_cons, List.map_nil, obtainFromDict]
      rw [if_neg hne]
    | cons e2 rest2 => rfl

theorem typePairs_isOk {reg : Reg} : ∀ {es : List Entry}, (∀ e ∈ es, ∃ qt, reg.qtypeOf e.cat = .ok qt) →
    ∃ tps, typePairs reg es = .ok tps
  | [], _ => ⟨[], rfl⟩
  | e :: rest, h => by
    obtain ⟨qt, hq⟩ := h e (by simp)
    obtain ⟨tps, ht⟩ := typePairs_isOk (es := rest) (fun e' he' => h e' (by simp [he']))
    exact ⟨(qt, e.exp) :: tps, by simp only [typePairs, hq, ht]⟩

section
variable {reg : Reg} {E : List Entry} {used : List (Str × Str)} (hm : matchOne reg [] E = .ok (used, E))
include hm

theorem newDerived_scaled_ok (n : Int) : ∃ r, newDerived reg (scaleEntries n E) = .ok r := by
  obtain ⟨tps, ht⟩ := typePairs_isOk (reg := reg) (es := scaleEntries n E) (by
    intro e he
    obtain ⟨e0, he0, rfl⟩ := List.mem_map.mp he
    obtain ⟨qt, hq, _⟩ := matchOne_settled hm e0 he0
    exact ⟨qt, hq⟩)
  unfold newDerived
  rw [ht]
  exact ⟨_, rfl⟩

/-- both power loops: `step` multiplies by the quantity itself, on either side; after `k + 1` steps from the `m`-th
power the loop holds the `(m + k + 1)`-th -/
theorem powLoop_scaled {loop : Nat → Quantity → Except ErrKind Quantity} {step : Quantity → Except ErrKind Quantity}
    (h0 : ∀ r, loop 0 r = .ok r)
    (hS : ∀ k r, loop (k + 1) r = match step r with | .error err => .error err | .ok r' => loop k r')
    (hstep : ∀ r m, 1 ≤ m → r.entries = scaleEntries m E → step r = newDerived reg (scaleEntries (m + 1) E))
    (k : Nat) (r : Quantity) (m : Int) (hm1 : 1 ≤ m) (hr : r.entries = scaleEntries m E) :
    loop (k + 1) r = newDerived reg (scaleEntries (m + k + 1) E) := by
  induction k generalizing r m with
  | zero =>
    rw [hS, hstep r m hm1 hr, Int.natCast_zero, Int.add_zero]
    cases newDerived reg (scaleEntries (m + 1) E) <;> simp only [h0]
  | succ k ih =>
    obtain ⟨r1, hr1⟩ := newDerived_scaled_ok hm (m + 1)
    rw [hS, hstep r m hm1 hr, hr1]
    obtain ⟨_, _, he⟩ := newDerived_ok hr1
    have := ih r1 (m + 1) (by omega) (he ▸ rfl)
    simp only [this]
    congr 2
    omega

variable (hnd : (cats E).Nodup) (hkeep : ∀ e ∈ E, e.exp ≠ 0 ∧ unitTotal e.unit E ≠ 0)
include hnd hkeep

theorem opQ_scaled {x y : Quantity} {a b : Int} (hx : x.entries = scaleEntries a E)
    (hy : y.entries = scaleEntries b E) (hab : 2 ≤ a + b) :
    opQ reg .mul x y = newDerived reg (scaleEntries (a + b) E) := by
  have h1 := mergeAll_scaled a b [] E hnd
  simp only [List.nil_append] at h1
  simp only [opQ, opEntries, matchEntries, hx, hy, matchOne_scale a hm, matchOne_scale b (matchOne_idem hm), h1,
    dropZero_scale (a + b) (by omega) _ hkeep]
  exact obtainFromDict_scaled reg (a + b) hab _

end

theorem pow_scaled {reg : Reg} {q : Quantity} {used : List (Str × Str)} {n : Int} (hn : 2 ≤ n)
    (hm : matchOne reg [] q.entries = .ok (used, q.entries))
    (hnd : (q.entries.map (·.cat)).Nodup)
    (hkeep : ∀ e ∈ q.entries, e.exp ≠ 0 ∧ unitTotal e.unit q.entries ≠ 0) :
    qpow reg q n = newDerived reg (scaleEntries n q.entries)
    ∧ spow reg q n = newDerived reg (scaleEntries n q.entries) := by
  obtain ⟨k, hk⟩ : ∃ k : Nat, (n - 1).toNat = k + 1 := ⟨(n - 1).toNat - 1, by omega⟩
  have hn' : (1 : Int) + (k : Int) + 1 = n := by omega
  have h1 := (scaleEntries_one q.entries).symm
  unfold qpow spow
  rw [hk, ← hn']
  constructor
  · exact powLoop_scaled hm (fun _ => rfl) (fun _ _ => rfl)
      (fun r m hm1 hr => Int.add_comm 1 m ▸ opQ_scaled hm hnd hkeep h1 hr (by omega)) k q 1 (by omega) h1
  · exact powLoop_scaled hm (fun _ => rfl) (fun _ _ => rfl)
      (fun r m hm1 hr => opQ_scaled hm hnd hkeep hr h1 (by omega)) k q 1 (by omega) h1

end Barril.Str
