/-
For the examples of `Props/C12Examples.lean` only.  It imports `Props/C12` for the definitions of its `Example` block
(`reg0`, `reg1`, `check`, `checkMinOnly`, `checkArr`) and for nothing else.

Each of these is restated over any database `D` equal to the shipped one, for variable arguments; an example
instantiates `D` by `Gen.nocatDb_flat` (the unit table appended to the right) and evaluates the right-hand side.
-/
import Barril.Props.C12
import Barril.Gen.ThmFlat

namespace Barril.Valid.Example

def regOn (D : Db) (cats : List CatInfo) : Reg := ⟨D.units, D.legacy, cats⟩

theorem reg0_on {D : Db} (h : Gen.nocatDb = D) : reg0 = regOn D [] := by
  subst h; rfl

theorem reg1_on {D : Db} (h : Gen.nocatDb = D) : reg1 = regOn D [cat, catMin] := by
  subst h; rfl

theorem check_on {D : Db} (h : Gen.nocatDb = D) (u : Sym) (v : Val) :
    check u v =
      match mkQuant (regOn D [cat, catMin]) (Sym.ofString "depth") u with
      | .ok q => some (answer (checkValue (regOn D [cat, catMin]) q v))
      | .error _ => none := by
  subst h; rfl

theorem checkMinOnly_on {D : Db} (h : Gen.nocatDb = D) (u : Sym) (v : Val) :
    checkMinOnly u v =
      match mkQuant (regOn D [cat, catMin]) (Sym.ofString "thickness") u with
      | .ok q => some (answer (checkValue (regOn D [cat, catMin]) q v))
      | .error _ => none := by
  subst h; rfl

theorem checkArr_on {D : Db} (h : Gen.nocatDb = D) (u : Sym) (vs : List Val) :
    checkArr u vs =
      match mkQuant (regOn D [cat, catMin]) (Sym.ofString "depth") u with
      | .ok q => some (answer (doValidate (regOn D [cat, catMin]) q (.flat .list vs)))
      | .error _ => none := by
  subst h; rfl

end Barril.Valid.Example
