/-
Helper lemmas for C13: what a `Frame` step preserves (lookups, snapshots) and how the read-only parts of the model
evaluate on a state whose snapshots are known.  At the end, what the examples of `Props/C13Examples.lean` are stated
with: a three-unit database (`exDb`, `exDbLim`) and the outputs of a history (`outputs`, `outIs`, `errIs`).
-/
import Barril.Proofs.HeapLemmas

namespace Barril.Heap

theorem getElem?_append_some {α : Type} {l t : List α} {i : Nat} {a : α} (h : l[i]? = some a) :
    (l ++ t)[i]? = some a := by
  rw [List.getElem?_append_left (List.getElem?_eq_some_iff.mp h).1]; exact h

theorem Frame.cell {s s' : St} (h : Frame s.heap.length s s') {r : Nat} {c : Cell} (hc : s.heap[r]? = some c) :
    s'.heap[r]? = some c := by
  rw [h.cells r (List.getElem?_eq_some_iff.mp hc).1]; exact hc

theorem Frame.quant {n : Nat} {s s' : St} (h : Frame n s s') {q : Nat} {o : QObj} (hq : s.quants[q]? = some o) :
    s'.quants[q]? = some o := by
  obtain ⟨t, ht⟩ := h.quants
  rw [ht]; exact getElem?_append_some hq

theorem Frame.obj {n : Nat} {s s' : St} (h : Frame n s s') {i : Nat} {o : Obj} (hi : s.objs[i]? = some o) :
    s'.objs[i]? = some o := by
  obtain ⟨t, ht⟩ := h.objs
  rw [ht]; exact getElem?_append_some hi

theorem itemsOf_cons {h : List Cell} {c : Sym} {r : Ref} {es : List (Sym × Ref)} {l : List (Sym × Sym × Int)} :
    itemsOf h ((c, r) :: es) = some l ↔
      ∃ u e rest, h[r]? = some (.pair u e) ∧ itemsOf h es = some rest ∧ (c, u, e) :: rest = l := by
  simp only [itemsOf]
  split
  · rename_i u e rest hr hi
    refine ⟨fun h => ⟨u, e, rest, hr, hi, Option.some.inj h⟩, fun ⟨u', e', rest', h1, h2, h3⟩ => ?_⟩
    rw [hr] at h1; rw [hi] at h2; cases h1; cases h2; rw [h3]
  · rename_i hne
    exact ⟨fun h => (by cases h), fun ⟨u, e, rest, h1, h2, _⟩ => (hne u e rest h1 h2).elim⟩

theorem itemsOf_mono {h h' : List Cell} (hc : ∀ (r : Nat) (c : Cell), h[r]? = some c → h'[r]? = some c) (es : List (Sym × Ref))
    {l : List (Sym × Sym × Int)} (hl : itemsOf h es = some l) : itemsOf h' es = some l := by
  induction es generalizing l with
  | nil => exact hl
  | cons e es ih =>
    obtain ⟨u, x, rest, hr, hrest, hl⟩ := itemsOf_cons.mp hl
    exact itemsOf_cons.mpr ⟨u, x, rest, hc _ _ hr, ih hrest, hl⟩

theorem qsnap_iff {s : St} {q : Nat} {qs : QSnap} : qsnap s q = some qs ↔
    ∃ o, s.quants[q]? = some o ∧ itemsOf s.heap o.entries = some qs.items ∧ o.caption = qs.caption ∧
      o.derived = qs.derived ∧ o.comp = qs.comp := by
  unfold qsnap
  cases s.quants[q]? with
  | none => simp
  | some o =>
    simp only [Option.some.injEq, exists_eq_left']
    cases itemsOf s.heap o.entries with
    | none => simp
    | some items => obtain ⟨i, c, d, p⟩ := qs; simp

theorem qsnap_stable {s s' : St} (h : Frame s.heap.length s s') {q : Nat} {qs : QSnap} (hq : qsnap s q = some qs) :
    qsnap s' q = some qs := by
  obtain ⟨o, ho, hi, rest⟩ := qsnap_iff.mp hq
  exact qsnap_iff.mpr ⟨o, h.quant ho, itemsOf_mono (fun _ _ => h.cell) _ hi, rest⟩

def SnapFacts (s : St) (i : Nat) : Snap → Prop
  | .scalar qs v => ∃ q, s.objs[i]? = some (.scalar q v) ∧ qsnap s q = some qs
  | .array qs c k xs => ∃ q, s.objs[i]? = some (.array q c) ∧ qsnap s q = some qs ∧ s.heap[c]? = some (.seq k xs)
  | .fixed d qs c k xs =>
    ∃ q, s.objs[i]? = some (.fixed d q c) ∧ qsnap s q = some qs ∧ s.heap[c]? = some (.seq k xs)
  | .fscalar qs v n f x =>
    ∃ q, s.objs[i]? = some (.fscalar q v) ∧ qsnap s q = some qs ∧ s.heap[v]? = some (.fv n f) ∧
      s.heap[f]? = some (.frac x)

theorem snap_inv {s : St} {i : Nat} {a : Snap} (h : snap s i = some a) : SnapFacts s i a := by
  unfold snap at h
  split at h
  · cases h
  · rename_i q v ho
    obtain ⟨qs, hq, rfl⟩ := Option.map_eq_some_iff.mp h
    exact ⟨q, ho, hq⟩
  · rename_i q c ho
    split at h <;> cases h
    rename_i hq hc
    exact ⟨q, ho, hq, hc⟩
  · rename_i d q c ho
    split at h <;> cases h
    rename_i hq hc
    exact ⟨q, ho, hq, hc⟩
  · rename_i q v ho
    split at h
    · rename_i hq hv
      split at h <;> cases h
      rename_i hf
      exact ⟨q, ho, hq, hv, hf⟩
    · cases h

theorem snap_of_facts {s : St} {i : Nat} {a : Snap} (h : SnapFacts s i a) : snap s i = some a := by
  unfold snap
  cases a with
  | scalar qs v => obtain ⟨q, ho, hq⟩ := h; rw [ho]; simp only [hq, Option.map_some]
  | array qs c k xs => obtain ⟨q, ho, hq, hc⟩ := h; rw [ho]; simp only [hq, hc]
  | fixed d qs c k xs => obtain ⟨q, ho, hq, hc⟩ := h; rw [ho]; simp only [hq, hc]
  | fscalar qs v n f x => obtain ⟨q, ho, hq, hv, hf⟩ := h; rw [ho]; simp only [hq, hv, hf]

theorem snap_stable {s s' : St} (h : Frame s.heap.length s s') {i : Nat} {v : Snap} (hv : snap s i = some v) :
    snap s' i = some v := by
  have f := snap_inv hv
  apply snap_of_facts
  cases v with
  | scalar qs x => obtain ⟨q, ho, hq⟩ := f; exact ⟨q, h.obj ho, qsnap_stable h hq⟩
  | array qs c k xs => obtain ⟨q, ho, hq, hc⟩ := f; exact ⟨q, h.obj ho, qsnap_stable h hq, h.cell hc⟩
  | fixed d qs c k xs => obtain ⟨q, ho, hq, hc⟩ := f; exact ⟨q, h.obj ho, qsnap_stable h hq, h.cell hc⟩
  | fscalar qs c n r x =>
    obtain ⟨q, ho, hq, hc, hf⟩ := f; exact ⟨q, h.obj ho, qsnap_stable h hq, h.cell hc, h.cell hf⟩

theorem getObj_of {s : St} {i : Nat} {o : Obj} (h : s.objs[i]? = some o) : getObj i s = .ok (o, s) := by
  unfold getObj; rw [h]

theorem getQ_of {s : St} {q : Nat} {o : QObj} (h : s.quants[q]? = some o) : getQ q s = .ok (o, s) := by
  unfold getQ; rw [h]

theorem readM_of {s : St} {r : Ref} {c : Cell} (h : s.heap[r]? = some c) : readM r s = .ok (c, s) := by
  unfold readM; rw [h]

theorem readSeq_of {s : St} {r : Ref} {k : Kind} {xs : List Rat} (h : s.heap[r]? = some (.seq k xs)) :
    readSeq r s = .ok ((k, xs), s) := by
  unfold readSeq; rw [bind_eval, readM_of h]; rfl

theorem readPair_of {s : St} {r : Ref} {u : Sym} {e : Int} (h : s.heap[r]? = some (.pair u e)) :
    readPair r s = .ok ((u, e), s) := by
  unfold readPair; rw [bind_eval, readM_of h]; rfl

theorem readFv_of {s : St} {r : Ref} {n : Rat} {f : Ref} (h : s.heap[r]? = some (.fv n f)) :
    readFv r s = .ok ((n, f), s) := by
  unfold readFv; rw [bind_eval, readM_of h]; rfl

theorem readFrac_of {s : St} {r : Ref} {x : Rat} (h : s.heap[r]? = some (.frac x)) :
    readFrac r s = .ok (x, s) := by
  unfold readFrac; rw [bind_eval, readM_of h]; rfl

theorem readItems_of {s : St} (es : List (Sym × Ref)) {l : List (Sym × Sym × Int)}
    (h : itemsOf s.heap es = some l) : readItems es s = .ok (l, s) := by
  induction es generalizing l with
  | nil => cases h; rfl
  | cons e es ih =>
    obtain ⟨u, x, rest, hr, hrest, rfl⟩ := itemsOf_cons.mp h
    unfold readItems
    rw [bind_eval, readPair_of hr]
    simp only
    rw [bind_eval, ih hrest]
    rfl

theorem readM_inv {s s' : St} {r : Ref} {c : Cell} (h : readM r s = .ok (c, s')) : s' = s ∧ s.heap[r]? = some c := by
  unfold readM at h
  split at h <;> cases h
  exact ⟨rfl, by assumption⟩

theorem readSeq_inv {s s' : St} {r : Ref} {p : Kind × List Rat} (h : readSeq r s = .ok (p, s')) :
    s' = s ∧ s.heap[r]? = some (.seq p.1 p.2) := by
  unfold readSeq at h
  obtain ⟨c, s1, h1, h⟩ := bind_ok h
  obtain ⟨rfl, hc⟩ := readM_inv h1
  cases c <;> cases h
  exact ⟨rfl, hc⟩

theorem readPair_inv {s s' : St} {r : Ref} {p : Sym × Int} (h : readPair r s = .ok (p, s')) :
    s' = s ∧ s.heap[r]? = some (.pair p.1 p.2) := by
  unfold readPair at h
  obtain ⟨c, s1, h1, h⟩ := bind_ok h
  obtain ⟨rfl, hc⟩ := readM_inv h1
  cases c <;> cases h
  exact ⟨rfl, hc⟩

theorem readItems_inv (es : List (Sym × Ref)) {s s' : St} {items : List (Sym × Sym × Int)}
    (h : readItems es s = .ok (items, s')) : s' = s ∧ itemsOf s.heap es = some items := by
  induction es generalizing items s' with
  | nil => cases h; exact ⟨rfl, rfl⟩
  | cons e es ih =>
    unfold readItems at h
    obtain ⟨p, s1, h1, h2⟩ := bind_ok h
    obtain ⟨rfl, hp⟩ := readPair_inv h1
    obtain ⟨rest, s3, h3, h4⟩ := bind_ok h2
    obtain ⟨rfl, hrest⟩ := ih h3
    cases h4
    exact ⟨rfl, itemsOf_cons.mpr ⟨_, _, _, hp, hrest, rfl⟩⟩

/-- `Quantity.__eq__` on two quantities whose dicts and captions are known -/
theorem qEq_of {s : St} {a b : Nat} {qa qb : QSnap} (ha : qsnap s a = some qa) (hb : qsnap s b = some qb) :
    qEq a b s = .ok (qa.items == qb.items && qa.caption == qb.caption, s) := by
  obtain ⟨oa, hoa, hia, hca, _, _⟩ := qsnap_iff.mp ha
  obtain ⟨ob, hob, hib, hcb, _, _⟩ := qsnap_iff.mp hb
  simp only [qEq, bind_eval, pure_eval, getQ_of hoa, getQ_of hob, readItems_of _ hia, readItems_of _ hib, hca, hcb]

theorem objEq_scalar {s : St} {i j q1 q2 : Nat} {x y : Rat} {e : Bool} (hi : s.objs[i]? = some (.scalar q1 x))
    (hj : s.objs[j]? = some (.scalar q2 y)) (he : qEq q1 q2 s = .ok (e, s)) :
    objEq i j s = .ok (x == y && e, s) := by
  unfold objEq
  rw [bind_of_ok (getObj_of hi), bind_of_ok (getObj_of hj)]
  simp only [bind_eval, pure_eval, he]

theorem objEq_array {s : St} {i j q1 q2 : Nat} {c1 c2 : Ref} {k1 k2 : Kind} {xs1 xs2 : List Rat} {e : Bool}
    {o1 o2 : QObj} (hi : s.objs[i]? = some (.array q1 c1)) (hj : s.objs[j]? = some (.array q2 c2))
    (hc1 : s.heap[c1]? = some (.seq k1 xs1)) (hc2 : s.heap[c2]? = some (.seq k2 xs2))
    (he : qEq q1 q2 s = .ok (e, s)) (ho1 : s.quants[q1]? = some o1) (ho2 : s.quants[q2]? = some o2) :
    objEq i j s =
      .ok (xs1 == xs2 && e && unitOfComp o1.derived o1.comp == unitOfComp o2.derived o2.comp, s) := by
  unfold objEq
  rw [bind_of_ok (getObj_of hi), bind_of_ok (getObj_of hj)]
  simp only [bind_eval, pure_eval, readSeq_of hc1, readSeq_of hc2, he, getQ_of ho1, getQ_of ho2]

theorem objEq_fixed {s : St} {i j d1 d2 q1 q2 : Nat} {c1 c2 : Ref} {k1 k2 : Kind} {xs1 xs2 : List Rat} {e : Bool}
    {o1 o2 : QObj} (hi : s.objs[i]? = some (.fixed d1 q1 c1)) (hj : s.objs[j]? = some (.fixed d2 q2 c2))
    (hc1 : s.heap[c1]? = some (.seq k1 xs1)) (hc2 : s.heap[c2]? = some (.seq k2 xs2))
    (he : qEq q1 q2 s = .ok (e, s)) (ho1 : s.quants[q1]? = some o1) (ho2 : s.quants[q2]? = some o2) :
    objEq i j s =
      .ok (xs1 == xs2 && e && unitOfComp o1.derived o1.comp == unitOfComp o2.derived o2.comp && d1 == d2, s) := by
  unfold objEq
  rw [bind_of_ok (getObj_of hi), bind_of_ok (getObj_of hj)]
  simp only [bind_eval, pure_eval, readSeq_of hc1, readSeq_of hc2, he, getQ_of ho1, getQ_of ho2]

/-- two FixedArrays with the same dimension, quantity snapshot and contents compare equal, whether or not they share
the container -/
theorem objEq_fixed_same {s : St} {i j d : Nat} {qs : QSnap} {c c' : Ref} {k : Kind} {xs : List Rat}
    (hi : snap s i = some (.fixed d qs c k xs)) (hj : snap s j = some (.fixed d qs c' k xs)) :
    objEq i j s = .ok (true, s) := by
  obtain ⟨q1, ho1, hq1, hc1⟩ := snap_inv hi
  obtain ⟨q2, ho2, hq2, hc2⟩ := snap_inv hj
  obtain ⟨o1, hoq1, _, _, hd1, hp1⟩ := qsnap_iff.mp hq1
  obtain ⟨o2, hoq2, _, _, hd2, hp2⟩ := qsnap_iff.mp hq2
  rw [objEq_fixed ho1 ho2 hc1 hc2 (qEq_of hq1 hq2) hoq1 hoq2]
  simp [hd1, hd2, hp1, hp2]

/-- two pool members with the same snapshot compare equal (`__eq__` of all four classes) -/
theorem objEq_of_same_snap {s : St} {i j : Nat} {a : Snap} (hi : snap s i = some a) (hj : snap s j = some a) :
    objEq i j s = .ok (true, s) := by
  cases a with
  | scalar qs v =>
    obtain ⟨q1, ho1, hq1⟩ := snap_inv hi
    obtain ⟨q2, ho2, hq2⟩ := snap_inv hj
    rw [objEq_scalar ho1 ho2 (qEq_of hq1 hq2)]
    simp
  | array qs c k xs =>
    obtain ⟨q1, ho1, hq1, hc⟩ := snap_inv hi
    obtain ⟨q2, ho2, hq2, _⟩ := snap_inv hj
    obtain ⟨o1, hoq1, _, _, hd1, hp1⟩ := qsnap_iff.mp hq1
    obtain ⟨o2, hoq2, _, _, hd2, hp2⟩ := qsnap_iff.mp hq2
    rw [objEq_array ho1 ho2 hc hc (qEq_of hq1 hq2) hoq1 hoq2]
    simp [hd1, hd2, hp1, hp2]
  | fixed d qs c k xs => exact objEq_fixed_same hi hj
  | fscalar qs v n f x =>
    obtain ⟨q1, ho1, hq1, hv1, hf1⟩ := snap_inv hi
    obtain ⟨q2, ho2, hq2, _, _⟩ := snap_inv hj
    unfold objEq
    rw [bind_of_ok (getObj_of ho1), bind_of_ok (getObj_of ho2)]
    simp only [bind_eval, pure_eval, readFv_of hv1, readFrac_of hf1, qEq_of hq1 hq2]
    simp

theorem qsnap_congr {s s' : St} (hh : s'.heap = s.heap) (hq : s'.quants = s.quants) (q : Nat) :
    qsnap s' q = qsnap s q := by
  unfold qsnap; rw [hh, hq]

theorem snap_congr {s s' : St} (hh : s'.heap = s.heap) (hq : s'.quants = s.quants) {i j : Nat}
    (ho : s'.objs[j]? = s.objs[i]?) : snap s' j = snap s i := by
  unfold snap
  rw [ho]
  cases s.objs[i]? with
  | none => rfl
  | some o => cases o <;> simp only [qsnap_congr hh hq, hh]

theorem exec_createCopy (db : Db) (i : Nat) (u c : Option Sym) :
    exec db (.createCopy i u c) = fresh (createCopy db i u c) := rfl

theorem exec_pickle (db : Db) (i : Nat) : exec db (.pickle i) = fresh (pickleObj db i) := rfl

theorem exec_copy (db : Db) (i : Nat) :
    exec db (.copy i) = (do let _ ← getObj i; pure (.obj i false)) := rfl

/-- the dimension check of `FixedArray.__init__`, when it passes -/
theorem fixedCheck_ok {s s' : St} {d n j : Nat} {o : Obj}
    (h : (if d < 2 then failM .value else if n ≠ d then failM .value else newObj o) s = .ok (j, s')) :
    j = s.objs.length ∧ s' = { s with objs := s.objs ++ [o] } := by
  split at h
  · cases h
  · split at h <;> cases h
    exact ⟨rfl, rfl⟩

/-- `CreateCopy()` (no unit, no category): the new object refers to the SAME quantity and the SAME
container / FractionValue / number as the original; nothing else changes -/
theorem createCopy_plain {db : Db} {s s' : St} {i : Nat} {out : Out} {a : Snap} (ha : snap s i = some a)
    (h : exec db (.createCopy i none none) s = .ok (out, s')) :
    ∃ o, s.objs[i]? = some o ∧ out = .obj s.objs.length true ∧ s' = { s with objs := s.objs ++ [o] } := by
  have f := snap_inv ha
  rw [exec_createCopy] at h
  unfold fresh at h
  obtain ⟨j, s1, h1, h2⟩ := bind_ok h
  cases h2
  unfold createCopy at h1
  cases a with
  | scalar qs v =>
    obtain ⟨q, ho, hq⟩ := f
    rw [bind_of_ok (getObj_of ho)] at h1
    cases h1
    exact ⟨_, ho, rfl, rfl⟩
  | array qs c k xs =>
    obtain ⟨q, ho, hq, hc⟩ := f
    obtain ⟨oq, hoq, _⟩ := qsnap_iff.mp hq
    rw [bind_of_ok (getObj_of ho)] at h1
    simp only [arrayValues, copyQuantity, bind_eval, pure_eval, getQ_of hoq] at h1
    cases h1
    exact ⟨_, ho, rfl, rfl⟩
  | fixed d qs c k xs =>
    obtain ⟨q, ho, hq, hc⟩ := f
    obtain ⟨oq, hoq, _⟩ := qsnap_iff.mp hq
    rw [bind_of_ok (getObj_of ho)] at h1
    simp only [arrayValues, copyQuantity, mkFixedWith, bind_eval, pure_eval, getQ_of hoq, readSeq_of hc] at h1
    obtain ⟨rfl, rfl⟩ := fixedCheck_ok h1
    exact ⟨_, ho, rfl, rfl⟩
  | fscalar qs v n f x =>
    obtain ⟨q, ho, hq, hv, hf⟩ := f
    rw [bind_of_ok (getObj_of ho)] at h1
    cases h1
    exact ⟨_, ho, rfl, rfl⟩

/-- unpickling a Scalar: `Scalar(quantity', value, None)` with the SAME number and the re-obtained quantity -/
theorem pickle_scalar_parts {db : Db} {s s' : St} {i q : Nat} {x : Rat} {out : Out}
    (ho : s.objs[i]? = some (.scalar q x)) (h : exec db (.pickle i) s = .ok (out, s')) :
    ∃ q' s1, pickleQuantity db q s = .ok (q', s1) ∧ out = .obj s1.objs.length true ∧
      s' = { s1 with objs := s1.objs ++ [.scalar q' x] } := by
  rw [exec_pickle] at h
  unfold fresh at h
  obtain ⟨j, s2, h1, h2⟩ := bind_ok h
  cases h2
  unfold pickleObj at h1
  rw [bind_of_ok (getObj_of ho)] at h1
  obtain ⟨q', s1, hp, h3⟩ := bind_ok h1
  cases h3
  exact ⟨q', s1, hp, rfl, rfl⟩

/-- unpickling a FixedArray: same dimension, a NEW container of the same kind with the same contents, the
re-obtained quantity -/
theorem pickle_fixed_parts {db : Db} {s s' : St} {i d q : Nat} {c : Ref} {out : Out}
    (ho : s.objs[i]? = some (.fixed d q c)) (h : exec db (.pickle i) s = .ok (out, s')) :
    ∃ q' s1 k xs, pickleQuantity db q s = .ok (q', s1) ∧ s1.heap[c]? = some (.seq k xs) ∧
      out = .obj s1.objs.length true ∧
      s' = { s1 with heap := s1.heap ++ [.seq k xs], objs := s1.objs ++ [.fixed d q' s1.heap.length] } := by
  rw [exec_pickle] at h
  unfold fresh at h
  obtain ⟨j, s2, h1, h2⟩ := bind_ok h
  cases h2
  unfold pickleObj at h1
  rw [bind_of_ok (getObj_of ho)] at h1
  obtain ⟨q', s1, hp, h3⟩ := bind_ok h1
  obtain ⟨kx, s3, hr, h4⟩ := bind_ok h3
  obtain ⟨rfl, hc⟩ := readSeq_inv hr
  obtain ⟨c', s4, ha, h5⟩ := bind_ok h4
  cases ha
  obtain ⟨rfl, rfl⟩ := fixedCheck_ok h5
  exact ⟨q', _, kx.1, kx.2, hp, hc, rfl, rfl⟩

def exLength : Sym := 114849160783212   -- "length"
def exTime : Sym := 1701669236          -- "time"
def exM : Sym := 109                    -- "m"
def exCm : Sym := 28003                 -- "cm"
def exS : Sym := 115                    -- "s"
def exCap : Sym := 7364963              -- "cap"

def exRow (qt sym : Sym) (toB fromB : Mob) : UnitRow :=
  { qtype := qt, name := sym, sym := sym, ok := true, toBase := toB, fromBase := fromB, hasConvTo := true,
    hasConvFrom := true, annTo := none, annFrom := none, defaultCat := qt, digits := 0 }

def exCat (c qt u : Sym) : CatRow :=
  { name := c, qtype := qt, validUnits := none, defaultUnit := u, defaultValue := 0, minV := none, maxV := none,
    minExcl := false, maxExcl := false, caption := c }

/-- length: m (base), cm; time: s -/
def exDb : Db :=
  { units := [exRow exLength exM Mob.ident Mob.ident, exRow exLength exCm ⟨0, 1 / 100, 1, 0⟩ ⟨0, 100, 1, 0⟩,
              exRow exTime exS Mob.ident Mob.ident],
    cats := [exCat exLength exLength exM, exCat exTime exTime exS] }

def errIs (r : Option (Except ErrKind Out)) (e : ErrKind) : Bool :=
  match r with
  | some (.error x) => x == e
  | _ => false

def exLim : Sym := 7170412              -- "lim": a length category with limits 0 ≤ x ≤ 100 m

/-- `exDb` plus a category with limits -/
def exDbLim : Db :=
  { exDb with cats := exDb.cats ++ [{ exCat exLim exLength exM with minV := some 0, maxV := some 100 }] }

def outputs (db : Db) (s : St) : List Op → List (Except ErrKind Out)
  | [] => []
  | op :: ops => (step db s op).2 :: outputs db (step db s op).1 ops

def outIs (r : Option (Except ErrKind Out)) (o : Out) : Bool :=
  match r with
  | some (.ok x) => x == o
  | _ => false

end Barril.Heap
