/-
Helper lemmas for C04 (reported quantity type, `Barril/Model/AlgType.lean`): the exponent `rep_and_exp` holds for a
quantity type is the `dim` of AlgLemmas; its keys are distinct.
-/
import Barril.Proofs.AlgLemmas

namespace Barril.Alg
open Barril

theorem typeExpsFrom_expOf {db : Db} (qt : Sym) : ∀ (es : List Entry) (acc l : List (Sym × Int)),
    typeExpsFrom db acc es = .ok l → expOf qt l = expOf qt acc + dim db qt es
  | [], acc, l, h => by cases h; simp [dim]
  | e :: rest, acc, l, h => by
    simp only [typeExpsFrom, catQType] at h
    cases hc : db.catByName e.cat with
    | none => rw [hc] at h; cases h
    | some ci =>
      rw [hc] at h
      rw [typeExpsFrom_expOf qt rest _ l h, expOf_addJoined]
      simp only [dim, hasType, hc]
      omega

theorem typeExpsFrom_keysNodup {db : Db} : ∀ (es : List Entry) (acc l : List (Sym × Int)),
    KeysNodup acc → typeExpsFrom db acc es = .ok l → KeysNodup l
  | [], acc, l, ha, h => by cases h; exact ha
  | e :: rest, acc, l, ha, h => by
    simp only [typeExpsFrom] at h
    split at h
    · cases h
    · exact typeExpsFrom_keysNodup rest _ l (keysNodup_addJoined _ _ _ ha) h

end Barril.Alg
