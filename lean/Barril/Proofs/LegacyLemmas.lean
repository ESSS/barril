/-
Helper lemmas for C16 (legacy spellings): symbol codes, the rewrite on strings without legacy
fragments, lookups in a database with unique symbols, and `GetInfo` on a legacy spelling.
-/
import Barril.Model.LegacyApi
import Barril.Proofs.ConvLemmas
import Barril.Proofs.ConvBasics

namespace Barril

theorem symBytesFuel_ofBytes : ∀ (fuel n : Nat), n ≤ fuel → Sym.ofBytes (symBytesFuel fuel n) = n
  | 0, n, h => by
    have : n = 0 := by omega
    subst this; simp [symBytesFuel, Sym.ofBytes]
  | fuel + 1, n, h => by
    unfold symBytesFuel
    split
    · next h0 => simp [Sym.ofBytes, h0]
    · next h0 =>
      have hle : n / 256 ≤ fuel := by
        have : n / 256 < n := Nat.div_lt_self (Nat.pos_of_ne_zero h0) (by decide)
        omega
      simp only [Sym.ofBytes]
      rw [symBytesFuel_ofBytes fuel (n / 256) hle]
      exact Nat.mod_add_div n 256

theorem Sym.ofBytes_bytes (n : Sym) : Sym.ofBytes (Sym.bytes n) = n :=
  symBytesFuel_ofBytes n n (Nat.le_refl _)

/-! ### `FixUnitIfIsLegacy` on strings without legacy fragments -/

theorem isLegacy_eq_false_iff {L : List (Sym × Sym)} {u : Sym} :
    isLegacy L u = false ↔ fixLegacy L u = u := by
  simp [isLegacy]

theorem isLegacy_eq_true_iff {L : List (Sym × Sym)} {u : Sym} :
    isLegacy L u = true ↔ fixLegacy L u ≠ u := by
  simp [isLegacy]

theorem replaceAllFuel_of_not_contains (pat rep : List Nat) :
    ∀ (fuel : Nat) (s : List Nat), containsB s pat = false → replaceAllFuel fuel s pat rep = s
  | 0, s, _ => by cases s <;> simp [replaceAllFuel]
  | f + 1, [], _ => by simp [replaceAllFuel]
  | f + 1, c :: cs, h => by
    simp only [containsB, Bool.or_eq_false_iff] at h
    simp only [replaceAllFuel, h.1, Bool.false_eq_true, ↓reduceIte]
    rw [replaceAllFuel_of_not_contains pat rep f cs h.2]

theorem replaceAll_of_not_contains {s pat rep : List Nat} (h : containsB s pat = false) :
    replaceAll s pat rep = s := by
  unfold replaceAll
  split
  · rfl
  · exact replaceAllFuel_of_not_contains pat rep _ s h

theorem fixLegacyBytes_of_noFragment :
    ∀ (L : List (Sym × Sym)) (s : List Nat), noFragment L s = true → fixLegacyBytes L s = s
  | [], s, _ => rfl
  | lc :: L, s, h => by
    simp only [noFragment, List.all_cons, Bool.and_eq_true, Bool.not_eq_eq_eq_not, Bool.not_true] at h
    have h2 : noFragment L s = true := h.2
    unfold fixLegacyBytes
    rw [List.foldl_cons, replaceAll_of_not_contains h.1]
    exact fixLegacyBytes_of_noFragment L s h2

theorem fixLegacy_of_noFragment {L : List (Sym × Sym)} {u : Sym}
    (h : noFragment L (Sym.bytes u) = true) : fixLegacy L u = u := by
  unfold fixLegacy
  rw [fixLegacyBytes_of_noFragment L _ h, Sym.ofBytes_bytes]

theorem Db.unitBySym_some {db : Db} {u : Sym} {r : UnitRow} (h : db.unitBySym u = some r) :
    r ∈ db.units ∧ r.sym = u := by
  unfold Db.unitBySym at h
  exact ⟨List.mem_of_find?_eq_some h, by simpa using List.find?_some h⟩

theorem Db.unitBySym_none {db : Db} {u : Sym} (h : db.unitBySym u = none) :
    ∀ r ∈ db.units, r.sym ≠ u := by
  unfold Db.unitBySym at h
  intro r hr
  have := List.find?_eq_none.mp h r hr
  simpa using this

theorem Db.find_unitsOfType_of_not_symbol {db : Db} {u : Sym} (h : db.unitBySym u = none) (qt : Sym) :
    (db.unitsOfType qt).find? (·.sym == u) = none := by
  rw [List.find?_eq_none]
  intro r hr
  have hm : r ∈ db.units := (List.mem_filter.mp hr).1
  simpa using Db.unitBySym_none h r hm

theorem Db.hasType_of_mem {db : Db} {r : UnitRow} (h : r ∈ db.units) : db.hasType r.qtype = true := by
  unfold Db.hasType
  exact List.any_eq_true.mpr ⟨r, h, by simp⟩

/-- the row `r` is the only row of the database whose symbol is `c` -/
def Db.OnlyRow (db : Db) (c : Sym) (r : UnitRow) : Prop := ∀ a ∈ db.units, a.sym = c → a = r

theorem Db.find_unitsOfType_of_only {db : Db} {c : Sym} {r : UnitRow}
    (hc : db.unitBySym c = some r) (hu : db.OnlyRow c r) (qt : Sym) :
    (db.unitsOfType qt).find? (·.sym == c) = if r.qtype == qt then some r else none := by
  obtain ⟨hmem, hsym⟩ := Db.unitBySym_some hc
  cases hf : (db.unitsOfType qt).find? (·.sym == c) with
  | none =>
    have hn := List.find?_eq_none.mp hf r
    split
    · next hq =>
      exfalso
      exact hn (List.mem_filter.mpr ⟨hmem, hq⟩) (by simp [hsym])
    · rfl
  | some a =>
    have ha := List.mem_filter.mp (List.mem_of_find?_eq_some hf)
    have hs : a.sym = c := by simpa using List.find?_some hf
    have hu' := hu a ha.1 hs
    subst hu'
    simp [ha.2]

theorem Db.tryInfo_of_symbol {db : Db} {c : Sym} {r : UnitRow} (hc : db.unitBySym c = some r) (qt : Sym) :
    db.tryInfo qt c = if r.qtype == qt then some r else none := by
  simp [Db.tryInfo, hc]

/-! ### `GetInfo` on a string that is no symbol, and on a symbol -/

theorem Db.getInfo_of_not_symbol {db : Db} {l : Sym} (hl : db.unitBySym l = none)
    (qt0 : Sym) (fu fl : Bool) :
    db.getInfo qt0 l fu fl =
      if !db.hasType (db.resolveQt qt0) then .error .units else
      match db.infoUnknown (db.resolveQt qt0) fu with
      | some r => .ok r
      | none =>
        match db.infoLegacy (db.resolveQt qt0) l fl with
        | some r => .ok r
        | none => .error .units := by
  unfold Db.getInfo
  rw [show db.tryInfo qt0 l = none by simp [Db.tryInfo, hl], Db.find_unitsOfType_of_not_symbol hl]
  rfl

theorem Db.getInfo_of_symbol {db : Db} {c : Sym} {r : UnitRow}
    (hc : db.unitBySym c = some r) (hu : db.OnlyRow c r) (hst : isLegacy db.legacy c = false)
    (qt0 : Sym) (fu fl : Bool) :
    db.getInfo qt0 c fu fl =
      if r.qtype == qt0 then .ok r else
      if !db.hasType (db.resolveQt qt0) then .error .units else
      if r.qtype == db.resolveQt qt0 then .ok r else
      match db.infoUnknown (db.resolveQt qt0) fu with
      | some r => .ok r
      | none => .error .units := by
  unfold Db.getInfo
  rw [Db.tryInfo_of_symbol hc, Db.find_unitsOfType_of_only hc hu]
  have hL : db.infoLegacy (db.resolveQt qt0) c fl = none := by simp [Db.infoLegacy, hst]
  rw [hL]
  by_cases h0 : (r.qtype == qt0) = true
  · simp [h0]
  · simp only [h0, Bool.false_eq_true, ↓reduceIte]
    by_cases h1 : (r.qtype == db.resolveQt qt0) = true
    · simp [h1]
    · simp only [h1, Bool.false_eq_true, ↓reduceIte]
      rfl

/-- `l` is a legacy spelling of the current symbol `c`, whose row is `r` -/
structure Db.Alias (db : Db) (l c : Sym) (r : UnitRow) : Prop where
  notSym : db.unitBySym l = none
  fix : fixLegacy db.legacy l = c
  row : db.unitBySym c = some r
  stable : fixLegacy db.legacy c = c
  /-- `AddUnit` refuses a symbol twice: `r` is the only row spelled `c` -/
  only : db.OnlyRow c r
  /-- a category named like the quantity type of `r` belongs to that type -/
  typeName : ∀ ci, db.catByName r.qtype = some ci → ci.qtype = r.qtype

namespace Db.Alias
variable {db : Db} {l c : Sym} {r : UnitRow}

theorem ne (h : db.Alias l c r) : l ≠ c := by
  intro e
  have := h.row
  rw [← e, h.notSym] at this
  cases this

theorem isLegacy (h : db.Alias l c r) : Barril.isLegacy db.legacy l = true := by
  rw [isLegacy_eq_true_iff, h.fix]; exact h.ne.symm

theorem notLegacy (h : db.Alias l c r) : Barril.isLegacy db.legacy c = false :=
  isLegacy_eq_false_iff.mpr h.stable

theorem mem (h : db.Alias l c r) : r ∈ db.units := (Db.unitBySym_some h.row).1

theorem sym (h : db.Alias l c r) : r.sym = c := (Db.unitBySym_some h.row).2

theorem resolveQt (h : db.Alias l c r) : db.resolveQt r.qtype = r.qtype := by
  unfold Db.resolveQt
  split
  · next ci hci => exact h.typeName ci hci
  · rfl

end Db.Alias

theorem Db.infoUnknown_none_of {db : Db} {qt : Sym} {fu : Bool}
    (h : fu = false ∨ qt ≠ unknownQType) : db.infoUnknown qt fu = none := by
  unfold Db.infoUnknown
  rcases h with h | h
  · simp [h]
  · have : (qt == unknownQType) = false := by simpa using h
    simp [this]

/-- the heart of C16: `GetInfo` answers a legacy spelling with the row of the current spelling -/
theorem Db.getInfo_alias {db : Db} {l c : Sym} {r : UnitRow} (h : db.Alias l c r)
    (qt0 : Sym) {fu : Bool} (hU : fu = false ∨ r.qtype ≠ unknownQType) :
    db.getInfo qt0 l fu true = db.getInfo qt0 c fu true := by
  rw [Db.getInfo_of_not_symbol h.notSym, Db.getInfo_of_symbol h.row h.only h.notLegacy]
  have hLeg : ∀ qt, db.infoLegacy qt l true = if r.qtype == qt then some r else none := by
    intro qt
    simp [Db.infoLegacy, h.isLegacy, h.fix, Db.tryInfo_of_symbol h.row]
  by_cases h0 : (r.qtype == qt0) = true
  · have e0 : r.qtype = qt0 := by simpa using h0
    have hT : db.hasType qt0 = true := e0 ▸ Db.hasType_of_mem h.mem
    have hR : db.resolveQt qt0 = qt0 := e0 ▸ h.resolveQt
    rw [hR, hLeg, Db.infoUnknown_none_of (e0 ▸ hU)]
    simp [h0, hT]
  · simp only [h0, Bool.false_eq_true, ↓reduceIte]
    by_cases hT : db.hasType (db.resolveQt qt0) = true
    · simp only [hT, Bool.not_true, Bool.false_eq_true, ↓reduceIte]
      by_cases h1 : (r.qtype == db.resolveQt qt0) = true
      · have e1 : r.qtype = db.resolveQt qt0 := by simpa using h1
        rw [hLeg, Db.infoUnknown_none_of (e1 ▸ hU)]
        simp [h1]
      · rw [hLeg]
        simp only [h1, Bool.false_eq_true, ↓reduceIte]
    · simp [hT]

theorem Db.checkQuantityTypeUnit_of_not_symbol {db : Db} {l : Sym} (hl : db.unitBySym l = none)
    (qt : Sym) : db.checkQuantityTypeUnit qt l = .error .units := by
  unfold Db.checkQuantityTypeUnit
  rw [Db.getInfo_of_not_symbol hl]
  simp only [Db.infoUnknown, Db.infoLegacy, Bool.false_and, Bool.false_eq_true, ↓reduceIte, ite_self]

theorem Db.categoryUnitValid_of_not_symbol {db : Db} {l : Sym} (hl : db.unitBySym l = none) (cat : Sym) :
    db.categoryUnitValid cat l = false := by
  unfold Db.categoryUnitValid
  split
  · rfl
  · rw [Db.checkQuantityTypeUnit_of_not_symbol hl]

/-! ### the composing-mapping forms of `ObtainQuantity` -/

theorem Db.checkQuantityTypeUnit_error_units {db : Db} {qt u : Sym} {e : ErrKind}
    (h : db.checkQuantityTypeUnit qt u = .error e) : e = .units := by
  unfold Db.checkQuantityTypeUnit at h
  split at h
  · cases h
  · next e' he => cases h; exact Db.getInfo_error_units he

theorem Db.checkCells_of_not_symbol {db : Db} :
    ∀ cells : List MapCell, (∃ c ∈ cells, db.unitBySym c.unit = none) →
      db.checkCells cells = .error .units
  | [], h => by obtain ⟨c, hc, _⟩ := h; cases hc
  | c :: cs, h => by
    unfold Db.checkCells
    cases hcat : db.catByName c.cat with
    | none => rfl
    | some ci =>
      simp only
      cases hq : db.checkQuantityTypeUnit ci.qtype c.unit with
      | error e => rw [Db.checkQuantityTypeUnit_error_units hq]
      | ok _ =>
        simp only
        apply Db.checkCells_of_not_symbol cs
        obtain ⟨d, hd, hn⟩ := h
        rcases List.mem_cons.mp hd with rfl | hd
        · rw [Db.checkQuantityTypeUnit_of_not_symbol hn] at hq; cases hq
        · exact ⟨d, hd, hn⟩

/-! ### from the table predicates to `Db.Alias` -/

theorem mem_deriveFor_snd {L : List (Sym × Sym)} {u : Sym} {p : Sym × Sym} (h : p ∈ deriveFor L u) :
    p.2 = u := by
  unfold deriveFor at h
  obtain ⟨lc, _, rfl⟩ := List.mem_map.mp h
  rfl

theorem Db.mem_derive {db : Db} {l c : Sym} (hc : (db.unitBySym c).isSome = true)
    (hl : (l, c) ∈ deriveFor db.legacy c) : (l, c) ∈ db.derive := by
  obtain ⟨r, hr⟩ := Option.isSome_iff_exists.mp hc
  obtain ⟨hmem, rfl⟩ := Db.unitBySym_some hr
  exact List.mem_flatMap.mpr ⟨r, hmem, hl⟩

/-- the two unit-table predicates give, for every derived spelling, everything the generic theorems
ask for -/
theorem Db.alias_of_tables {db : Db}
    (h1 : db.units.all (UnitRow.notRewritten db.legacy) = true)
    (h2 : db.units.all (UnitRow.derivedOk db) = true) :
    ∀ p ∈ db.derive, ∃ r, db.Alias p.1 p.2 r ∧ r.qtype ≠ unknownQType := by
  intro p hp
  unfold Db.derive at hp
  obtain ⟨r, hr, hpr⟩ := List.mem_flatMap.mp hp
  have hsnd := mem_deriveFor_snd hpr
  have hd := List.all_eq_true.mp h2 r hr
  unfold UnitRow.derivedOk at hd
  have hne' : (deriveFor db.legacy r.sym).isEmpty = false := List.isEmpty_eq_false_iff_exists_mem.mpr ⟨p, hpr⟩
  simp only [hne', Bool.false_or, Bool.and_eq_true, bne_iff_ne, ne_eq] at hd
  obtain ⟨⟨⟨hall, hq⟩, honly⟩, hstab⟩ := hd
  have hpair := List.all_eq_true.mp hall p hpr
  unfold derivedPairOk at hpair
  simp only [Bool.and_eq_true, beq_iff_eq, bne_iff_ne, ne_eq] at hpair
  -- the third conjunct, idempotence on `p.1`, follows from `hfix` and `notRewritten` and is not needed
  obtain ⟨⟨hfix, hne⟩, _⟩ := hpair
  unfold UnitRow.onlyOne at honly
  have hfil : db.units.filter (·.sym == r.sym) = [r] := by simpa using honly
  have hrow : db.unitBySym r.sym = some r := by
    unfold Db.unitBySym
    rw [← List.head?_filter, hfil]; rfl
  have honlyP : db.OnlyRow r.sym r := by
    intro a ha hs
    have : a ∈ db.units.filter (·.sym == r.sym) := List.mem_filter.mpr ⟨ha, by simp [hs]⟩
    rw [hfil] at this
    simpa using this
  have hst : fixLegacy db.legacy r.sym = r.sym := by
    have := List.all_eq_true.mp h1 r hr
    simpa [UnitRow.notRewritten] using this
  have htn : ∀ ci, db.catByName r.qtype = some ci → ci.qtype = r.qtype := by
    intro ci hci
    unfold UnitRow.typeNameStable at hstab
    rw [hci] at hstab
    simpa using hstab
  refine ⟨r, ⟨?_, hfix, hsnd ▸ hrow, hsnd ▸ hst, hsnd ▸ honlyP, htn⟩, hq⟩
  cases hq' : db.unitBySym p.1 with
  | none => rfl
  | some r' =>
    exfalso
    obtain ⟨hm, hs⟩ := Db.unitBySym_some hq'
    have := List.all_eq_true.mp h1 r' hm
    simp only [UnitRow.notRewritten, beq_iff_eq] at this
    rw [hs, hfix] at this
    exact hne this.symm

/-! ### `Convert` and `Quantity(category, unit)` -/

theorem convRows_self {r : UnitRow} (hw : r.WF) (x : Rat) : convRows r r x = .ok x := by
  rw [convRows_eq hw hw, convVal_self hw]

theorem mapRows_self {r : UnitRow} (hw : r.WF) : ∀ xs : List Rat, mapRows r r xs = .ok xs
  | [] => rfl
  | x :: xs => by
    unfold mapRows
    rw [convRows_self hw, mapRows_self hw xs]

/-- `Convert` sees its two unit arguments through `GetInfo` and the same-unit shortcut only -/
theorem Db.convert_congr {db : Db} {cq u u' v v' : Sym}
    (hu : ∀ qt, db.getInfo qt u true = db.getInfo qt u' true)
    (hv : ∀ qt, db.getInfo qt v true = db.getInfo qt v' true) (he : (u == v) = false ∧ (u' == v') = false)
    (x : Rat) : db.convert cq u v x = db.convert cq u' v' x := by
  unfold Db.convert
  simp only [he.1, he.2, Bool.false_eq_true, ↓reduceIte]
  cases db.typeOf cq with
  | error e => rfl
  | ok qt => simp only [hu, hv]

theorem Db.convertList_congr {db : Db} {cq u u' v v' : Sym}
    (hu : ∀ qt, db.getInfo qt u true = db.getInfo qt u' true)
    (hv : ∀ qt, db.getInfo qt v true = db.getInfo qt v' true) (he : (u == v) = false ∧ (u' == v') = false)
    (xs : List Rat) : db.convertList cq u v xs = db.convertList cq u' v' xs := by
  unfold Db.convertList
  simp only [he.1, he.2, Bool.false_eq_true, ↓reduceIte]
  cases db.typeOf cq with
  | error e => rfl
  | ok qt => simp only [hu, hv]

/-- a quantity is built from the string given or, when `CheckCategoryUnit` refuses that one, from its rewrite; the
stored unit passed `CheckCategoryUnit` (which knows neither the legacy nor the unknown fallback) and its to-base
row exists -/
theorem Db.newQuantity_ok {db : Db} {cat u : Sym} {q : Simple} (h : db.newQuantity cat u = .ok q) :
    ∃ ci r w, db.catByName cat = some ci ∧ q = ⟨cat, w⟩
      ∧ (w = u ∨ isLegacy db.legacy u = true ∧ w = fixLegacy db.legacy u)
      ∧ db.categoryUnitValid cat w = true ∧ db.getInfo ci.qtype w true = .ok r := by
  have key : ∀ ci w, db.finishQuantity ci cat w = .ok q → ∃ r, q = ⟨cat, w⟩ ∧ db.getInfo ci.qtype w true = .ok r := by
    intro ci w hf
    unfold Db.finishQuantity at hf
    split at hf
    · next r hg => cases hf; exact ⟨r, rfl, hg⟩
    · cases hf
  unfold Db.newQuantity at h
  split at h
  · cases h
  · next ci hc =>
    split at h
    · next hv =>
      obtain ⟨r, hq, hg⟩ := key ci u h
      exact ⟨ci, r, u, hc, hq, Or.inl rfl, hv, hg⟩
    · split at h
      · next hl =>
        split at h
        · next hv =>
          obtain ⟨r, hq, hg⟩ := key ci _ h
          exact ⟨ci, r, _, hc, hq, Or.inr ⟨hl, rfl⟩, hv, hg⟩
        · cases h
      · cases h

theorem Db.newQuantity_ok_inv {db : Db} {cat u : Sym} {q : Simple}
    (h : db.newQuantity cat u = .ok q) (hu : isLegacy db.legacy u = false) :
    ∃ ci r, db.catByName cat = some ci ∧ q = ⟨cat, u⟩ ∧ db.getInfo ci.qtype u true = .ok r := by
  obtain ⟨ci, r, w, hc, rfl, hw, _, hg⟩ := Db.newQuantity_ok h
  rcases hw with rfl | ⟨hl, _⟩
  · exact ⟨ci, r, hc, rfl, hg⟩
  · rw [hu] at hl; cases hl

theorem Db.fixValid_map_fix {db : Db} (qt : Sym) :
    ∀ vs : List Sym, (∀ v ∈ vs, fixLegacy db.legacy (fixLegacy db.legacy v) = fixLegacy db.legacy v) →
      db.fixValid qt (vs.map (fixLegacy db.legacy)) = db.fixValid qt vs
  | [], _ => rfl
  | v :: vs, h => by
    simp only [List.map_cons, Db.fixValid]
    rw [h v (List.mem_cons_self ..), Db.fixValid_map_fix qt vs (fun w hw => h w (List.mem_cons_of_mem _ hw))]

theorem Db.fixValidOpt_map_fix {db : Db} (qt : Sym) (valid : Option (List Sym))
    (hv : ∀ vs, valid = some vs → ∀ v ∈ vs, fixLegacy db.legacy (fixLegacy db.legacy v) = fixLegacy db.legacy v) :
    db.fixValidOpt qt (valid.map (List.map (fixLegacy db.legacy))) = db.fixValidOpt qt valid := by
  cases valid with
  | none => rfl
  | some vs => simp only [Option.map_some, Db.fixValidOpt, Db.fixValid_map_fix qt vs (hv vs rfl)]

theorem Db.chooseDefault_map_fix {db : Db} (qt : Sym) (dflt : Option Sym)
    (hd : ∀ d, dflt = some d → fixLegacy db.legacy (fixLegacy db.legacy d) = fixLegacy db.legacy d)
    (v' : Option (List Sym)) :
    db.chooseDefault qt v' (dflt.map (fixLegacy db.legacy)) = db.chooseDefault qt v' dflt := by
  cases dflt with
  | none => rfl
  | some d => simp only [Option.map_some, Db.chooseDefault, hd d rfl]

theorem find_upsertCat (row : CatRow) (n : Sym) : ∀ cs : List CatRow,
    (upsertCat row cs).find? (·.name == n) =
      if row.name == n then some row else cs.find? (·.name == n)
  | [] => by simp [upsertCat, List.find?]
  | c :: cs => by
    by_cases hrn : row.name = n
    · subst hrn
      by_cases hcr : c.name = row.name <;> simp [upsertCat, hcr, find_upsertCat row _ cs]
    · by_cases hcr : c.name = row.name <;> simp [upsertCat, List.find?_cons, hcr, hrn, find_upsertCat row n cs]

theorem Db.addCategoryFull_ok_inv {db db' : Db} {name qt : Sym} {valid : Option (List Sym)}
    {dflt : Option Sym} {caption : Sym} {override : Bool} {dv mn mx : Option Rat} {minx maxx : Bool}
    (h : db.addCategoryFull name qt valid dflt caption override dv mn mx minx maxx = .ok db') :
    ∃ row : CatRow, row.name = name ∧ row.qtype = qt ∧ db' = { db with cats := upsertCat row db.cats } := by
  unfold Db.addCategoryFull at h
  split at h
  · cases h
  · split at h
    · cases h
    · split at h
      · cases h
      · split at h
        · cases h
        · split at h
          · cases h
          · split at h
            · cases h
            · cases h
              exact ⟨_, rfl, rfl, rfl⟩

/-- an alias pair stays one after a registration, unless the new category is named like the quantity
type of the unit and belongs to another type (then `GetInfo`'s "category or quantity type" argument
changes its meaning) -/
theorem Db.Alias.after_register {db db' : Db} {l c : Sym} {r : UnitRow} (h : db.Alias l c r)
    {row : CatRow} (hdb : db' = { db with cats := upsertCat row db.cats })
    (hname : row.name ≠ r.qtype ∨ row.qtype = r.qtype) : db'.Alias l c r := by
  subst hdb
  refine ⟨h.notSym, h.fix, h.row, h.stable, h.only, ?_⟩
  intro ci hci
  unfold Db.catByName at hci
  simp only [find_upsertCat] at hci
  split at hci
  · next hn =>
    cases hci
    rcases hname with hne | heq
    · exact absurd (by simpa using hn) hne
    · exact heq
  · exact h.typeName ci hci

end Barril
