/-
`UnitRow.nameOwnType` compares every row with every row.  The fact it states - rows with one name have one
quantity type - only needs a FUNCTION from names to quantity types that is right on every row; the function used
here is the lookup in a search tree built from the table inside Lean, so the kernel checks the table in n log n
steps.  Nothing about the tree is used: whatever it computes, it is a function.
-/
import Barril.Model.StrTable
import Barril.Proofs.KTree

namespace Barril

/-- rows whose names a function maps to their quantity types: equal names, equal types -/
theorem nameOwnType_of_fun {db : Db} (f : Sym → Option Sym)
    (h : db.units.all (fun r => f r.name == some r.qtype) = true) :
    db.units.all (UnitRow.nameOwnType db) = true := by
  simp only [List.all_eq_true, beq_iff_eq] at h
  simp only [UnitRow.nameOwnType, List.all_eq_true, Bool.or_eq_true, bne_iff_ne, ne_eq, beq_iff_eq]
  intro r hr r' hr'
  by_cases hn : r'.name = r.name
  · exact .inr (Option.some.inj ((h r' hr').symm.trans (hn ▸ h r hr)))
  · exact .inl hn

/-- the quantity type of the first row registered under a name -/
def typeOfName (rows : List UnitRow) (n : Sym) : Option Sym :=
  ((KTree.ofList UnitRow.name rows).find n).map UnitRow.qtype

theorem nameOwnType_of_index {db : Db}
    (h : db.units.all (fun r => typeOfName db.units r.name == some r.qtype) = true) :
    db.units.all (UnitRow.nameOwnType db) = true :=
  nameOwnType_of_fun (typeOfName db.units) h

end Barril
