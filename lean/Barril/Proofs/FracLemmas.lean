/-
Helper lemmas for C18: rounding, the normalisation loop of `Fraction.__init__`, the operators of
`Fraction`, `FractionValue` copy/equality and the algebra of `ConvertFractionValue`.
-/
import Barril.Model.Frac
import Barril.Proofs.ConvLemmas
import Mathlib.Algebra.Order.Field.Rat
import Mathlib.Tactic.Ring
import Mathlib.Tactic.FieldSimp
import Mathlib.Tactic.Linarith
import Mathlib.Tactic.Positivity
import Mathlib.Data.Rat.Floor

namespace Barril.Frac

theorem small_pos : 0 < small := by decide +kernel

theorem small_lt : small < 1 / 10 ^ 7 := by decide +kernel

theorem absR_eq_abs (q : Rat) : absR q = |q| := by
  unfold absR
  split
  · rw [abs_of_neg (by assumption)]
  · rw [abs_of_nonneg (by linarith)]

theorem floor_eq (q : Rat) : q.floor = ⌊q⌋ := rfl

theorem roundHE_int (z : Int) : roundHE (z : Rat) = z := by
  unfold roundHE
  simp [floor_eq]

theorem roundHE_near (q : Rat) : |q - (roundHE q : Rat)| ≤ 1 / 2 := by
  have h0 : (q.floor : Rat) ≤ q := Int.floor_le q
  have h1 : q < q.floor + 1 := Int.lt_floor_add_one q
  -- down when the fractional part is at most a half, up when it is at least a half
  have : (roundHE q = q.floor ∧ q - q.floor ≤ 1 / 2) ∨ (roundHE q = q.floor + 1 ∧ 1 / 2 ≤ q - q.floor) := by
    unfold roundHE
    split_ifs with c1 c2 c3
    · exact Or.inl ⟨rfl, c1.le⟩
    · exact Or.inr ⟨rfl, c2.le⟩
    · exact Or.inl ⟨rfl, not_lt.mp c2⟩
    · exact Or.inr ⟨rfl, not_lt.mp c1⟩
  rcases this with ⟨e, h⟩ | ⟨e, h⟩ <;> rw [e, abs_le] <;> push_cast <;> constructor <;> linarith

theorem needsScaling_int (z : Int) : needsScaling (z : Rat) = false := by
  simp [needsScaling, roundHE_int, absR_eq_abs, small_pos.le]

theorem needsScaling_false {a : Rat} (h : needsScaling a = false) : |a - (roundHE a : Rat)| ≤ small := by
  simpa [needsScaling, absR_eq_abs] using h

/-- a decimal with at most seven places that the loop accepts is an integer: its distance to the
rounded value is a multiple of `1/10^i` below `1e-7` -/
theorem decimal_accepted {m : Int} {i : Nat} (hi : i ≤ 7)
    (h : needsScaling ((m : Rat) / 10 ^ i) = false) : (roundHE ((m : Rat) / 10 ^ i) : Rat) = (m : Rat) / 10 ^ i := by
  have hp : (0 : Rat) < 10 ^ i := by positivity
  have hb : |(m : Rat) / 10 ^ i - roundHE ((m : Rat) / 10 ^ i)| < 1 / 10 ^ i :=
    calc _ ≤ small := needsScaling_false h
      _ < 1 / 10 ^ 7 := small_lt
      _ ≤ 1 / 10 ^ i := one_div_le_one_div_of_le hp (pow_le_pow_right₀ (by norm_num) hi)
  generalize roundHE ((m : Rat) / 10 ^ i) = r at hb ⊢
  have e : (m : Rat) / 10 ^ i - r = ((m - r * 10 ^ i : Int) : Rat) / 10 ^ i := by
    push_cast; field_simp
  rw [e, abs_div, abs_of_pos hp, div_lt_div_iff_of_pos_right hp, ← Int.cast_abs, ← Int.cast_one, Int.cast_lt,
    Int.abs_lt_one_iff, sub_eq_zero] at hb
  rw [hb]; push_cast; field_simp

/-- the loop multiplies numerator and denominator by the least power of ten, at most `10^fuel`, that
the scaling test accepts -/
theorem normLoop_spec (fuel : Nat) (a b : Rat) :
    ∃ k ≤ fuel, normLoop fuel a b = (a * 10 ^ k, b * 10 ^ k)
      ∧ (∀ i < k, needsScaling (a * 10 ^ i) = true) ∧ (k < fuel → needsScaling (a * 10 ^ k) = false) := by
  induction fuel generalizing a b with
  | zero => exact ⟨0, le_rfl, by simp [normLoop], by simp, by simp⟩
  | succ n ih =>
    unfold normLoop
    cases hs : needsScaling a with
    | false => exact ⟨0, Nat.zero_le _, by simp, by simp, fun _ => by simpa using hs⟩
    | true =>
      obtain ⟨k, hk, he, hlt, hst⟩ := ih (a * 10) (b * 10)
      simp only [mul_assoc, ← pow_succ'] at he hlt hst
      refine ⟨k + 1, by omega, by rw [if_pos rfl, he], fun i hi => ?_, fun h => hst (by omega)⟩
      cases i with
      | zero => simpa using hs
      | succ i => exact hlt i (by omega)

theorem normLoop_decimal {i fuel : Nat} (m : Int) (b : Rat) (hf : i ≤ fuel) (hi : i ≤ 7) :
    (roundHE (normLoop fuel ((m : Rat) / 10 ^ i) b).1 : Rat) / (normLoop fuel ((m : Rat) / 10 ^ i) b).2
      = (m : Rat) / 10 ^ i / b := by
  obtain ⟨k, hk, he, hlt, hst⟩ := normLoop_spec fuel ((m : Rat) / 10 ^ i) b
  -- scaling stops at `10^i` at the latest, where the value is the integer `m`
  have hint : (m : Rat) / 10 ^ i * 10 ^ i = m := div_mul_cancel₀ _ (by positivity)
  have hki : k ≤ i := by
    by_contra hc
    have := hlt i (by omega)
    rw [hint, needsScaling_int] at this
    cases this
  rw [he, ← mul_div_mul_right _ b (by positivity : (10 : Rat) ^ k ≠ 0)]
  congr 1
  obtain ⟨j, rfl⟩ : ∃ j, i = j + k := ⟨i - k, by omega⟩
  have e : (m : Rat) / 10 ^ (j + k) * 10 ^ k = (m : Rat) / 10 ^ j := by rw [pow_add]; field_simp
  rw [e]
  refine decimal_accepted (by omega) ?_
  rcases Nat.eq_zero_or_pos j with rfl | hj
  · simpa using needsScaling_int m
  · rw [← e]; exact hst (by omega)

theorem signMove_ratio (a b : Rat) : (signMove a b).1 / (signMove a b).2 = a / b := by
  unfold signMove
  split
  · exact neg_div_neg_eq a b
  · rfl

theorem signMove_abs (a b : Rat) : |(signMove a b).2| = |b| := by
  unfold signMove
  split
  · exact abs_neg b
  · rfl

/-- **`Fraction(a, b)` on a decimal with at most seven places is exactly `a / b`** -/
theorem normalise_decimal (m : Int) (i : Nat) (hi : i ≤ 7) (b : Rat) :
    normalise ((m : Rat) / 10 ^ i) b = ⟨(m : Rat) / 10 ^ i / b⟩ := by
  unfold normalise
  simp only
  obtain ⟨m', hm'⟩ : ∃ m' : Int, (signMove ((m : Rat) / 10 ^ i) b).1 = (m' : Rat) / 10 ^ i := by
    unfold signMove
    split
    · exact ⟨-m, by push_cast; ring⟩
    · exact ⟨m, rfl⟩
  rw [hm', normLoop_decimal m' _ (by unfold normFuel; omega) hi, ← hm', signMove_ratio]

/-- **in general `Fraction(a, b)` is within `SMALL / |b|` of `a / b`** -/
theorem normalise_near (a b : Rat) (hb : b ≠ 0) : |(normalise a b).x - a / b| ≤ small / |b| := by
  unfold normalise
  simp only
  obtain ⟨k, hk, he, -, hst⟩ := normLoop_spec normFuel (signMove a b).1 (signMove a b).2
  have hp : (0 : Rat) < 10 ^ k := by positivity
  -- the last value is within `SMALL · 10^k` of its rounding: accepted, or after `10^60` half a unit is that small
  have herr : |(roundHE ((signMove a b).1 * 10 ^ k) : Rat) - (signMove a b).1 * 10 ^ k| ≤ small * 10 ^ k := by
    rw [abs_sub_comm]
    rcases Nat.lt_or_ge k normFuel with h | h
    · exact (needsScaling_false (hst h)).trans (le_mul_of_one_le_right small_pos.le (one_le_pow₀ (by norm_num)))
    · obtain rfl : k = normFuel := le_antisymm hk h
      exact (roundHE_near _).trans (by unfold normFuel; decide +kernel)
  rw [he, ← signMove_ratio a b, ← mul_div_mul_right (signMove a b).1 _ hp.ne', ← sub_div, abs_div, abs_mul,
    signMove_abs, abs_of_pos hp, ← mul_div_mul_right small _ hp.ne']
  exact div_le_div_of_nonneg_right herr (mul_pos (abs_pos.mpr hb) hp).le

theorem normalise_int (n : Int) (b : Rat) : normalise (n : Rat) b = ⟨(n : Rat) / b⟩ := by
  simpa using normalise_decimal n 0 (by omega) b

theorem init_fin_none (a : Rat) : Frac.init (.fin a) none = .ok (normalise a 1) := rfl

theorem init_fin_fin (a b : Rat) (hb : b ≠ 0) : Frac.init (.fin a) (some (.fin b)) = .ok (normalise a b) := by
  simp [Frac.init, hb]

theorem init_fin_zero (a : Rat) : Frac.init (.fin a) (some (.fin 0)) = .error .assertion := by
  simp [Frac.init]

theorem ofInts_eq (n d : Int) (hd : d ≠ 0) : ofInts n d = .ok ⟨(n : Rat) / d⟩ := by
  unfold ofInts
  rw [init_fin_fin _ _ (by exact_mod_cast hd), normalise_int]

theorem ofInts_rat (x : Rat) : ofInts x.num x.den = .ok ⟨x⟩ := by
  rw [ofInts_eq _ _ (by exact_mod_cast x.den_nz)]
  congr 2
  exact_mod_cast Rat.num_div_den x

theorem coerce_frac (o : Frac) : coerce (.frac o) = .ok o := rfl

theorem coerce_decimal (m : Int) (i : Nat) (hi : i ≤ 7) :
    coerce (.num (.fin ((m : Rat) / 10 ^ i))) = .ok ⟨(m : Rat) / 10 ^ i⟩ := by
  show Frac.init (.fin ((m : Rat) / 10 ^ i)) none = _
  rw [init_fin_none, normalise_decimal m i hi]; simp

theorem add_of_coerce {s o' : Frac} {o : Operand} (h : coerce o = .ok o') : s.add o = .ok ⟨s.x + o'.x⟩ := by
  unfold Frac.add; rw [h]; exact ofInts_rat _

theorem neg_eq (s : Frac) : s.neg = .ok ⟨-s.x⟩ := by
  unfold Frac.neg; exact ofInts_rat _

theorem sub_frac (s o : Frac) : s.sub (.frac o) = .ok ⟨s.x - o.x⟩ := by
  simp only [Frac.sub, Operand.neg, neg_eq, add_of_coerce (coerce_frac _)]
  simp [sub_eq_add_neg]

theorem sub_num_of_coerce {s o' : Frac} {q : Rat} (h : coerce (.num (.fin (-q))) = .ok o') :
    s.sub (.num (.fin q)) = .ok ⟨s.x + o'.x⟩ := by
  simp only [Frac.sub, Operand.neg]
  exact add_of_coerce h

theorem num_div_den' (x : Rat) : (x.num : Rat) / ((x.den : Int) : Rat) = x := by
  exact_mod_cast Rat.num_div_den x

theorem reduce_eq (f : Frac) : f.reduce = f := by
  unfold Frac.reduce Frac.numerator Frac.denominator
  rw [num_div_den']

theorem isSeq_of_coerce {o' : Frac} {o : Operand} (h : coerce o = .ok o') : o.isSeq = false := by
  cases o with
  | seq => simp [coerce] at h
  | frac _ => rfl
  | num _ => rfl

theorem denominator_ne_zero (f : Frac) : f.denominator ≠ 0 := Int.natCast_ne_zero.mpr f.x.den_nz

theorem mul_of_coerce {s o' : Frac} {o : Operand} (h : coerce o = .ok o') : s.mul o = .ok ⟨s.x * o'.x⟩ := by
  unfold Frac.mul; rw [h, isSeq_of_coerce h]
  simp only [Bool.false_eq_true, if_false]
  rw [ofInts_eq _ _ (mul_ne_zero (denominator_ne_zero s) (denominator_ne_zero o'))]
  simp only [reduce_eq, Frac.numerator, Frac.denominator]
  rw [Int.cast_mul, Int.cast_mul, mul_div_mul_comm, num_div_den', num_div_den']

theorem rmul_of_coerce {s o' : Frac} {o : Operand} (h : coerce o = .ok o') : s.rmul o = .ok ⟨s.x * o'.x⟩ := by
  unfold Frac.rmul; rw [isSeq_of_coerce h]
  simp only [Bool.false_eq_true, if_false]
  exact mul_of_coerce h

theorem inv_eq {s : Frac} (h : s.x ≠ 0) : s.inv = .ok ⟨1 / s.x⟩ := by
  unfold Frac.inv; rw [if_neg h]; exact ofInts_rat _

theorem inv_zero {s : Frac} (h : s.x = 0) : s.inv = .error .other := by
  unfold Frac.inv; rw [if_pos h]

theorem div_of_coerce {s o' : Frac} {o : Operand} (h : coerce o = .ok o') (hz : o'.x ≠ 0) :
    s.div o = .ok ⟨s.x / o'.x⟩ := by
  unfold Frac.div; rw [h]; simp only
  rw [inv_eq hz]; simp only
  rw [mul_of_coerce (coerce_frac _)]
  simp [div_eq_mul_inv]

theorem div_zero_of_coerce {s o' : Frac} {o : Operand} (h : coerce o = .ok o') (hz : o'.x = 0) :
    s.div o = .error .other := by
  unfold Frac.div; rw [h]; simp only
  rw [inv_zero hz]

theorem rdiv_of_coerce {s o' : Frac} {o : Operand} (h : coerce o = .ok o') (hz : s.x ≠ 0) :
    s.rdiv o = .ok ⟨o'.x / s.x⟩ := by
  unfold Frac.rdiv; rw [inv_eq hz]; simp only
  rw [mul_of_coerce h]
  congr 2; field_simp

theorem mod_of_coerce {s o' : Frac} {o : Operand} (h : coerce o = .ok o') (hz : o'.x ≠ 0) :
    s.mod o = .ok ⟨pyMod s.x o'.x⟩ := by
  unfold Frac.mod; rw [h]; simp only
  rw [if_neg hz]; exact ofInts_rat _

theorem abs_eq (s : Frac) : s.abs = .ok ⟨|s.x|⟩ := by
  unfold Frac.abs
  rw [ofInts_eq _ _ (denominator_ne_zero s)]
  unfold Frac.numerator Frac.denominator
  rw [Int.natCast_natAbs, Int.cast_abs, ← abs_of_pos (a := ((s.x.den : Int) : Rat)) (by exact_mod_cast s.x.den_pos),
    ← abs_div, num_div_den']

theorem copy_eq (s : Frac) : s.copy = .ok s := by
  unfold Frac.copy Frac.numerator Frac.denominator
  exact ofInts_rat _

theorem cross_lt (a b : Rat) : a.num * b.den - b.num * a.den < 0 ↔ a < b := by
  rw [Rat.lt_iff]; omega

theorem cross_gt (a b : Rat) : 0 < a.num * b.den - b.num * a.den ↔ b < a := by
  rw [Rat.lt_iff]; constructor <;> intro h <;> nlinarith

/-- no case for the infinities, the only operands `__old_cmp__` treats apart: they are not coercible -/
theorem oldCmp_of_coerce {s o' : Frac} {o : Operand} (h : coerce o = .ok o') :
    s.oldCmp o = .ok (if s.x < o'.x then -1 else if o'.x < s.x then 1 else 0) := by
  unfold Frac.oldCmp
  split
  · cases h
  · cases h
  · rw [h]
    simp only [Frac.numerator, Frac.denominator, cross_lt, cross_gt]

/-- `__lt__` tests the sign `__old_cmp__` returns for `-1` … -/
theorem ltImpl_frac (s o : Frac) : s.ltImpl (.frac o) = .ok (some (decide (s.x < o.x))) := by
  simp only [Frac.ltImpl, oldCmp_of_coerce (coerce_frac o)]
  split_ifs <;> simp [*]

/-- … and `__eq__` for `0` -/
theorem pyEq_frac (s o : Frac) : s.pyEq (.frac o) = .ok (decide (s.x = o.x)) := by
  simp only [Frac.pyEq, Frac.eqImpl, oldCmp_of_coerce (coerce_frac o)]
  split_ifs with h1 h2
  · simp [h1.ne]
  · simp [h2.ne']
  · simp [le_antisymm (not_lt.mp h2) (not_lt.mp h1)]

/-- the other four operators are derived from these two the way `functools.total_ordering` does -/
theorem cmp_frac (s o : Frac) (op : CmpOp) : s.cmp op (.frac o) = .ok (FV.cmpValue op s.x o.x) := by
  cases op <;> simp only [Frac.cmp, ltImpl_frac, pyEq_frac, FV.cmpValue]
  · by_cases h : s.x < o.x
    · simp [h, h.le]
    · simp [h, le_iff_lt_or_eq]
  · by_cases h : s.x < o.x
    · simp [h, lt_asymm h]
    · simp [h, lt_iff_le_and_ne, not_lt.mp h, eq_comm]
  · simp [← not_lt]

theorem cmp_of_coerce {s o' : Frac} {o : Operand} (h : coerce o = .ok o') (op : CmpOp) :
    s.cmp op o = .ok (FV.cmpValue op s.x o'.x) := by
  have ho : s.oldCmp o = s.oldCmp (.frac o') := by
    rw [oldCmp_of_coerce h, oldCmp_of_coerce (coerce_frac o')]
  rw [← cmp_frac s o' op]
  rcases o with f | (q | n | _) | _
  · cases h; rfl
  · simp only [Frac.cmp, Frac.pyEq, Frac.eqImpl, Frac.ltImpl, ho]
  -- an infinity, a non-number, a sequence: not coercible
  all_goals cases h

theorem fv_eq_iff (a b : FV) : a.eq b = .ok (decide (a = b)) := by
  obtain ⟨n, ⟨x⟩⟩ := a
  obtain ⟨m, ⟨y⟩⟩ := b
  unfold FV.eq
  by_cases hn : n = m <;> simp [pyEq_frac, hn]

theorem fv_cmp_order (a b : FV) {op : CmpOp} (ho : op.isOrder = true) :
    a.cmp op b = .ok (FV.cmpValue op a.value b.value) := by
  cases op <;> first | rfl | cases ho

theorem fv_copy (v : FV) : v.copy = .ok v := by
  unfold FV.copy FV.init setFraction
  have h := ofInts_rat v.frac.x
  unfold ofInts at h
  simp only [Frac.numerator, Frac.denominator]
  rw [h]

/-- `FractionValue(n)`: the default fraction `(0.0, 1.0)` is zero -/
theorem fv_init_default (n : Rat) : FV.init (some n) FracArg.default = .ok ⟨n, ⟨0⟩⟩ := by
  have h0 : Frac.init (.fin 0) (some (.fin 1)) = .ok ⟨0⟩ := by
    simpa [ofInts] using ofInts_eq 0 1 one_ne_zero
  simp [FV.init, setFraction, FracArg.default, h0]

theorem convVal_affine {u v : UnitRow} (hu : u.WF) (hv : v.WF) (x : Rat) :
    convVal u v x = convVal u v 0 + (convVal u v 1 - convVal u v 0) * x := by
  unfold convVal
  have tr := hu.tr
  have fr := hv.fr
  field_simp
  ring

theorem convVal_mixed {u v : UnitRow} (hu : u.WF) (hv : v.WF) (n p d : Rat) (hd : d ≠ 0) :
    convVal u v (n + p / d) = convVal u v n + (convVal u v p - convVal u v 0) / d := by
  rw [convVal_affine hu hv (n + p / d), convVal_affine hu hv n, convVal_affine hu hv p]
  field_simp
  ring

theorem setNumerator_eq (f : Frac) (a : Rat) :
    f.setNumerator a = .ok ⟨(normalise a 1).x / (f.x.den : Rat)⟩ := by
  unfold Frac.setNumerator
  rw [init_fin_none, init_fin_none]
  simp only [Frac.denominator]
  have := normalise_int (f.x.den : Int) 1
  rw [this]
  simp

/-- in a database of well-formed rows `ConvertScalarValue` of a simple quantity is an affine map of
the value, or fails whatever the value is -/
theorem convertScalarValue_affine {db : Db} (hdb : ∀ r ∈ db.units, r.WF) (q : Qty) (toU : Sym) :
    (∃ A B : Rat, ∀ x, q.convertScalarValue db toU x = .ok (A + B * x)) ∨
    (∃ e, ∀ x, q.convertScalarValue db toU x = .error e) := by
  unfold Qty.convertScalarValue
  by_cases h : (q.unit == toU) = true
  · left; exact ⟨0, 1, fun x => by simp [h]⟩
  · simp only [h, Bool.false_eq_true, if_false]
    cases h1 : db.getInfo (q.qtype db) toU true with
    | error e => right; exact ⟨e, fun x => rfl⟩
    | ok other =>
      cases h2 : db.getInfo (q.qtype db) q.unit true with
      | error e => right; exact ⟨e, fun x => rfl⟩
      | ok this =>
        left
        have wu := hdb _ (Db.getInfo_mem h2)
        have wv := hdb _ (Db.getInfo_mem h1)
        refine ⟨convVal this other 0, convVal this other 1 - convVal this other 0, fun x => ?_⟩
        simp only
        rw [convRows_eq wu wv, ← convVal_affine wu wv x]

theorem convertFV_eq {db : Db} {cat fromU toU : Sym} {q : Qty} (hq : obtain db cat fromU = .ok q) {A B : Rat}
    (hAB : ∀ x, q.convertScalarValue db toU x = .ok (A + B * x)) (fv : FV) :
    convertFV db cat fromU toU fv
      = .ok ⟨A + B * fv.number, ⟨(normalise (B * fv.frac.x.num) 1).x / (fv.frac.x.den : Rat)⟩⟩ := by
  unfold convertFV
  rw [hq]
  simp only [hAB]
  have e : A + B * (fv.frac.numerator : Rat) - (A + B * 0) = B * (fv.frac.x.num : Rat) := by
    unfold Frac.numerator; ring
  rw [e, setNumerator_eq]

theorem fv_value_eq (v : FV) : v.value = v.number + (v.frac.x.num : Rat) / (v.frac.x.den : Rat) := by
  unfold FV.value Frac.toFloat
  rw [Rat.num_div_den]

/-- how far the converted value is from the converted amount: the error made on the numerator, over
the denominator -/
theorem convertFV_value_sub (A B N : Rat) (fv : FV) :
    (⟨A + B * fv.number, ⟨N / (fv.frac.x.den : Rat)⟩⟩ : FV).value - (A + B * fv.value)
      = (N - B * fv.frac.x.num) / (fv.frac.x.den : Rat) := by
  rw [fv_value_eq fv]
  simp only [FV.value, Frac.toFloat]
  ring

theorem convertFV_err {db : Db} {cat fromU toU : Sym} {q : Qty} (hq : obtain db cat fromU = .ok q) {e : ErrKind}
    (he : ∀ x, q.convertScalarValue db toU x = .error e) (fv : FV) :
    convertFV db cat fromU toU fv = .error e := by
  unfold convertFV
  rw [hq]
  simp only [he]

theorem obtain_idem {db : Db} {c u : Sym} {q : Qty} (h : obtain db c u = .ok q) :
    obtain db q.cat q.unit = .ok q := by
  unfold obtain at h
  cases hc : db.catByName c with
  | none => rw [hc] at h; cases h
  | some ci =>
    rw [hc] at h
    simp only at h
    split at h
    · cases h; simp [obtain, *]
    · split at h
      · rename_i h2
        cases h
        simp [obtain, hc, (Bool.and_eq_true _ _ ▸ h2).2]
      · cases h

/-- a comparison is decided the same way by two right-hand sides that lie on the same side of `x` -/
theorem cmpValue_stable {op : CmpOp} (ho : op.isOrder = true) {x y y' d : Rat}
    (hy : |y' - y| ≤ d) (hm : d < |x - y|) : FV.cmpValue op x y' = FV.cmpValue op x y := by
  obtain ⟨h1, h2⟩ := abs_le.mp hy
  have hlt : x < y' ↔ x < y := by
    rcases lt_abs.mp hm with h | h <;> constructor <;> intro _ <;> linarith
  have hgt : y' < x ↔ y < x := by
    rcases lt_abs.mp hm with h | h <;> constructor <;> intro _ <;> linarith
  cases op <;> cases ho <;> simp only [FV.cmpValue, ← not_lt, hlt, hgt]

end Barril.Frac
