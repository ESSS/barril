/-
Helper lemmas for C13 (model `Barril/Model/Heap.lean`): a small Hoare logic for the effect monad `M`.

`Step L m Q`    : every successful run of `m` (from a state with `L.inv`) is an `L.rel` step with result in `Q`,
                  for a reflexive and transitive relation `L.rel` on states.  `pure`/`bind`/`fail` are proved once;
                  what a function of the model does is stated for the smallest relation that holds of it:
  `Rel.same`    : the state is unchanged (the readers; their lemmas hold for every `L`);
  `Rel.grow`    : cells, pool objects and memo entries are added, nothing else (lemmas for every `L` with `L.Grows`);
  `Rel.write n` : as `grow`, and cells at addresses ≥ `n` may be written;
  `Rel.frame n` : `Frame n`: as `write n`, and quantities / cache entries may be added (`Safe n` is `Step (.frame n)`).
The only side conditions are at `writeM`, where the written reference must be shown to be ≥ n: a reference
returned by `allocM` or taken from a list of such references.
A lemma tagged `@[effect]` is used by `step_auto` through that simp set, never by name: it closes the call of its
function wherever the goal's relation fits the one it is stated for (every `L`, every `L` with `L.Grows`, `.frame n`,
or `.intern db` in `Proofs/HeapInv.lean`).
-/
import Barril.Model.Heap
import Barril.Proofs.HeapAttr

namespace Barril.Heap

structure Frame (n : Nat) (s s' : St) : Prop where
  len : s.heap.length ≤ s'.heap.length
  cells : ∀ r, r < n → s'.heap[r]? = s.heap[r]?
  quants : ∃ t, s'.quants = s.quants ++ t
  objs : ∃ t, s'.objs = s.objs ++ t

theorem Frame.refl (n : Nat) (s : St) : Frame n s s :=
  ⟨Nat.le_refl _, fun _ _ => rfl, ⟨[], by simp⟩, ⟨[], by simp⟩⟩

theorem Frame.trans {n : Nat} {s s1 s2 : St} (a : Frame n s s1) (b : Frame n s1 s2) : Frame n s s2 := by
  refine ⟨Nat.le_trans a.len b.len, fun r hr => (b.cells r hr).trans (a.cells r hr), ?_, ?_⟩
  · obtain ⟨t1, h1⟩ := a.quants; obtain ⟨t2, h2⟩ := b.quants
    exact ⟨t1 ++ t2, by rw [h2, h1, List.append_assoc]⟩
  · obtain ⟨t1, h1⟩ := a.objs; obtain ⟨t2, h2⟩ := b.objs
    exact ⟨t1 ++ t2, by rw [h2, h1, List.append_assoc]⟩

theorem Frame.mono {n n' : Nat} {s s' : St} (h : Frame n' s s') (hn : n ≤ n') : Frame n s s' :=
  ⟨h.len, fun r hr => h.cells r (Nat.lt_of_lt_of_le hr hn), h.quants, h.objs⟩

/-- `Step (.frame n) m Q` (below) as a structure of its own -/
structure Safe {α : Type} (n : Nat) (m : M α) (Q : α → Prop) : Prop where
  run : ∀ s a s', n ≤ s.heap.length → m s = .ok (a, s') → Frame n s s' ∧ Q a

theorem bind_eval {α β : Type} (m : M α) (f : α → M β) (s : St) :
    (m >>= f) s = (match m s with
      | .ok (a, s') => f a s'
      | .error e => .error e) := rfl

theorem pure_eval {α : Type} (a : α) (s : St) : (Pure.pure a : M α) s = .ok (a, s) := rfl

theorem bind_of_ok {α β : Type} {m : M α} {f : α → M β} {s s1 : St} {a : α} (h : m s = .ok (a, s1)) :
    (m >>= f) s = f a s1 := by
  rw [bind_eval, h]

theorem bind_ok {α β : Type} {m : M α} {f : α → M β} {s s' : St} {b : β} (h : (m >>= f) s = .ok (b, s')) :
    ∃ a s1, m s = .ok (a, s1) ∧ f a s1 = .ok (b, s') := by
  rw [bind_eval] at h
  cases hm : m s with
  | error e => rw [hm] at h; cases h
  | ok p => obtain ⟨a, s1⟩ := p; rw [hm] at h; exact ⟨a, s1, rfl, h⟩

/-- a reflexive and transitive relation on states, with a condition on the start state that it maintains -/
structure Rel where
  inv : St → Prop
  rel : St → St → Prop
  refl : ∀ s, rel s s
  trans : ∀ {s t u}, rel s t → rel t u → rel s u
  keep : ∀ {s t}, inv s → rel s t → inv t

structure Step {α : Type} (L : Rel) (m : M α) (Q : α → Prop) : Prop where
  run : ∀ s a s', L.inv s → m s = .ok (a, s') → L.rel s s' ∧ Q a

section
variable {α β : Type} {L : Rel}

theorem Step.pure {a : α} {Q : α → Prop} (h : Q a) : Step L (Pure.pure a : M α) Q :=
  ⟨fun s a' s' _ hm => by cases (show Except.ok (a, s) = Except.ok (a', s') from hm); exact ⟨L.refl _, h⟩⟩

theorem Step.bind {m : M α} {f : α → M β} {Q : α → Prop} {R : β → Prop}
    (hm : Step L m Q) (hf : ∀ a, Q a → Step L (f a) R) : Step L (m >>= f) R :=
  ⟨fun s b s2 hi h => by
    obtain ⟨a, s1, h1, h2⟩ := bind_ok h
    have r1 := hm.run s a s1 hi h1
    have r2 := (hf a r1.2).run s1 b s2 (L.keep hi r1.1) h2
    exact ⟨L.trans r1.1 r2.1, r2.2⟩⟩

theorem Step.seq {m : M α} {f : α → M β} {R : β → Prop}
    (hm : Step L m (fun _ => True)) (hf : ∀ a, Step L (f a) R) : Step L (m >>= f) R :=
  hm.bind fun a _ => hf a

theorem Step.mono {L' : Rel} {m : M α} {Q : α → Prop} (h : Step L m Q)
    (hL : ∀ s s', L'.inv s → L.inv s ∧ (L.rel s s' → L'.rel s s')) : Step L' m Q :=
  ⟨fun s a s' hi hm => ⟨(hL s s' hi).2 (h.run s a s' (hL s s' hi).1 hm).1, (h.run s a s' (hL s s' hi).1 hm).2⟩⟩

@[effect] theorem pure_step {a : α} : Step L (Pure.pure a : M α) (fun _ => True) := Step.pure trivial

@[effect] theorem failM_step {e : ErrKind} {Q : α → Prop} : Step L (failM e : M α) Q :=
  ⟨fun s a s' _ hm => by cases hm⟩

def Rel.same : Rel := ⟨fun _ => True, fun s s' => s' = s, fun _ => rfl, fun h1 h2 => h2.trans h1, fun _ _ => trivial⟩

theorem Step.ofSame {m : M α} {Q : α → Prop} (h : Step .same m Q) : Step L m Q :=
  ⟨fun s a s' _ hm => by
    obtain ⟨rfl, hq⟩ := h.run s a s' trivial hm
    exact ⟨L.refl _, hq⟩⟩

@[effect] theorem liftE_step {x : Except ErrKind α} : Step L (liftE x) (fun _ => True) :=
  Step.ofSame ⟨fun s a s' _ h => by
    unfold liftE at h
    cases x with
    | error e => cases h
    | ok v => cases h; exact ⟨rfl, trivial⟩⟩

@[effect] theorem readM_step {r : Ref} : Step L (readM r) (fun _ => True) :=
  Step.ofSame ⟨fun s a s' _ h => by unfold readM at h; split at h <;> cases h; exact ⟨rfl, trivial⟩⟩

@[effect] theorem getQ_step {q : Nat} : Step L (getQ q) (fun _ => True) :=
  Step.ofSame ⟨fun s a s' _ h => by unfold getQ at h; split at h <;> cases h; exact ⟨rfl, trivial⟩⟩

@[effect] theorem getObj_step {i : Nat} : Step L (getObj i) (fun _ => True) :=
  Step.ofSame ⟨fun s a s' _ h => by unfold getObj at h; split at h <;> cases h; exact ⟨rfl, trivial⟩⟩

@[effect] theorem cacheGet_step {k : QKey} : Step L (cacheGet k) (fun _ => True) :=
  Step.ofSame ⟨fun s a s' _ h => by cases h; exact ⟨rfl, trivial⟩⟩

@[effect] theorem memoGet_step {i : Nat} : Step L (memoGet i) (fun _ => True) :=
  Step.ofSame ⟨fun s a s' _ h => by cases h; exact ⟨rfl, trivial⟩⟩

end

/-- One pass over straight-line code whose parts need no side condition: a bind is split by `Step.seq`, a call is
closed by its `effect` lemma (it states `Step L (f …) fun _ => True` and so rewrites a goal with literally that
postcondition, which `Step.seq` supplies, to `True`) or by a hypothesis, a `match` / `if` by `split`.
`with_reducible` keeps `apply` from unfolding a call into the binds of its body.  The results of the calls are not
named, so a fact about one of them ("this reference is fresh", needed at a `writeM`) cannot be carried: such functions
are proved by an explicit chain of `Step.bind`.  Left open are the calls without an `effect` lemma for the relation. -/
macro "step_auto" : tactic =>
  `(tactic| repeat'
    (first | (intro _) | with_reducible apply Step.seq | assumption | (simp only [effect]; done) | split | (dsimp only)))

section
variable {L : Rel}

@[effect] theorem readPair_step {r : Ref} : Step L (readPair r) (fun _ => True) := by
  unfold readPair; step_auto

@[effect] theorem readSeq_step {r : Ref} : Step L (readSeq r) (fun _ => True) := by
  unfold readSeq; step_auto

@[effect] theorem readFrac_step {r : Ref} : Step L (readFrac r) (fun _ => True) := by
  unfold readFrac; step_auto

@[effect] theorem readFv_step {r : Ref} : Step L (readFv r) (fun _ => True) := by
  unfold readFv; step_auto

@[effect] theorem readItems_step (es : List (Sym × Ref)) : Step L (readItems es) (fun _ => True) := by
  induction es with
  | nil => exact pure_step
  | cons e es ih => unfold readItems; step_auto

@[effect] theorem dropZero_step {tot : List (Sym × Int)} (es : List (Sym × Ref)) :
    Step L (dropZero tot es) (fun _ => True) := by
  induction es with
  | nil => exact pure_step
  | cons e es ih => unfold dropZero; step_auto

@[effect] theorem qEq_step {a b : Nat} : Step L (qEq a b) (fun _ => True) := by
  unfold qEq; step_auto

@[effect] theorem joinedOf_step {q : Nat} : Step L (joinedOf q) (fun _ => True) := by
  unfold joinedOf; step_auto

@[effect] theorem valuesOf_step {o : Obj} : Step L (valuesOf o) (fun _ => True) := by
  unfold valuesOf; step_auto

@[effect] theorem fvFloat_step {r : Ref} : Step L (fvFloat r) (fun _ => True) := by
  unfold fvFloat; step_auto

@[effect] theorem objEq_step {i j : Nat} : Step L (objEq i j) (fun _ => True) := by
  unfold objEq; step_auto

@[effect] theorem format_step {i : Nat} : Step L (format i) (fun _ => True) := by
  unfold format; step_auto

end

/-- nothing is said of the validity memo: it may change freely -/
structure Grow (s s' : St) : Prop where
  heap : ∃ t, s'.heap = s.heap ++ t
  quants : s'.quants = s.quants
  cache : s'.cache = s.cache
  objs : ∃ t, s'.objs = s.objs ++ t

def Rel.grow : Rel where
  inv _ := True
  rel := Grow
  refl _ := ⟨⟨[], by simp⟩, rfl, rfl, ⟨[], by simp⟩⟩
  trans a b := by
    obtain ⟨t1, h1⟩ := a.heap; obtain ⟨t2, h2⟩ := b.heap
    obtain ⟨u1, o1⟩ := a.objs; obtain ⟨u2, o2⟩ := b.objs
    exact ⟨⟨t1 ++ t2, by rw [h2, h1, List.append_assoc]⟩, b.quants.trans a.quants, b.cache.trans a.cache,
      ⟨u1 ++ u2, by rw [o2, o1, List.append_assoc]⟩⟩
  keep _ _ := trivial

class Rel.Grows (L : Rel) : Prop where
  grow : ∀ {s s'}, L.inv s → Grow s s' → L.rel s s'

instance : Rel.grow.Grows := ⟨fun _ h => h⟩

theorem Step.ofGrow {α : Type} {L : Rel} [L.Grows] {m : M α} {Q : α → Prop} (h : Step .grow m Q) : Step L m Q :=
  h.mono fun _ _ hi => ⟨trivial, Rel.Grows.grow hi⟩

theorem Grow.frame {n : Nat} {s s' : St} (h : Grow s s') (hn : n ≤ s.heap.length) : Frame n s s' := by
  obtain ⟨t, ht⟩ := h.heap
  refine ⟨by simp [ht], fun r hr => ?_, ⟨[], by simp [h.quants]⟩, h.objs⟩
  rw [ht, List.getElem?_append_left (Nat.lt_of_lt_of_le hr hn)]

def Rel.frame (n : Nat) : Rel :=
  ⟨fun s => n ≤ s.heap.length, Frame n, Frame.refl n, Frame.trans, fun hi h => Nat.le_trans hi h.len⟩

instance {n : Nat} : (Rel.frame n).Grows := ⟨fun hi h => h.frame hi⟩

theorem Safe.ofStep {α : Type} {n : Nat} {m : M α} {Q : α → Prop} (h : Step (.frame n) m Q) : Safe n m Q := ⟨h.run⟩

def Rel.write (n : Nat) : Rel where
  inv s := n ≤ s.heap.length
  rel s s' := Frame n s s' ∧ s'.quants = s.quants ∧ s'.cache = s.cache
  refl s := ⟨Frame.refl n s, rfl, rfl⟩
  trans a b := ⟨a.1.trans b.1, b.2.1.trans a.2.1, b.2.2.trans a.2.2⟩
  keep hi h := Nat.le_trans hi h.1.len

instance {n : Nat} : (Rel.write n).Grows := ⟨fun hi h => ⟨h.frame hi, h.quants, h.cache⟩⟩

theorem Step.frame {α : Type} {n : Nat} {m : M α} {Q : α → Prop} (h : Step (.write n) m Q) : Step (.frame n) m Q :=
  h.mono fun _ _ hi => ⟨hi, fun r => r.1⟩

section
variable {L : Rel} [L.Grows]

@[effect] theorem allocM_step {c : Cell} : Step L (allocM c) (fun _ => True) :=
  Step.ofGrow ⟨fun s a s' _ h => by cases h; exact ⟨⟨⟨[c], rfl⟩, rfl, rfl, ⟨[], by simp⟩⟩, trivial⟩⟩

@[effect] theorem newObj_step {o : Obj} : Step L (newObj o) (fun _ => True) :=
  Step.ofGrow ⟨fun s a s' _ h => by cases h; exact ⟨⟨⟨[], by simp⟩, rfl, rfl, ⟨[o], rfl⟩⟩, trivial⟩⟩

@[effect] theorem memoPut_step {i : Nat} {v : Option ErrKind} : Step L (memoPut i v) (fun _ => True) :=
  Step.ofGrow ⟨fun s a s' _ h => by cases h; exact ⟨⟨⟨[], by simp⟩, rfl, rfl, ⟨[], by simp⟩⟩, trivial⟩⟩

@[effect] theorem copyPairs_step (es : List (Sym × Ref)) : Step L (copyPairs es) (fun _ => True) := by
  induction es with
  | nil => exact pure_step
  | cons e es ih => unfold copyPairs; step_auto

@[effect] theorem allocPairs_step (items : List (Sym × Sym × Int)) : Step L (allocPairs items) (fun _ => True) := by
  induction items with
  | nil => exact pure_step
  | cons e rest ih => unfold allocPairs; step_auto

@[effect] theorem mkFixedWith_step {dim : Option Nat} {q : Nat} {c : Ref} :
    Step L (mkFixedWith dim q c) (fun _ => True) := by
  unfold mkFixedWith; step_auto

@[effect] theorem mkArrayLike_step {cls : Cls} {dim : Option Nat} {q : Nat} {c : Ref} :
    Step L (mkArrayLike cls dim q c) (fun _ => True) := by
  unfold mkArrayLike; step_auto

@[effect] theorem scalarNumR_step {f : BinOp} {q : Nat} {x k : Rat} : Step L (scalarNumR f q x k) (fun _ => True) := by
  unfold scalarNumR; step_auto

@[effect] theorem arrayValues_step {db : Db} {q : Nat} {c : Ref} {unit : Option Sym} :
    Step L (arrayValues db q c unit) (fun _ => True) := by
  unfold arrayValues; step_auto

@[effect] theorem validateArray_step {db : Db} {i : Nat} {o : QObj} {c : Ref} :
    Step L (validateArray db i o c) (fun _ => True) := by
  unfold validateArray; step_auto

@[effect] theorem validateWith_step {db : Db} {i : Nat} {vals : ValSrc} {qsrc : Option Nat} :
    Step L (validateWith db i vals qsrc) (fun _ => True) := by
  unfold validateWith; step_auto

@[effect] theorem checkValidityE_step {db : Db} {i : Nat} : Step L (checkValidityE db i) (fun _ => True) := by
  unfold checkValidityE; step_auto

@[effect] theorem checkValidity_step {db : Db} {i : Nat} : Step L (checkValidity db i) (fun _ => True) := by
  unfold checkValidity; step_auto

@[effect] theorem isValid_step {db : Db} {i : Nat} : Step L (isValid db i) (fun _ => True) := by
  unfold isValid; step_auto

@[effect] theorem indexAsScalar_step {db : Db} {i : Nat} {idx : Int} :
    Step L (indexAsScalar db i idx) (fun _ => True) := by
  unfold indexAsScalar; step_auto

end

theorem checkValidity_safe {n : Nat} {db : Db} {i : Nat} : Safe n (checkValidity db i) (fun _ => True) :=
  Safe.ofStep checkValidity_step

theorem allocM_fresh {n : Nat} {c : Cell} : Step (.write n) (allocM c) (fun r => n ≤ r) :=
  ⟨fun s a s' hn h => ⟨(allocM_step.run s a s' hn h).1, by cases h; exact hn⟩⟩

theorem writeM_write {n : Nat} {r : Ref} {c : Cell} (h : n ≤ r) : Step (.write n) (writeM r c) (fun _ => True) := by
  constructor
  intro s a s' _ hm
  unfold writeM at hm
  split at hm <;> cases hm
  refine ⟨⟨⟨by simp, fun r' hr' => ?_, ⟨[], by simp⟩, ⟨[], by simp⟩⟩, rfl, rfl⟩, trivial⟩
  have : r ≠ r' := Nat.ne_of_gt (Nat.lt_of_lt_of_le hr' h)
  simp [List.getElem?_set_ne this]

def FreshRefs (n : Nat) (es : List (Sym × Ref)) : Prop := ∀ e ∈ es, n ≤ e.2

theorem FreshRefs.nil {n : Nat} : FreshRefs n [] := fun _ h => by cases h

theorem FreshRefs.cons {n : Nat} {c : Sym} {r : Ref} {es : List (Sym × Ref)} (hr : n ≤ r) (h : FreshRefs n es) :
    FreshRefs n ((c, r) :: es) := by
  intro e he
  cases he with
  | head => exact hr
  | tail _ h' => exact h e h'

theorem FreshRefs.append {n : Nat} {es : List (Sym × Ref)} {c : Sym} {r : Ref} (h : FreshRefs n es) (hr : n ≤ r) :
    FreshRefs n (es ++ [(c, r)]) := by
  intro e he
  rcases List.mem_append.mp he with h1 | h1
  · exact h e h1
  · simp at h1; subst h1; exact hr

theorem lookupS_mem {β : Type} {k : Sym} {b : β} : ∀ {l : List (Sym × β)}, lookupS k l = some b → ∃ c, (c, b) ∈ l
  | (a, b') :: l, h => by
    unfold lookupS at h
    split at h
    · cases h; exact ⟨a, List.mem_cons_self⟩
    · obtain ⟨c, hc⟩ := lookupS_mem h; exact ⟨c, List.mem_cons_of_mem _ hc⟩

theorem copyPairs_fresh {n : Nat} (es : List (Sym × Ref)) : Step (.write n) (copyPairs es) (FreshRefs n) := by
  induction es with
  | nil => exact Step.pure FreshRefs.nil
  | cons e es ih =>
    unfold copyPairs
    apply Step.seq readPair_step; intro p
    apply Step.bind allocM_fresh; intro r' hr'
    apply Step.bind ih; intro es' hes'
    exact Step.pure (FreshRefs.cons hr' hes')

theorem matchLoop_write {n : Nat} {db : Db} {d : Bool} (es : List (Sym × Ref)) (hes : FreshRefs n es)
    (found : List (Sym × Sym)) (v : Val) : Step (.write n) (matchLoop db d es found v) (fun _ => True) := by
  induction es generalizing found v with
  | nil => exact pure_step
  | cons e es ih =>
    have ih' := ih fun x hx => hes x (List.mem_cons_of_mem _ hx)
    unfold matchLoop
    apply Step.seq readPair_step; intro p
    apply Step.seq liftE_step; intro qt
    split
    · exact ih' _ _
    · apply Step.seq liftE_step; intro v'
      apply Step.seq (writeM_write (hes e List.mem_cons_self)); intro _
      exact ih' _ _

theorem matchQuantities_write {n : Nat} {db : Db} {es1 es2 : List (Sym × Ref)} (h1 : FreshRefs n es1)
    (h2 : FreshRefs n es2) {v1 v2 : Val} : Step (.write n) (matchQuantities db es1 es2 v1 v2) (fun _ => True) := by
  unfold matchQuantities
  apply Step.seq (matchLoop_write es1 h1 _ _); intro r1
  apply Step.seq (matchLoop_write es2 h2 _ _); intro r2
  exact pure_step

/-- the merge writes exponents into the lists of the first dict only, hence `h1` -/
theorem mergeLoop_write {n : Nat} {f : BinOp} (es2 : List (Sym × Ref)) (es1 : List (Sym × Ref))
    (h1 : FreshRefs n es1) : Step (.write n) (mergeLoop f es2 es1) (fun _ => True) := by
  induction es2 generalizing es1 with
  | nil => exact pure_step
  | cons e es2 ih =>
    unfold mergeLoop
    apply Step.seq readPair_step; intro p2
    split
    · apply Step.bind allocM_fresh; intro r hr
      exact ih _ (h1.append hr)
    · rename_i r1 hlook
      obtain ⟨c, hc⟩ := lookupS_mem hlook
      apply Step.seq readPair_step; intro p1
      split
      · apply Step.seq (writeM_write (h1 (c, r1) hc)); intro _
        exact ih _ h1
      · exact failM_step

/-- a container handed out by `GetValues(unit)` that is not the Array's own one is a NEW cell -/
theorem arrayValues_fresh {n : Nat} {db : Db} {q : Nat} {c : Ref} {unit : Option Sym} :
    Step (.write n) (arrayValues db q c unit) (fun r => r.2 = false → n ≤ r.1) := by
  unfold arrayValues
  apply Step.seq getQ_step; intro o
  split
  · exact Step.pure (fun h => by cases h)
  · split
    · exact Step.pure (fun h => by cases h)
    · apply Step.seq readSeq_step; intro s
      apply Step.seq liftE_step; intro v
      split
      · split
        · exact Step.pure (fun h => by cases h)
        · apply Step.bind allocM_fresh; intro c' hc'
          exact Step.pure (fun _ => hc')
      · exact failM_step

/-- the two array branches of `getValuesAndScribble` -/
theorem scribble_write {n : Nat} {db : Db} {q : Nat} {c : Ref} {unit : Option Sym} {how : Scribble} :
    Step (.write n) (do
      let r ← arrayValues db q c unit
      let s ← readSeq r.1
      if r.2 then pure (Out.cont r.1 true)
      else do
        writeM r.1 (.seq s.1 (scribbled how s.1 s.2))
        pure (.cont r.1 false)) (fun _ => True) := by
  apply Step.bind arrayValues_fresh; intro r hr
  apply Step.seq readSeq_step; intro s
  split
  · exact pure_step
  · rename_i hne
    apply Step.seq (writeM_write (hr (Bool.eq_false_iff.mpr hne))); intro _
    exact pure_step

/-- the caller's writes go into the container it was handed, which is a new cell -/
theorem getValuesAndScribble_write {n : Nat} {db : Db} {i : Nat} {unit : Option Sym} {how : Scribble} :
    Step (.write n) (getValuesAndScribble db i unit how) (fun _ => True) := by
  unfold getValuesAndScribble
  apply Step.seq getObj_step; intro o
  split
  · exact scribble_write
  · exact scribble_write
  · exact failM_step

/-- `ChangingIndex` writes into the list it has just made (`values = list(...)`) -/
theorem changingIndex_write {n : Nat} {db : Db} {i : Nat} {idx : Int} {value : Operand} {u : Bool} :
    Step (.write n) (changingIndex db i idx value u) (fun _ => True) := by
  unfold changingIndex
  apply Step.seq getObj_step; intro o
  split
  · apply Step.seq
    · step_auto
    intro sc
    apply Step.seq getQ_step; intro oq
    apply Step.seq arrayValues_step; intro vals
    apply Step.seq readSeq_step; intro s
    apply Step.bind allocM_fresh; intro l hl
    apply Step.seq getQ_step; intro os
    apply Step.seq liftE_step; intro y
    apply Step.seq liftE_step; intro k
    apply Step.seq (writeM_write hl); intro _
    step_auto
  · exact failM_step

section
variable {n : Nat}

@[effect] theorem newQuant_frame {o : QObj} : Step (.frame n) (newQuant o) (fun _ => True) :=
  ⟨fun s a s' _ h => by cases h; exact ⟨⟨Nat.le_refl _, fun _ _ => rfl, ⟨[o], rfl⟩, ⟨[], by simp⟩⟩, trivial⟩⟩

@[effect] theorem cachePut_frame {k : QKey} {q : Nat} : Step (.frame n) (cachePut k q) (fun _ => True) :=
  ⟨fun s a s' _ h => by cases h; exact ⟨⟨Nat.le_refl _, fun _ _ => rfl, ⟨[], by simp⟩, ⟨[], by simp⟩⟩, trivial⟩⟩

@[effect] theorem newSimpleQuantity_frame {db : Db} {cat unit caption : Sym} :
    Step (.frame n) (newSimpleQuantity db cat unit caption) (fun _ => True) := by
  unfold newSimpleQuantity; step_auto

@[effect] theorem obtainSimple_frame {db : Db} {unit cat caption : Sym} :
    Step (.frame n) (obtainSimple db unit cat caption) (fun _ => True) := by
  unfold obtainSimple; step_auto

@[effect] theorem obtainDict_frame {db : Db} {es : List (Sym × Ref)} {caption : Sym} :
    Step (.frame n) (obtainDict db es caption) (fun _ => True) := by
  unfold obtainDict; step_auto

/-- The part of `convertFractionValue` after the quantity of the source unit has been obtained: it writes the
numerator of the COPY and the fraction of the NEW FractionValue, which it returns. -/
theorem convertFractionValue_tail {db : Db} {fvc : Rat × Ref} {toU : Sym} {cq : Nat} : Step (.write n) (do
    let co ← getQ cq
    let n' ← liftE ((convertQ db co toU (.num fvc.1)).bind valNum)
    let f0 ← allocM (.frac 0)
    let res ← allocM (.fv n' f0)
    let x ← readFrac fvc.2
    let a ← liftE ((convertQ db co toU (.num x.num)).bind valNum)
    let b ← liftE ((convertQ db co toU (.num 0)).bind valNum)
    let cf ← allocM (.frac x)
    writeM cf (.frac ((a - b) / x.den))
    writeM res (.fv n' cf)
    pure res) (fun r => n ≤ r) := by
  apply Step.seq getQ_step; intro co
  apply Step.seq liftE_step; intro n'
  apply Step.seq allocM_step; intro f0
  apply Step.bind allocM_fresh; intro res hres
  apply Step.seq readFrac_step; intro x
  apply Step.seq liftE_step; intro a
  apply Step.seq liftE_step; intro b
  apply Step.bind allocM_fresh; intro cf hcf
  apply Step.seq (writeM_write hcf); intro _
  apply Step.seq (writeM_write hres); intro _
  exact Step.pure hres

theorem convertFractionValue_fresh {db : Db} {fvr : Ref} {q : Nat} {toU : Sym} :
    Step (.frame n) (convertFractionValue db fvr q toU) (fun r => n ≤ r) := by
  unfold convertFractionValue
  apply Step.seq readFv_step; intro fvc
  apply Step.seq getQ_step; intro o
  apply Step.seq
  · step_auto
  intro cq
  exact convertFractionValue_tail.frame

end

end Barril.Heap
