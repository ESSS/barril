/-
Lemmas for C05 (model `Barril/Model/Fail.lean`).  The invariants of the two sessions (`Inv`, `XInv`: whatever a
memo table or cache holds is what a fresh database object over the same registry answers), the answers as
functions of the registry alone (`newQuantityPure`, `answer`, `xanswer`), and one refinement statement per
operation, up to `step_spec` / `xstep_spec`: the invariant is kept and the answer is the pure one.
-/
import Barril.Model.Fail
import Barril.Proofs.ConvBasics

namespace Barril.Fail

def MemoInv (db : Db) (s : FState) : Prop :=
  ∀ k v, (k, v) ∈ s.memo → v = db.categoryUnitValid k.1 k.2

def CacheInv (db : Db) (s : FState) : Prop :=
  ∀ k q, (k, q) ∈ s.cache → (newQuantity db FState.empty k.1 k.2).2 = .ok q

def Inv (db : Db) (s : FState) : Prop := MemoInv db s ∧ CacheInv db s

theorem inv_empty (db : Db) : Inv db FState.empty :=
  ⟨fun _ _ h => by simp [FState.empty] at h, fun _ _ h => by simp [FState.empty] at h⟩

theorem check_spec {db : Db} {s : FState} (h : MemoInv db s) (c u : Sym) :
    ∃ s1, checkCategoryUnit db s c u = (s1, db.categoryUnitValid c u) ∧ MemoInv db s1 ∧ s1.cache = s.cache := by
  unfold checkCategoryUnit
  cases hl : lookupMemo s.memo (c, u) with
  | some v => exact ⟨s, by rw [h _ _ (lookup_some hl)], h, rfl⟩
  | none =>
    refine ⟨_, rfl, fun k v hm => ?_, rfl⟩
    rcases List.mem_cons.mp hm with hm | hm
    · cases hm; rfl
    · exact h k v hm

/-- the creation verdict as a pure function of the database -/
def newQuantityPure (db : Db) (c u : Sym) : Except ErrKind Simple :=
  match db.catByName c with
  | none => .error .units
  | some _ =>
    if db.categoryUnitValid c u then .ok ⟨c, u⟩
    else if isLegacy db.legacy u then
      if db.categoryUnitValid c (fixLegacy db.legacy u) then .ok ⟨c, fixLegacy db.legacy u⟩
      else .error .units
    else .error .units

theorem newQuantity_spec {db : Db} {s : FState} (h : MemoInv db s) (c u : Sym) :
    ∃ s1, newQuantity db s c u = (s1, newQuantityPure db c u) ∧ MemoInv db s1 ∧ s1.cache = s.cache := by
  unfold newQuantity newQuantityPure
  cases db.catByName c with
  | none => exact ⟨s, rfl, h, rfl⟩
  | some ci =>
    obtain ⟨s1, e1, m1, c1⟩ := check_spec h c u
    simp only [e1]
    split
    · exact ⟨s1, rfl, m1, c1⟩
    · split
      · obtain ⟨s2, e2, m2, c2⟩ := check_spec m1 c (fixLegacy db.legacy u)
        simp only [e2]
        split <;> exact ⟨s2, rfl, m2, c2.trans c1⟩
      · exact ⟨s1, rfl, m1, c1⟩

theorem newQuantity_empty (db : Db) (c u : Sym) :
    (newQuantity db FState.empty c u).2 = newQuantityPure db c u := by
  obtain ⟨s1, e, _⟩ := newQuantity_spec (inv_empty db).1 c u
  rw [e]

theorem cache_hit_val {db : Db} {s : FState} (h : Inv db s) {c u : Sym} {q : Simple}
    (hl : lookupCache s.cache (c, u) = some q) : newQuantityPure db c u = .ok q :=
  newQuantity_empty db c u ▸ h.2 _ _ (lookup_some hl)

theorem Inv.after {db : Db} {s s1 : FState} (h : Inv db s) (m1 : MemoInv db s1) (c1 : s1.cache = s.cache) :
    Inv db s1 ∧ ∀ c u q, newQuantityPure db c u = .ok q → Inv db { s1 with cache := ((c, u), q) :: s1.cache } := by
  have hc : CacheInv db s1 := fun k q hk => h.2 k q (c1 ▸ hk)
  refine ⟨⟨m1, hc⟩, fun c u q hq => ⟨m1, fun k q' hk => ?_⟩⟩
  rcases List.mem_cons.mp hk with hk | hk
  · cases hk
    exact newQuantity_empty db c u ▸ hq
  · exact hc k q' hk

theorem obtain_spec {db : Db} {s : FState} (h : Inv db s) (c u : Sym) :
    ∃ s1, obtain db s c u = (s1, newQuantityPure db c u) ∧ Inv db s1 := by
  unfold obtain
  cases hl : lookupCache s.cache (c, u) with
  | some q => exact ⟨s, by rw [cache_hit_val h hl], h⟩
  | none =>
    obtain ⟨s1, e1, m1, c1⟩ := newQuantity_spec h.1 c u
    obtain ⟨i1, i2⟩ := h.after m1 c1
    simp only [e1]
    cases hq : newQuantityPure db c u with
    | error e => exact ⟨s1, rfl, i1⟩
    | ok q => exact ⟨_, rfl, i2 c u q hq⟩

/-! ## the extended session: alias entries, derived entries, registrations -/

/-- what `ObtainQuantity(unit)` answers on a database object whose memo tables are empty -/
def obtainUPure (db : Db) (u : Sym) : Except ErrKind Simple :=
  match resolveDefault db u with
  | .error e => .error e
  | .ok (c, u') => if c = 0 then .error .type else newQuantityPure db c u'

/-- what `ObtainQuantity(dict)` answers on a database object whose memo tables are empty -/
def obtainDictPure (db : Db) (es : List Ent) : Except ErrKind Quant :=
  match simpleCase es with
  | some (c, u) => exMap (Quant.ofSimple db) (newQuantityPure db c u)
  | none => newDerivedChecked db es

def createDerivedPure (db : Db) (es : List Ent) : Except ErrKind Quant :=
  match validateEntries db es with
  | .error e => .error e
  | .ok _ => obtainDictPure db es

/-- the invariant of the extended session: whatever sits in one of the memo tables is what a database
object with empty tables over the CURRENT registry answers -/
structure XInv (st : XState) : Prop where
  base : Inv st.db st.s
  alias : ∀ u q, (u, q) ∈ st.alias → obtainUPure st.db u = .ok q
  dcache : ∀ es q, (es, q) ∈ st.dcache → newDerivedChecked st.db es = .ok q

theorem xinv_fresh (db : Db) : XInv (XState.fresh db) :=
  ⟨inv_empty db, fun _ _ h => by simp [XState.fresh] at h, fun _ _ h => by simp [XState.fresh] at h⟩

/-- fixing the legacy spelling of `u` once reaches a spelling that a second fixing leaves alone (so for every
spelling of the shipped list the checks have met; for a unit where this fails the code's answer depends on
the alias entries) -/
def LegacyStable (L : List (Sym × Sym)) (u : Sym) : Prop := isLegacy L (fixLegacy L u) = false

instance (L : List (Sym × Sym)) (u : Sym) : Decidable (LegacyStable L u) := by
  unfold LegacyStable; infer_instance

theorem resolveDefault_zero {db : Db} {u u' : Sym} (h : resolveDefault db u = .ok (0, u')) :
    u' = fixLegacy db.legacy u ∧ getDefaultCategory db u' = .ok 0 := by
  unfold resolveDefault at h
  split at h
  · cases h
  · split at h
    · rename_i hc; cases h; simp at hc
    · split at h
      · split at h
        · cases h
        · rename_i hg2; cases h; exact ⟨rfl, hg2⟩
      · cases h

theorem obtainUPure_no_category {db : Db} {u : Sym} (hg : getDefaultCategory db u = .ok 0)
    (hl : isLegacy db.legacy u = false) (q : Simple) : obtainUPure db u ≠ .ok q := by
  unfold obtainUPure resolveDefault
  rw [hg]
  simp [hl]

theorem obtainU_spec {st : XState} (h : XInv st) (u : Sym) :
    XInv (obtainU st u).1 ∧
    (LegacyStable st.db.legacy u → (obtainU st u).2 = obtainUPure st.db u) := by
  unfold obtainU
  cases ha : lookupAlias st.alias u with
  | some q => exact ⟨h, fun _ => (h.alias _ _ (lookup_some ha)).symm⟩
  | none =>
    simp only [obtainUPure]
    cases hr : resolveDefault st.db u with
    | error e => exact ⟨h, fun _ => rfl⟩
    | ok cu =>
      obtain ⟨c, u'⟩ := cu
      simp only
      split
      · rename_i hc
        subst hc
        cases ha' : lookupAlias st.alias u' with
        | none => exact ⟨h, fun _ => rfl⟩
        | some q =>
          -- such an entry would sit under the fixed spelling of `u`, which has no category
          refine ⟨h, fun hs => ?_⟩
          obtain ⟨rfl, hg⟩ := resolveDefault_zero hr
          exact absurd (h.alias _ _ (lookup_some ha')) (obtainUPure_no_category hg hs q)
      · rename_i hc
        cases hl : lookupCache st.s.cache (c, u') with
        | some q => exact ⟨h, fun _ => (cache_hit_val h.base hl).symm⟩
        | none =>
          obtain ⟨s1, e1, m1, c1⟩ := newQuantity_spec h.base.1 c u'
          obtain ⟨i1, i2⟩ := h.base.after m1 c1
          simp only [e1]
          cases hq : newQuantityPure st.db c u' with
          | error e => exact ⟨⟨i1, h.alias, h.dcache⟩, fun _ => rfl⟩
          | ok q =>
            refine ⟨⟨i2 c u' q hq, fun v q' hm => ?_, h.dcache⟩, fun _ => rfl⟩
            rcases List.mem_cons.mp hm with hm | hm
            · cases hm
              simp only [obtainUPure, hr, hc, ↓reduceIte, hq]
            · exact h.alias v q' hm

theorem obtainU_db (st : XState) (u : Sym) : (obtainU st u).1.db = st.db := by
  unfold obtainU
  split
  · rfl
  · split
    · rfl
    · split
      · split <;> rfl
      · split
        · rfl
        · split <;> rfl

theorem obtainDict_spec {st : XState} (h : XInv st) (es : List Ent) :
    ∃ st1, obtainDict st es = (st1, obtainDictPure st.db es) ∧ XInv st1 ∧ st1.db = st.db := by
  unfold obtainDict obtainDictPure
  cases hsc : simpleCase es with
  | some cu =>
    obtain ⟨c, u⟩ := cu
    obtain ⟨s1, e1, i1⟩ := obtain_spec h.base c u
    simp only [e1]
    cases newQuantityPure st.db c u <;> exact ⟨_, rfl, ⟨i1, h.alias, h.dcache⟩, rfl⟩
  | none =>
    simp only
    cases hl : lookupD st.dcache es with
    | some q => exact ⟨st, by rw [h.dcache _ _ (lookup_some hl)], h, rfl⟩
    | none =>
      simp only
      cases hn : newDerivedChecked st.db es with
      | error e => exact ⟨st, rfl, h, rfl⟩
      | ok q =>
        refine ⟨_, rfl, ⟨h.base, h.alias, fun k q' hm => ?_⟩, rfl⟩
        rcases List.mem_cons.mp hm with hm | hm
        · cases hm; exact hn
        · exact h.dcache k q' hm

theorem obtainDict_db (st : XState) (es : List Ent) : (obtainDict st es).1.db = st.db := by
  unfold obtainDict
  split
  · split <;> rfl
  · split
    · rfl
    · split <;> rfl

theorem createDerived_spec {st : XState} (h : XInv st) (es : List Ent) :
    ∃ st1, createDerived st es = (st1, createDerivedPure st.db es) ∧ XInv st1 := by
  unfold createDerived createDerivedPure
  cases validateEntries st.db es with
  | error e => exact ⟨st, rfl, h⟩
  | ok _ =>
    obtain ⟨st1, e, i, _⟩ := obtainDict_spec h es
    exact ⟨st1, e, i⟩

theorem createDerived_db (st : XState) (es : List Ent) : (createDerived st es).1.db = st.db := by
  unfold createDerived
  cases validateEntries st.db es with
  | error e => rfl
  | ok _ => exact obtainDict_db st es

theorem applyReg_legacy {db db' : Db} {r : RegOp} (h : applyReg db r = .ok db') : db'.legacy = db.legacy := by
  cases r with
  | addCategory c qt ov =>
    simp only [applyReg] at h
    split at h
    · cases h
    · split at h
      · cases h
      · cases h; rfl
  | addUnit qt name u dc k =>
    simp only [applyReg] at h
    split at h
    · cases h
    · cases h; rfl

/-! ### the answer of a step as a function of the registry -/

def answer (db : Db) : FOp → Except ErrKind FOut
  | .create c u =>
    match newQuantityPure db c u with
    | .ok q => .ok (.quantity q)
    | .error e => .error e
  | .check c u => if db.categoryUnitValid c u then .ok .unit else .error .units
  | .convert cq u v x =>
    match db.convert cq u v x with
    | .ok y => .ok (.number y)
    | .error e => .error e
  | .arith op c1 u1 c2 u2 x y =>
    match newQuantityPure db c1 u1 with
    | .error e => .error e
    | .ok a =>
      match newQuantityPure db c2 u2 with
      | .error e => .error e
      | .ok b =>
        match addSub db op a b x y with
        | .ok (q, z) => .ok (.qnumber q z)
        | .error e => .error e
  | .cmp op c1 u1 c2 u2 x y =>
    match newQuantityPure db c1 u1 with
    | .error e => .error e
    | .ok a =>
      match newQuantityPure db c2 u2 with
      | .error e => .error e
      | .ok b =>
        match order db op a b x y with
        | .ok r => .ok (.bool r)
        | .error e => .error e

/-- **in every state that satisfies the invariant every operation keeps it and answers as a function of
the database alone**: neither table is ever visible in an answer -/
theorem step_spec {db : Db} {s : FState} (hs : Inv db s) (op : FOp) :
    Inv db (step db s op).1 ∧ (step db s op).2 = answer db op := by
  cases op with
  | create c u =>
    obtain ⟨s1, e, i1⟩ := obtain_spec hs c u
    simp only [step, answer, e]
    cases newQuantityPure db c u <;> exact ⟨i1, rfl⟩
  | check c u =>
    obtain ⟨s1, e, m1, c1⟩ := check_spec hs.1 c u
    simp only [step, answer]
    rw [e]
    exact ⟨(hs.after m1 c1).1, rfl⟩
  | convert cq u v x => exact ⟨hs, rfl⟩
  | arith op c1 u1 c2 u2 x y | cmp op c1 u1 c2 u2 x y =>
    obtain ⟨s1, e1, i1⟩ := obtain_spec hs c1 u1
    simp only [step, answer, e1]
    cases newQuantityPure db c1 u1 with
    | error e => exact ⟨i1, rfl⟩
    | ok a =>
      obtain ⟨s2, e2, i2⟩ := obtain_spec i1 c2 u2
      simp only [e2]
      cases newQuantityPure db c2 u2 <;> exact ⟨i2, rfl⟩

/-- the operations whose answer the theorems below speak about: all of them, except `ObtainQuantity(unit)`
for a unit string that a SECOND legacy fixing would change again (see `LegacyStable`) -/
def XOp.Tame (L : List (Sym × Sym)) : XOp → Prop
  | .createU u => LegacyStable L u
  | _ => True

/-- the answer of a step as a function of the registry alone -/
def xanswer (db : Db) : XOp → Except ErrKind XOut
  | .plain op => exMap XOut.plain (step db FState.empty op).2
  | .createU u => exMap (fun q => XOut.plain (.quantity q)) (obtainUPure db u)
  | .createDict v es => exMap XOut.quant (if v then createDerivedPure db es else obtainDictPure db es)
  | .cmpq op ea eb x y =>
    match obtainDictPure db ea with
    | .error e => .error e
    | .ok a =>
      match obtainDictPure db eb with
      | .error e => .error e
      | .ok b => exMap (fun r => XOut.plain (.bool r)) (orderQ db op a b x y)
  | .reg r =>
    match applyReg db r with
    | .ok _ => .ok (.plain .unit)
    | .error e => .error e
  | .sumq op a b x y => sumAnswer db op a b x y
  | .eqq a b => .ok (.plain (.bool (a.eqv b)))

/-- **in any reachable state of the extended session every operation keeps the invariant and answers as
a function of the current registry alone** -/
theorem xstep_spec {st : XState} (h : XInv st) (op : XOp) :
    XInv (xstep st op).1 ∧ (op.Tame st.db.legacy → (xstep st op).2 = xanswer st.db op) := by
  cases op with
  | plain op =>
    obtain ⟨i, v⟩ := step_spec h.base op
    exact ⟨⟨i, h.alias, h.dcache⟩, fun _ => by simp only [xstep, xanswer, v, (step_spec (inv_empty st.db) op).2]⟩
  | createU u =>
    obtain ⟨i, v⟩ := obtainU_spec h u
    exact ⟨i, fun ht => by simp only [xstep, xanswer, v ht]⟩
  | createDict v es =>
    simp only [xstep, xanswer]
    cases v with
    | true =>
      obtain ⟨st1, e, i⟩ := createDerived_spec h es
      rw [e]
      exact ⟨i, fun _ => rfl⟩
    | false =>
      obtain ⟨st1, e, i, _⟩ := obtainDict_spec h es
      rw [e]
      exact ⟨i, fun _ => rfl⟩
  | cmpq op ea eb x y =>
    obtain ⟨st1, e1, i1, d1⟩ := obtainDict_spec h ea
    simp only [xstep, xanswer, e1]
    cases obtainDictPure st.db ea with
    | error e => exact ⟨i1, fun _ => rfl⟩
    | ok a =>
      obtain ⟨st2, e2, i2, d2⟩ := obtainDict_spec i1 eb
      simp only [e2, d1]
      cases obtainDictPure st.db eb with
      | error e => exact ⟨i2, fun _ => rfl⟩
      | ok b => exact ⟨i2, fun _ => by simp only [d2, d1]⟩
  | reg r =>
    simp only [xstep, xanswer]
    cases applyReg st.db r with
    | ok db' => exact ⟨xinv_fresh db', fun _ => rfl⟩
    | error e => exact ⟨h, fun _ => rfl⟩
  | sumq op a b x y => exact ⟨h, fun _ => rfl⟩
  | eqq a b => exact ⟨h, fun _ => rfl⟩

/-- the registry after a step: only a successful registration changes it -/
def nextDb (db : Db) : XOp → Db
  | .reg r => match applyReg db r with
    | .ok db' => db'
    | .error _ => db
  | _ => db

theorem xstep_db (st : XState) (op : XOp) : (xstep st op).1.db = nextDb st.db op := by
  cases op with
  | plain op => rfl
  | createU u => exact obtainU_db st u
  | createDict v es =>
    simp only [xstep, nextDb]
    split
    · exact createDerived_db st es
    · exact obtainDict_db st es
  | cmpq op ea eb x y =>
    simp only [xstep, nextDb]
    have h1 := obtainDict_db st ea
    split
    · rename_i st1 e heq
      rw [heq] at h1; exact h1
    · rename_i st1 a heq
      rw [heq] at h1
      have h2 := obtainDict_db st1 eb
      split
      · rename_i st2 e heq2
        rw [heq2] at h2; exact h2.trans h1
      · rename_i st2 b heq2
        rw [heq2] at h2; exact h2.trans h1
  | reg r =>
    simp only [xstep, nextDb]
    cases applyReg st.db r <;> rfl
  | sumq op a b x y => rfl
  | eqq a b => rfl

theorem nextDb_legacy (db : Db) (op : XOp) : (nextDb db op).legacy = db.legacy := by
  cases op with
  | reg r =>
    simp only [nextDb]
    cases h : applyReg db r with
    | ok db' => exact applyReg_legacy h
    | error e => rfl
  | _ => rfl

theorem run_append_single (db : Db) (before : List FOp) (op : FOp) (s0 : FState) :
    run db s0 (before ++ [op]) = (step db (run db s0 before) op).1 := by
  induction before generalizing s0 with
  | nil => rfl
  | cons b bs ih => simp only [List.cons_append, run]; exact ih _

theorem xrun_append_single (before : List XOp) (op : XOp) (s0 : XState) :
    xrun s0 (before ++ [op]) = (xstep (xrun s0 before) op).1 := by
  induction before generalizing s0 with
  | nil => rfl
  | cons b bs ih => simp only [List.cons_append, xrun]; exact ih _

/-! ### `GetInfo` on a unit that is not of the requested type -/

theorem tryInfo_none_of {db : Db} {qt v : Sym} (h : ∀ r ∈ db.units, r.sym = v → r.qtype ≠ qt) :
    db.tryInfo qt v = none := by
  unfold Db.tryInfo Db.unitBySym
  cases hf : db.units.find? (·.sym == v) with
  | none => rfl
  | some r =>
    have hm := List.mem_of_find?_eq_some hf
    have hs := List.find?_some hf
    simp only [beq_iff_eq] at hs
    have := h r hm hs
    simp [this]

/-- `GetInfo` raises a units error for a unit no row of which is of the requested type (directly or after
resolving the type as a category), when neither the `Unknown` exemption nor the legacy fallback applies -/
theorem getInfo_units_error {db : Db} {qt v : Sym} {fu fl : Bool}
    (hd : ∀ r ∈ db.units, r.sym = v → r.qtype ≠ qt ∧ r.qtype ≠ db.resolveQt qt)
    (hk : fu = false ∨ db.resolveQt qt ≠ unknownQType)
    (hl : fl = false ∨ isLegacy db.legacy v = false ∨
      ∀ r ∈ db.units, r.sym = fixLegacy db.legacy v → r.qtype ≠ db.resolveQt qt) :
    db.getInfo qt v fu fl = .error .units := by
  unfold Db.getInfo
  rw [tryInfo_none_of (fun r hr hs => (hd r hr hs).1)]
  simp only
  split
  · rfl
  · have hfind : (db.unitsOfType (db.resolveQt qt)).find? (·.sym == v) = none := by
      apply List.find?_eq_none.mpr
      intro r hr
      unfold Db.unitsOfType at hr
      obtain ⟨hm, hq⟩ := List.mem_filter.mp hr
      simp only [beq_iff_eq] at hq
      intro hs
      simp only [beq_iff_eq] at hs
      exact (hd r hm hs).2 hq
    have hunk : db.infoUnknown (db.resolveQt qt) fu = none := by
      unfold Db.infoUnknown
      rcases hk with hk | hk
      · simp [hk]
      · have : (db.resolveQt qt == unknownQType) = false := by simpa using hk
        simp [this]
    have hleg : db.infoLegacy (db.resolveQt qt) v fl = none := by
      unfold Db.infoLegacy
      rcases hl with hl | hl | hl
      · simp [hl]
      · simp [hl]
      · split
        · exact tryInfo_none_of hl
        · rfl
    simp only [hfind, hunk, hleg]

/-- `categoryUnitValid` is false for a unit that is not of the category's quantity type
(`CheckQuantityTypeUnit` does not even try the legacy fallback) -/
theorem categoryUnitValid_false {db : Db} {c u : Sym} {ci : CatRow} (hc : db.catByName c = some ci)
    (hd : ∀ r ∈ db.units, r.sym = u → r.qtype ≠ ci.qtype ∧ r.qtype ≠ db.resolveQt ci.qtype) :
    db.categoryUnitValid c u = false := by
  unfold Db.categoryUnitValid Db.checkQuantityTypeUnit
  rw [hc]
  simp only [getInfo_units_error hd (.inl rfl) (.inl rfl)]

end Barril.Fail
