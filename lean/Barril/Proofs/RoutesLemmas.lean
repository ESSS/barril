/-
Helper lemmas for C02 (engine `Routes`): the container loop `mapE` and the container kinds; the string-unit routes
as equations over `Db.row` (`convertStr_eq`, `convScale_eq`); the unit-system manager of this engine (`Mgr.WF`, what
an edit of the current mapping does).
-/
import Barril.Model.Routes
import Barril.Proofs.ConvLemmas

namespace Barril.Routes
open Barril

@[simp] theorem mapE_nil {α β : Type} (f : α → Except ErrKind β) : mapE f [] = .ok [] := rfl

theorem mapE_ok_id {α : Type} (xs : List α) : mapE (fun x => (.ok x : Except ErrKind α)) xs = .ok xs := by
  induction xs with
  | nil => rfl
  | cons a as ih => simp [mapE, ih]

/-- the one induction behind every container route: `mapE` commutes with a change of how items and results are
represented (`g`, `g'`) -/
theorem mapE_map {α β γ δ : Type} {f : γ → Except ErrKind δ} {g : α → γ} {h : α → Except ErrKind β} {g' : β → δ}
    (H : ∀ x, f (g x) = (h x).map g') (xs : List α) : mapE f (xs.map g) = (mapE h xs).map (List.map g') := by
  induction xs with
  | nil => rfl
  | cons x xs ih =>
    simp only [List.map_cons, mapE, H, ih]
    cases h x with
    | error e => rfl
    | ok y => cases mapE h xs <;> rfl

/-- element by element: same length and every output is the function's value on the input at the
same position -/
def Elementwise {α β : Type} (f : α → Except ErrKind β) (xs : List α) (ys : List β) : Prop :=
  xs.length = ys.length ∧ ∀ (i : Nat) (x : α) (y : β), xs[i]? = some x → ys[i]? = some y → f x = .ok y

theorem mapE_ok_elementwise {α β : Type} {f : α → Except ErrKind β} {xs : List α} {ys : List β}
    (h : mapE f xs = .ok ys) : Elementwise f xs ys := by
  induction xs generalizing ys with
  | nil => cases h; exact ⟨rfl, by simp⟩
  | cons a as ih =>
    simp only [mapE] at h
    split at h
    · cases h
    · rename_i b hb
      split at h
      · cases h
      · rename_i bs hbs
        cases h
        obtain ⟨hl, hp⟩ := ih hbs
        refine ⟨by simp [hl], fun i x y hx hy => ?_⟩
        cases i with
        | zero => simp at hx hy; subst hx hy; exact hb
        | succ i => exact hp i x y (by simpa using hx) (by simpa using hy)

theorem mapE_total {α β : Type} {f : α → Except ErrKind β} (h : ∀ x, ∃ y, f x = .ok y) (xs : List α) :
    ∃ ys, mapE f xs = .ok ys := by
  induction xs with
  | nil => exact ⟨[], rfl⟩
  | cons a as ih =>
    obtain ⟨b, hb⟩ := h a
    obtain ⟨bs, hbs⟩ := ih
    exact ⟨b :: bs, by simp [mapE, hb, hbs]⟩

inductive Kind
  | list
  | tuple
  | nd
deriving DecidableEq, Repr

/-- the container of kind `k` holding the numbers `xs` -/
def Kind.mk : Kind → List Rat → Val
  | .list, xs => .list (xs.map .num)
  | .tuple, xs => .tuple (xs.map .num)
  | .nd, xs => .nd xs

/-- a list (`false`) or tuple (`true`) of tuples of numbers -/
def mkTuples (outerTuple : Bool) (xss : List (List Rat)) : Val :=
  if outerTuple then .tuple (xss.map .tup) else .list (xss.map .tup)

theorem applyVal_kind (a b : UnitRow) (k : Kind) (xs : List Rat) :
    applyVal a b (k.mk xs) = (mapE (convRows a b) xs).map k.mk := by
  have hnums : mapE (applyElem a b) (xs.map .num) = (mapE (convRows a b) xs).map (List.map Elem.num) :=
    mapE_map (fun x => by simp only [applyElem]; cases convRows a b x <;> rfl) xs
  cases k with
  | list | tuple =>
    simp only [Kind.mk, applyVal, hnums]
    cases mapE (convRows a b) xs <;> rfl
  | nd =>
    simp only [Kind.mk, applyVal]
    cases mapE (convRows a b) xs <;> rfl

theorem isListOfTuples_kind (k : Kind) (xs : List Rat) : isListOfTuples (k.mk xs) = false := by
  cases k <;> cases xs <;> rfl

theorem index_kind (k : Kind) {xs : List Rat} {i : Int} {j : Nat} {x : Rat} (hi : normIndex xs.length i = .ok j)
    (hx : xs[j]? = some x) : (k.mk xs).index i = .ok (.num x) := by
  unfold Val.index
  cases k <;> simp [Kind.mk, Val.items, hi, hx]

theorem mapE_convert_same (db : Db) (cq u : Sym) (xs : List Rat) : mapE (db.convert cq u u) xs = .ok xs :=
  (funext (Db.convert_same db cq u) : db.convert cq u u = Except.ok) ▸ mapE_ok_id xs

theorem convertStr_eq (db : Db) (cq u v : Sym) (val : Val) :
    convertStr db (.str cq) u v val =
      if u == v then .ok val else
      match db.row cq u with
      | .error e => .error e
      | .ok a =>
        match db.row cq v with
        | .error e => .error e
        | .ok b => applyVal a b val := by
  simp only [convertStr, CatArg.typeOf, Db.row]
  cases db.typeOf cq <;> rfl

theorem convertStr_num (db : Db) (cq u v : Sym) (x : Rat) :
    convertStr db (.str cq) u v (.num x) = wrapNum (db.convert cq u v x) := by
  rw [convertStr_eq, Db.convert_eq]
  split
  · rfl
  · cases db.row cq u with
    | error e => rfl
    | ok a => cases db.row cq v <;> rfl

/-- a flat container of any kind: the conversion of every element, provided the unit pair converts
at all (an empty container of an inconvertible pair still raises) -/
theorem convertStr_kind {db : Db} {cq u v : Sym} {x0 y0 : Rat} (h : db.convert cq u v x0 = .ok y0)
    (k : Kind) (xs : List Rat) :
    convertStr db (.str cq) u v (k.mk xs) = (mapE (db.convert cq u v) xs).map k.mk := by
  rcases Db.convert_ok_rows h with rfl | ⟨huv, a, b, ha, hb⟩
  · simp [convertStr_eq, mapE_convert_same, Except.map]
  · rw [funext (Db.convert_of_rows huv ha hb), convertStr_eq, if_neg (by simpa using huv), ha, hb]
    exact applyVal_kind a b k xs

theorem scaleOf_convRows {a b : UnitRow} {k : Rat} (h : scaleOf a b = some k) (x : Rat) :
    convRows a b x = .ok (k * x) := by
  unfold scaleOf at h
  split at h
  · rename_i hcond
    simp only [Bool.and_eq_true, beq_iff_eq, bne_iff_ne, ne_eq] at hcond
    obtain ⟨⟨⟨⟨⟨⟨⟨o1, o2⟩, tp⟩, ts⟩, tr⟩, fp⟩, fs⟩, fr⟩ := hcond
    cases h
    unfold convRows Mob.apply Mob.eval
    simp [o1, o2, tp, ts, tr, fp, fs, fr]
    field_simp
  · cases h

theorem convScale_eq (db : Db) (cq u v : Sym) :
    convScale db (.str cq) u v =
      if u == v then some (.ok 1) else
      match db.row cq u with
      | .error e => some (.error e)
      | .ok a =>
        match db.row cq v with
        | .error e => some (.error e)
        | .ok b =>
          match scaleOf a b with
          | none => none
          | some k => some (.ok k) := by
  simp only [convScale, CatArg.typeOf, Db.row]
  cases db.typeOf cq <;> rfl

theorem normIndex_lt {n : Nat} {i : Int} {j : Nat} (h : normIndex n i = .ok j) : j < n := by
  unfold normIndex at h
  split at h
  · split at h
    · cases h; assumption
    · cases h
  · split at h
    · cases h; omega
    · cases h

/-- `FixedArray.ChangingIndex` once its three inputs are known: the Scalar `s` the new value stands for, the array's
numbers `ys` in the unit of the quantity the result takes (`s`'s with `use_value_unit`, else the array's own), and the
amount `y` of `s` in that unit -/
theorem changingIndex_of {db : Db} {fa : FixedArr} {i : Int} {j : Nat} {nv : NewValue} {s : Scalar} (b : Bool)
    {k : Kind} {ys : List Rat} {y : Rat} (hs : fa.scalarFor db i nv = .ok s)
    (hv : fa.arr.getValues db (some (if b then s.q else fa.arr.q).unit) = .ok (k.mk ys))
    (hy : s.getValue db (some (if b then s.q else fa.arr.q).unit) = .ok y)
    (hi : normIndex ys.length i = .ok j) (hdim : fa.dim = ys.length) (hn : 2 ≤ ys.length) :
    fa.changingIndex db i nv b
      = .ok ⟨fa.dim, ⟨if b then s.q else fa.arr.q, .tuple (setAt (ys.map .num) j (.num y))⟩⟩ := by
  have hn' : ¬ ys.length < 2 := by omega
  simp only [FixedArr.changingIndex, hs, hv, hy]
  cases k <;> simp [Kind.mk, Val.items, hi, hdim, hn']

theorem mapE_convert_ok {db : Db} (hdb : db.AllWF) {cq u v : Sym} {x0 y0 : Rat} (h : db.convert cq u v x0 = .ok y0)
    (xs : List Rat) : ∃ ys, mapE (db.convert cq u v) xs = .ok ys ∧ Elementwise (db.convert cq u v) xs ys := by
  obtain ⟨φ, _, hφ⟩ := Db.convert_map hdb h
  obtain ⟨ys, hys⟩ := mapE_total (fun x => ⟨φ x, hφ x⟩) xs
  exact ⟨ys, hys, mapE_ok_elementwise hys⟩

theorem catByName_name {db : Db} {c : Sym} {ci : CatRow} (h : db.catByName c = some ci) : ci.name = c := by
  simpa using List.find?_some h

theorem newSimple_ok {db : Db} {c u : Sym} {q : Quantity} (h : newSimple db c u = .ok q) :
    ∃ ci u' row, db.catByName c = some ci ∧ db.getInfo ci.qtype u' true = .ok row
      ∧ q = .simple c ci.qtype u' row := by
  unfold newSimple at h
  split at h
  · cases h
  · rename_i ci hci
    split at h
    · cases h
    · split at h
      · cases h
      · rename_i u' _ _ row hrow
        cases h
        exact ⟨ci, u', row, hci, hrow, rfl⟩

/-- `Array.GetValues(unit)` of a simple quantity, not over a list of tuples, is `Quantity.Convert` on the values: its
same-unit shortcut is the one `UnitDatabase.Convert` has itself -/
theorem getValues_simple (db : Db) (c qt u : Sym) (row : UnitRow) {vals : Val} (hl : isListOfTuples vals = false)
    (v : Sym) :
    (Arr.mk (.simple c qt u row) vals).getValues db (some v) = (Quantity.simple c qt u row).convert db vals v := by
  simp only [Arr.getValues, hl, Quantity.unit]
  split
  · rename_i hvu
    rw [beq_iff_eq.mp hvu]
    simp [Quantity.convert, convertTo, Quantity.composingUnits, convertStr]
  · rfl

theorem find_dictSet (m : List (Sym × Sym)) (c c' u : Sym) :
    (dictSet c u m).find? (·.1 == c') = if c = c' then some (c, u) else m.find? (·.1 == c') := by
  induction m with
  | nil => by_cases h : c = c' <;> simp [dictSet, h]
  | cons p rest ih =>
    obtain ⟨k, v⟩ := p
    simp only [dictSet]
    by_cases hk : k = c
    · subst hk
      by_cases h : k = c' <;> simp [h]
    · by_cases hk' : k = c'
      · subst hk'
        simp [hk, Ne.symm hk]
      · simp [hk, hk', ih]

theorem systemDefaultUnit_dictSet (m : List (Sym × Sym)) {c : Sym} (u : Sym) (hc : c ≠ 0) :
    systemDefaultUnit (dictSet c u m) c = some u := by
  simp [systemDefaultUnit, hc, find_dictSet]

theorem systemDefaultUnit_dictSet_other (m : List (Sym × Sym)) {c c' : Sym} (u : Sym) (h : c' ≠ c) :
    systemDefaultUnit (dictSet c u m) c' = systemDefaultUnit m c' := by
  simp [systemDefaultUnit, find_dictSet, Ne.symm h]

theorem systemDefaultUnit_dictDel (m : List (Sym × Sym)) (c : Sym) :
    systemDefaultUnit (dictDel c m) c = none := by
  simp [systemDefaultUnit, dictDel, List.find?_eq_none]

theorem find_mapSys (id : Sym) (f : List (Sym × Sym) → List (Sym × Sym)) (l : List USys) :
    (mapSys id f l).find? (·.id == id) = (l.find? (·.id == id)).map (fun s => { s with mapping := f s.mapping }) := by
  induction l with
  | nil => rfl
  | cons s rest ih => by_cases h : (s.id == id) = true <;> simp [mapSys, h, ih]

theorem map_id_mapSys (id : Sym) (f : List (Sym × Sym) → List (Sym × Sym)) (l : List USys) :
    (mapSys id f l).map (·.id) = l.map (·.id) := by
  induction l with
  | nil => rfl
  | cons s rest ih => by_cases h : (s.id == id) = true <;> simp [mapSys, h, ih]

/-- the current system is one of the manager's systems (kept by every step) -/
def Mgr.WF (m : Mgr) : Prop := ∀ id, m.current = some id → ∃ s, m.find id = some s

theorem Mgr.find_isSome (m : Mgr) (id : Sym) : (m.find id).isSome = true ↔ id ∈ m.systems.map (·.id) := by
  simp [Mgr.find]

theorem Mgr.WF_iff (m : Mgr) : m.WF ↔ ∀ id, m.current = some id → id ∈ m.systems.map (·.id) := by
  simp only [Mgr.WF, ← Option.isSome_iff_exists, Mgr.find_isSome]

/-- an in-place edit `f` of the mapping of `GetCurrent()` (`SetDefaultUnit`, `RemoveCategory`) cannot fail, and
the mapping then current is `f` of the one current before -/
theorem Mgr.edit_current {m : Mgr} (hwf : m.WF) (f : List (Sym × Sym) → List (Sym × Sym)) :
    ∃ m', m.edit none f = .ok m' ∧ m'.currentMapping = f m.currentMapping := by
  unfold Mgr.edit
  cases hc : m.current with
  | none => exact ⟨_, rfl, by simp [Mgr.currentMapping, hc]⟩
  | some id =>
    obtain ⟨s, hs⟩ := hwf id hc
    unfold Mgr.find at hs
    exact ⟨_, rfl, by simp [Mgr.currentMapping, hc, Mgr.find, find_mapSys, hs]⟩

theorem Mgr.edit_wf {m m' : Mgr} (hwf : m.WF) (on : Option Sym) (f : List (Sym × Sym) → List (Sym × Sym))
    (h : m.edit on f = .ok m') : m'.WF := by
  rw [Mgr.WF_iff] at hwf ⊢
  cases on with
  | some id =>
    simp only [Mgr.edit] at h
    split at h <;> cases h
    simpa [map_id_mapSys] using hwf
  | none =>
    simp only [Mgr.edit] at h
    split at h <;> cases h <;> simpa [map_id_mapSys] using hwf

theorem Mgr.step_wf (db : Db) {m : Mgr} (hwf : m.WF) (op : MgrOp) : (m.step db op).1.WF := by
  cases op with
  | convert c u val => exact hwf
  | convertScalar s => exact hwf
  | setDefaultUnit on c u =>
    simp only [Mgr.step]
    cases h : m.edit on (dictSet c u) with
    | error e => exact hwf
    | ok m' => exact Mgr.edit_wf hwf on _ h
  | removeCategory on c =>
    simp only [Mgr.step]
    cases h : m.edit on (dictDel c) with
    | error e => exact hwf
    | ok m' => exact Mgr.edit_wf hwf on _ h
  | setCurrent id =>
    cases id with
    | none => intro _ hc; cases hc
    | some id =>
      simp only [Mgr.step]
      split
      · rename_i hf
        rw [Mgr.WF_iff]
        rintro _ ⟨rfl⟩
        exact (m.find_isSome id).mp hf
      · exact hwf
  | add id mapping =>
    simp only [Mgr.step]
    split
    · exact hwf
    · rw [Mgr.WF_iff] at hwf ⊢
      intro id' hc
      simp only [okState, List.map_append, List.mem_append] at hc ⊢
      cases hcur : m.current with
      | some c0 => rw [hcur] at hc; exact .inl (hwf id' (hcur.trans hc))
      | none => rw [hcur] at hc; cases hc; simp
  | remove id =>
    simp only [Mgr.step]
    split
    · rw [Mgr.WF_iff] at hwf ⊢
      intro id' hc
      simp only [okState] at hc ⊢
      split at hc
      · -- the removed system was current: the first of the remaining ones takes its place
        cases hrest : m.systems.filter (fun s => !(s.id == id)) with
        | nil => simp [hrest] at hc
        | cons s0 rest => simp [hrest] at hc; simp [hc]
      · rename_i hne
        have hid : id' ≠ id := fun e => hne (by simp [hc, e])
        have := hwf id' hc
        simp only [List.mem_map, List.mem_filter] at this ⊢
        obtain ⟨s, hs, rfl⟩ := this
        exact ⟨s, ⟨hs, by simpa using hid⟩, rfl⟩
    · exact hwf

theorem Mgr.run_wf (db : Db) {m : Mgr} (hwf : m.WF) (h : List MgrOp) : (Mgr.run db m h).1.WF := by
  induction h generalizing m with
  | nil => exact hwf
  | cons op ops ih => exact ih (Mgr.step_wf db hwf op)

end Barril.Routes
