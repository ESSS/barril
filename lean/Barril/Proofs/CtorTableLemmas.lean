/-
The two C19 table predicates that look a name up for every row (`UnitRow.defaultCatOk`: the row's default
category among the categories; `CatRow.defaultUnitOk`: the category's default unit among the unit rows) are
evaluated through a search tree built from the list that is scanned (`Proofs/KTree.lean`).
-/
import Barril.Proofs.CtorLemmas
import Barril.Proofs.KTree

namespace Barril
open Barril.Ctor

/-- `UnitRow.defaultCatOk` with the category lookup as a parameter -/
def UnitRow.defaultCatOkBy (look : Sym → Option CatRow) (r : UnitRow) : Bool :=
  let c := bif Nat.beq r.defaultCat 0 then r.qtype else r.defaultCat
  !(Nat.beq c 0)
  && (match look c with
      | some ci => Nat.beq ci.qtype r.qtype
      | Option.none => false)

/-- `CatRow.defaultUnitOk` with the unit lookup as a parameter -/
def CatRow.defaultUnitOkBy (look : Sym → Option UnitRow) (c : CatRow) : Bool :=
  match look c.defaultUnit with
  | some r => Nat.beq r.qtype c.qtype
  | Option.none => false

theorem UnitRow.all_defaultCatOk_of_index {db : Db}
    (h : db.units.all (UnitRow.defaultCatOkBy (fun c => (KTree.ofList CatRow.name db.cats).find c)) = true) :
    db.units.all (UnitRow.defaultCatOk db) = true := by
  have e : (fun c => (KTree.ofList CatRow.name db.cats).find c) = fun c => fastCat c db.cats :=
    funext fun c => by rw [KTree.find_ofList, fastCat_eq]
  rw [e] at h
  exact h

theorem CatRow.all_defaultUnitOk_of_index {db : Db}
    (h : db.cats.all (CatRow.defaultUnitOkBy (fun u => (KTree.ofList UnitRow.sym db.units).find u)) = true) :
    db.cats.all (CatRow.defaultUnitOk db) = true := by
  have e : (fun u => (KTree.ofList UnitRow.sym db.units).find u) = fun u => fastUnit u db.units :=
    funext fun u => by rw [KTree.find_ofList, fastUnit_eq]
  rw [e] at h
  exact h

end Barril
