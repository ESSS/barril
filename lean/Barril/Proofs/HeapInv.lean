/-
C13: the interning invariant `CInv` (`Proofs/HeapPickle.lean`) holds on every state reachable from the empty
session by public operations (the heap-model counterpart of C07's `reachable_invariant`).

`Rel.intern db` : a `Frame` step relative to the whole old heap that keeps `CInv`.  Every public operation is such a
step (`exec_step`), which gives the frame theorems and the invariant of `Props/C13.lean` at once.
How a routine gets there:
  `Step.ofWrite`     : it writes only fresh cells and creates no quantity (`Rel.write n` for every `n`);
  `Step.ofPres`      : it is a `Rel.frame n` step for every `n` and keeps `CInv` (`Pres`, by hand in `obtainSimple_spec`
                       and `obtainDict_spec`): the routines that create quantities;
  `Step.ofWriteThen` : a writing part without quantity creation, then a `Rel.intern` step: `opSame`, `opNew`
                       (`convertFractionValue` is the other way round);
  `step_auto`        : everything built from such routines.
-/
import Barril.Proofs.HeapPickle

namespace Barril.Heap

theorem KeyOK.stable {db : Db} {s s' : St} (fr : Frame s.heap.length s s') {k : QKey} {q : Nat}
    (h : KeyOK db s k q) : KeyOK db s' k q := by
  cases k with
  | simple c u cap => intro hv; exact qsnap_stable fr (h hv)
  | derived items cap => exact qsnap_stable fr h

theorem CInv.frame {db : Db} {s s' : St} (inv : CInv db s) (fr : Frame s.heap.length s s')
    (hq : s'.quants = s.quants) (hc : s'.cache = s.cache) : CInv db s' := by
  refine ⟨fun q o ho => ?_, fun k q hk => ?_⟩
  · rw [hq] at ho
    obtain ⟨qs, h1, h2⟩ := inv.quants q o ho
    exact ⟨qs, qsnap_stable fr h1, h2⟩
  · rw [hc] at hk
    exact (inv.cache k q hk).stable fr

/-- the second half of `Rel.intern`.  `db.catByName 0 = none`: no category is named `''` (the model writes `None` and
`''` alike as 0). -/
structure Pres {α : Type} (db : Db) (m : M α) : Prop where
  run : ∀ s a s', db.catByName 0 = none → CInv db s → m s = .ok (a, s') → CInv db s'

def Rel.intern (db : Db) : Rel where
  inv _ := True
  rel s s' := Frame s.heap.length s s' ∧ (db.catByName 0 = none → CInv db s → CInv db s')
  refl _ := ⟨Frame.refl _ _, fun _ h => h⟩
  trans a b := ⟨a.1.trans (b.1.mono a.1.len), fun hz h => b.2 hz (a.2 hz h)⟩
  keep _ _ := trivial

instance {db : Db} : (Rel.intern db).Grows :=
  ⟨fun _ h => ⟨h.frame (Nat.le_refl _), fun _ inv => inv.frame (h.frame (Nat.le_refl _)) h.quants h.cache⟩⟩

section
variable {α β : Type} {db : Db}

theorem Pres.ofStep {m : M α} {Q : α → Prop} (h : Step (.intern db) m Q) : Pres db m :=
  ⟨fun s a s' hz inv hm => (h.run s a s' trivial hm).1.2 hz inv⟩

theorem Step.ofPres {m : M α} {Q : α → Prop} (hf : ∀ n, Step (.frame n) m Q) (hp : Pres db m) :
    Step (.intern db) m Q :=
  ⟨fun s a s' _ hm =>
    have r := (hf s.heap.length).run s a s' (Nat.le_refl _) hm
    ⟨⟨r.1, fun hz inv => hp.run s a s' hz inv hm⟩, r.2⟩⟩

structure WriteThen (db : Db) (n : Nat) (m : M α) : Prop where
  run : ∀ s a s', n ≤ s.heap.length → m s = .ok (a, s') → ∃ t, (Rel.write n).rel s t ∧ (Rel.intern db).rel t s'

theorem WriteThen.ofStep {n : Nat} {m : M α} {Q : α → Prop} (h : Step (.intern db) m Q) : WriteThen db n m :=
  ⟨fun s a s' _ hm => ⟨s, (Rel.write n).refl s, (h.run s a s' trivial hm).1⟩⟩

theorem WriteThen.bind {n : Nat} {m : M α} {f : α → M β} {Q : α → Prop} (hm : Step (.write n) m Q)
    (hf : ∀ a, Q a → WriteThen db n (f a)) : WriteThen db n (m >>= f) :=
  ⟨fun s b s2 hn h => by
    obtain ⟨a, s1, h1, h2⟩ := bind_ok h
    have r1 := hm.run s a s1 hn h1
    obtain ⟨t, w, i⟩ := (hf a r1.2).run s1 b s2 ((Rel.write n).keep hn r1.1) h2
    exact ⟨t, (Rel.write n).trans r1.1 w, i⟩⟩

/-- The writes of the first part are relative to the heap at the start, so that part keeps the invariant
(`CInv.frame`); the second part starts from a longer heap, and its frame is one of the shorter heap too. -/
theorem Step.ofWriteThen {m : M α} (h : ∀ n, WriteThen db n m) : Step (.intern db) m (fun _ => True) :=
  ⟨fun s a s' _ hm => by
    obtain ⟨t, ⟨fr, hq, hc⟩, i⟩ := (h s.heap.length).run s a s' (Nat.le_refl _) hm
    exact ⟨⟨fr.trans (i.1.mono fr.len), fun hz inv => i.2 hz (inv.frame fr hq hc)⟩, trivial⟩⟩

theorem Step.ofWrite {m : M α} {Q : Nat → α → Prop} (h : ∀ n, Step (.write n) m (Q n)) :
    Step (.intern db) m (fun _ => True) :=
  Step.ofWriteThen fun n => ⟨fun s a s' hn hm => ⟨s', ((h n).run s a s' hn hm).1, (Rel.intern db).refl s'⟩⟩

end

theorem Pres.cacheGet {db : Db} {k : QKey} : Pres db (cacheGet k) := Pres.ofStep cacheGet_step
theorem Pres.readFrac {db : Db} {r : Ref} : Pres db (readFrac r) := Pres.ofStep readFrac_step
theorem Pres.fvFloat {db : Db} {r : Ref} : Pres db (fvFloat r) := Pres.ofStep fvFloat_step
theorem Pres.dropZero {db : Db} {tot : List (Sym × Int)} {es : List (Sym × Ref)} : Pres db (dropZero tot es) :=
  Pres.ofStep (dropZero_step _)

theorem KeyOK.congr {db : Db} {s s' : St} (hh : s'.heap = s.heap) (hq : s'.quants = s.quants) {k : QKey} {q : Nat}
    (h : KeyOK db s k q) : KeyOK db s' k q := by
  cases k with
  | simple c u cap => intro hv; rw [qsnap_congr hh hq]; exact h hv
  | derived items cap => show qsnap s' q = _; rw [qsnap_congr hh hq]; exact h

/-- `newQuant o` where `o` reads as a well-shaped quantity -/
theorem CInv.addQuant {db : Db} {s : St} (inv : CInv db s) (o : QObj) {qs : QSnap}
    (hqs : qsnap { s with quants := s.quants ++ [o] } s.quants.length = some qs) (sh : QShape db qs) :
    CInv db { s with quants := s.quants ++ [o] } := by
  have fr : Frame s.heap.length s { s with quants := s.quants ++ [o] } :=
    ⟨Nat.le_refl _, fun _ _ => rfl, ⟨[o], rfl⟩, ⟨[], by simp⟩⟩
  refine ⟨fun q o' ho' => ?_, fun k q hk => (inv.cache k q hk).stable fr⟩
  rcases Nat.lt_or_ge q s.quants.length with hlt | hge
  · have : s.quants[q]? = some o' := by
      have h2 : (s.quants ++ [o])[q]? = some o' := ho'
      rwa [List.getElem?_append_left hlt] at h2
    obtain ⟨qs', h1, h2⟩ := inv.quants q o' this
    exact ⟨qs', qsnap_stable fr h1, h2⟩
  · have h2 : (s.quants ++ [o])[q]? = some o' := ho'
    have hq : q = s.quants.length := by
      rcases Nat.eq_or_lt_of_le hge with h | h
      · exact h.symm
      · rw [List.getElem?_eq_none (by simp; omega)] at h2; cases h2
    subst hq
    exact ⟨qs, hqs, sh⟩

/-- `cachePut k q` where the entry keeps the promise of its key -/
theorem CInv.addCache {db : Db} {s : St} (inv : CInv db s) {k : QKey} {q : Nat} (hk : KeyOK db s k q) :
    CInv db { s with cache := (k, q) :: s.cache } := by
  refine ⟨fun q' o ho => ?_, fun k' q' hm => ?_⟩
  · obtain ⟨qs, h1, h2⟩ := inv.quants q' o ho
    exact ⟨qs, (qsnap_congr (s := s) rfl rfl q').trans h1, h2⟩
  · have hm' : (k', q') ∈ (k, q) :: s.cache := hm
    rcases List.mem_cons.mp hm' with h | h
    · cases h; exact hk.congr rfl rfl
    · exact (inv.cache k' q' h).congr rfl rfl

/-- `Quantity(category, unit, caption)`: the unit kept is the given one whenever that is valid for the category, so
the new quantity is what the key promises -/
theorem newSimpleQuantity_spec {db : Db} {s s' : St} {cat unit cap : Sym} {q : Nat} (inv : CInv db s)
    (h : newSimpleQuantity db cat unit cap s = .ok (q, s')) : CInv db s' ∧ KeyOK db s' (.simple cat unit cap) q := by
  unfold newSimpleQuantity at h
  cases hcat : db.catByName cat with
  | none => rw [hcat] at h; cases h
  | some ci =>
    rw [hcat] at h
    simp only at h
    obtain ⟨u', s1, h1, ha⟩ := bind_ok h
    clear h
    have hu : s1 = s ∧ db.categoryUnitValid cat u' = true ∧ (db.categoryUnitValid cat unit = true → u' = unit) := by
      by_cases hv : db.categoryUnitValid cat unit = true
      · rw [if_pos hv] at h1; cases h1; exact ⟨rfl, hv, fun _ => rfl⟩
      · rw [if_neg hv] at h1
        by_cases hv2 : (isLegacy db.legacy unit && db.categoryUnitValid cat (fixLegacy db.legacy unit)) = true
        · rw [if_pos hv2] at h1
          cases h1
          simp only [Bool.and_eq_true] at hv2
          exact ⟨rfl, hv2.2, fun h' => absurd h' hv⟩
        · rw [if_neg hv2] at h1; cases h1
    clear h1
    obtain ⟨rfl, hval, huu⟩ := hu
    obtain ⟨r, s2, h2, hb⟩ := bind_ok ha
    clear ha
    unfold allocM at h2
    cases h2
    unfold newQuant at hb
    cases hb
    have hsnap := qsnap_new (s := { s1 with heap := s1.heap ++ [Cell.pair u' 1] })
      (o := ⟨[(cat, s1.heap.length)], cap, false, [(cat, u', 1)]⟩) (items := [(cat, u', 1)]) (by simp [itemsOf])
    have fr : Frame s1.heap.length s1 { s1 with heap := s1.heap ++ [Cell.pair u' 1] } :=
      ⟨by simp, fun r hr => by simp [List.getElem?_append_left hr], ⟨[], by simp⟩, ⟨[], by simp⟩⟩
    have inv1 : CInv db { s1 with heap := s1.heap ++ [Cell.pair u' 1] } := inv.frame fr rfl rfl
    exact ⟨inv1.addQuant _ hsnap ⟨rfl, fun _ => ⟨cat, u', rfl, hval⟩, (fun h' => by cases h')⟩,
      fun hv => by rw [hsnap, huu hv]⟩

theorem newSimple_put {β : Type} {db : Db} {s s' : St} {c u cap : Sym} {f : Nat → M β} {b : β} (inv : CInv db s)
    (h : (newSimpleQuantity db c u cap >>= fun q => cachePut (.simple c u cap) q >>= fun _ => f q) s = .ok (b, s')) :
    ∃ q s1, CInv db s1 ∧ KeyOK db s1 (.simple c u cap) q ∧ f q s1 = .ok (b, s') := by
  obtain ⟨q, s1, h1, h2⟩ := bind_ok h
  obtain ⟨inv1, k1⟩ := newSimpleQuantity_spec inv h1
  obtain ⟨_, s2, h3, h4⟩ := bind_ok h2
  cases h3
  exact ⟨q, _, inv1.addCache k1, k1.congr rfl rfl, h4⟩

/-- the choice of category and unit in `ObtainQuantity(unit, None, …)` -/
theorem defaultCatUnit_same {db : Db} {unit c1 : Sym} : Step .same
    (if c1 != 0 then pure (c1, unit)
     else if isLegacy db.legacy unit then do
       let c2 ← liftE (defaultCategory db (fixLegacy db.legacy unit))
       pure (c2, fixLegacy db.legacy unit)
     else failM .units : M (Sym × Sym)) (fun _ => True) := by
  step_auto

/-- `ObtainQuantity(unit, category, caption)`: a hit keeps the promise of the key by the invariant, a miss by
construction, and a key with category `None` promises nothing -/
theorem obtainSimple_spec {db : Db} (hz : db.catByName 0 = none) {s s' : St} {unit cat cap : Sym} {q : Nat}
    (inv : CInv db s) (h : obtainSimple db unit cat cap s = .ok (q, s')) :
    CInv db s' ∧ KeyOK db s' (.simple cat unit cap) q := by
  unfold obtainSimple at h
  obtain ⟨r, s1, h1, h2⟩ := bind_ok h
  obtain ⟨rfl, hmem⟩ := cacheGet_ok h1
  cases r with
  | some q0 => cases h2; exact ⟨inv, inv.cache _ _ (hmem _ rfl)⟩
  | none =>
    simp only at h2
    split at h2
    · rename_i hc0
      have hvac : ∀ t q, KeyOK db t (.simple cat unit cap) q := fun _ _ hv => by
        rw [hc0, Db.categoryUnitValid, hz] at hv; cases hv
      refine ⟨?_, hvac _ _⟩
      obtain ⟨c1, s2, h3, h4⟩ := bind_ok h2
      obtain ⟨rfl, _⟩ := liftE_ok h3
      obtain ⟨cu, s3, h5, h6⟩ := bind_ok h4
      obtain ⟨rfl, _⟩ := defaultCatUnit_same.run _ _ _ trivial h5
      obtain ⟨r2, s5, h7, h8⟩ := bind_ok h6
      obtain ⟨rfl, _⟩ := cacheGet_ok h7
      cases r2 with
      | some q0 => cases h8; exact inv
      | none =>
        obtain ⟨q', s6, inv6, _, h9⟩ := newSimple_put inv h8
        obtain ⟨_, s7, h10, h11⟩ := bind_ok h9
        cases h10
        cases h11
        exact inv6.addCache (hvac _ _)
    · obtain ⟨q', s6, inv6, k1, h3⟩ := newSimple_put inv h2
      cases h3
      exact ⟨inv6, k1⟩

/-- `ObtainQuantity(dict, None, caption)` -/
theorem obtainDict_spec {db : Db} (hz : db.catByName 0 = none) {s s' : St} {es : List (Sym × Ref)} {cap : Sym} {q : Nat}
    (inv : CInv db s) (h : obtainDict db es cap s = .ok (q, s')) :
    CInv db s' ∧ ∃ items, itemsOf s.heap es = some items ∧
      (∀ c u, items = [(c, u, 1)] → KeyOK db s' (.simple c u cap) q) ∧
      ((∀ c u, items ≠ [(c, u, 1)]) → KeyOK db s' (.derived items cap) q) := by
  unfold obtainDict at h
  obtain ⟨items, s1, h1, h2⟩ := bind_ok h
  obtain ⟨rfl, hitems⟩ := readItems_inv _ h1
  split at h2
  · rename_i c u
    obtain ⟨inv', k⟩ := obtainSimple_spec hz inv h2
    exact ⟨inv', _, hitems, fun c' u' e => by cases e; exact k, fun hne => absurd rfl (hne c u)⟩
  · rename_i hne
    suffices hh : CInv db s' ∧ KeyOK db s' (.derived items cap) q from
      ⟨hh.1, items, hitems, fun c u e => absurd e (hne c u), fun _ => hh.2⟩
    obtain ⟨r, s2, h3, h4⟩ := bind_ok h2
    obtain ⟨rfl, hmem⟩ := cacheGet_ok h3
    cases r with
    | some q0 => cases h4; exact ⟨inv, inv.cache _ _ (hmem _ rfl)⟩
    | none =>
      simp only at h4
      obtain ⟨_, s3, h5, h6⟩ := bind_ok h4
      obtain ⟨rfl, _⟩ := liftE_ok h5
      obtain ⟨own, sb, h7, h8⟩ := bind_ok h6
      have hown := copyPairs_items _ h7 hitems
      have invb : CInv db sb := ((copyPairs_step (L := .intern db) _).run _ _ _ trivial h7).1.2 hz inv
      obtain ⟨_, s5, h9, h10⟩ := bind_ok h8
      obtain ⟨rfl, _⟩ := liftE_ok h9
      obtain ⟨qn, s6, h11, h12⟩ := bind_ok h10
      cases h11
      obtain ⟨_, s7, h13, h14⟩ := bind_ok h12
      cases h13
      cases h14
      have hsnap := qsnap_new (s := sb) (o := ⟨own, cap, true, items⟩) hown
      have sh : QShape db ⟨items, cap, true, items⟩ :=
        ⟨rfl, (fun h' => by cases h'), fun _ c u hcu => hne c u hcu⟩
      exact ⟨(invb.addQuant _ hsnap sh).addCache hsnap, KeyOK.congr (k := .derived items cap) rfl rfl hsnap⟩

/-- `pickle.loads(pickle.dumps(q))` on a state with the interning invariant: the quantity that comes back has the
SAME snapshot as `q` (dict contents, caption, derived flag, cached strings) -/
theorem pickleQuantity_same {db : Db} (hz : db.catByName 0 = none) {s s1 : St} (inv : CInv db s) {q q' : Nat}
    {qs : QSnap} (hq : qsnap s q = some qs) (h : pickleQuantity db q s = .ok (q', s1)) :
    qsnap s1 q' = some qs := by
  obtain ⟨po, hpo, hitems, hcap, hder, hcomp⟩ := qsnap_iff.mp hq
  obtain ⟨qs0, hqs0, sh⟩ := inv.quants q po hpo
  rw [hq] at hqs0
  cases hqs0
  unfold pickleQuantity at h
  obtain ⟨o, s0, h1, h2⟩ := bind_ok h
  rw [getQ_of hpo] at h1
  cases h1
  obtain ⟨es, sa, h3, h4⟩ := bind_ok h2
  have inva : CInv db sa := ((copyPairs_step (L := .intern db) _).run _ _ _ trivial h3).1.2 hz inv
  obtain ⟨_, items, hi, ksimple, kderived⟩ := obtainDict_spec hz inva h4
  rw [copyPairs_items _ h3 hitems] at hi
  cases hi
  obtain ⟨items, cap, der, comp⟩ := qs
  simp only at hcap hcomp ksimple kderived
  obtain rfl : comp = items := sh.comp
  subst hcap
  cases der with
  | false =>
    obtain ⟨c, u, hcu, hvalid⟩ := sh.simple rfl
    simp only at hcu
    subst hcu
    exact ksimple c u rfl hvalid
  | true => exact kderived (sh.derived rfl)

section
variable {db : Db}

@[effect] theorem obtainSimple_step {unit cat cap : Sym} : Step (.intern db) (obtainSimple db unit cat cap) (fun _ => True) :=
  Step.ofPres (fun _ => obtainSimple_frame) ⟨fun _ _ _ hz inv h => (obtainSimple_spec hz inv h).1⟩

@[effect] theorem obtainDict_step {es : List (Sym × Ref)} {cap : Sym} :
    Step (.intern db) (obtainDict db es cap) (fun _ => True) :=
  Step.ofPres (fun _ => obtainDict_frame) ⟨fun _ _ _ hz inv h => (obtainDict_spec hz inv h).1⟩

@[effect] theorem emptyQuantity_step : Step (.intern db) (emptyQuantity db) (fun _ => True) := obtainDict_step

@[effect] theorem createDerived_step {es : List (Sym × Ref)} {v : Bool} {cap : Sym} :
    Step (.intern db) (createDerived db es v cap) (fun _ => True) := by
  unfold createDerived; step_auto

/-- deep copies of the two dicts, the unit matching that edits the copies in place; then quantities are made from
further copies -/
@[effect] theorem opSame_step {f : BinOp} {q1 q2 : Nat} {v1 v2 : Val} :
    Step (.intern db) (opSame db f q1 q2 v1 v2) (fun _ => True) := by
  unfold opSame
  apply Step.seq qEq_step; intro b
  split
  · step_auto
  · apply Step.seq getQ_step; intro o1
    apply Step.seq getQ_step; intro o2
    apply Step.ofWriteThen; intro n
    apply WriteThen.bind (copyPairs_fresh _); intro es1 h1
    apply WriteThen.bind (copyPairs_fresh _); intro es2 h2
    apply WriteThen.bind (matchQuantities_write h1 h2); intro vs _
    apply WriteThen.ofStep (Q := fun _ => True)
    step_auto

@[effect] theorem opNew_step {f : BinOp} {q1 q2 : Nat} {v1 v2 : Val} :
    Step (.intern db) (opNew db f q1 q2 v1 v2) (fun _ => True) := by
  unfold opNew
  apply Step.seq getQ_step; intro o1
  apply Step.seq getQ_step; intro o2
  apply Step.ofWriteThen; intro n
  apply WriteThen.bind (copyPairs_fresh _); intro es1 h1
  apply WriteThen.bind (copyPairs_fresh _); intro es2 h2
  apply WriteThen.bind (matchQuantities_write h1 h2); intro vs _
  apply WriteThen.bind (mergeLoop_write es2 es1 h1); intro es _
  apply WriteThen.ofStep (Q := fun _ => True)
  step_auto

@[effect] theorem opFunc_step {f : BinOp} {q1 q2 : Nat} {v1 v2 : Val} :
    Step (.intern db) (opFunc db f q1 q2 v1 v2) (fun _ => True) := by
  unfold opFunc; step_auto

@[effect] theorem convertFractionValue_step {fvr : Ref} {q : Nat} {toU : Sym} :
    Step (.intern db) (convertFractionValue db fvr q toU) (fun _ => True) := by
  unfold convertFractionValue
  apply Step.seq readFv_step; intro fvc
  apply Step.seq getQ_step; intro o
  apply Step.seq
  · step_auto
  intro cq
  exact Step.ofWrite fun _ => convertFractionValue_tail

@[effect] theorem getValuesAndScribble_step {i : Nat} {unit : Option Sym} {how : Scribble} :
    Step (.intern db) (getValuesAndScribble db i unit how) (fun _ => True) :=
  Step.ofWrite fun _ => getValuesAndScribble_write

@[effect] theorem changingIndex_step {i : Nat} {idx : Int} {value : Operand} {u : Bool} :
    Step (.intern db) (changingIndex db i idx value u) (fun _ => True) :=
  Step.ofWrite fun _ => changingIndex_write

@[effect] theorem scalarOp_step {f : BinOp} {q1 q2 : Nat} {x y : Rat} :
    Step (.intern db) (scalarOp db f q1 x q2 y) (fun _ => True) := by
  unfold scalarOp; step_auto

@[effect] theorem scalarNumL_step {f : BinOp} {q : Nat} {x k : Rat} :
    Step (.intern db) (scalarNumL db f k q x) (fun _ => True) := by
  unfold scalarNumL; step_auto

@[effect] theorem elemLoop_step {f : BinOp} {q1 q2 : Nat} (ps : List (Rat × Rat)) (q : Nat) :
    Step (.intern db) (elemLoop db f q1 q2 ps q) (fun _ => True) := by
  induction ps generalizing q with
  | nil => exact pure_step
  | cons p ps ih =>
    unfold elemLoop
    apply Step.seq opFunc_step; intro r
    apply Step.seq liftE_step; intro z
    apply Step.seq (ih _); intro t
    exact pure_step

@[effect] theorem powLoop_step {q0 : Nat} {x0 : Rat} (k : Nat) (q : Nat) (x : Rat) :
    Step (.intern db) (powLoop db q0 x0 k q x) (fun _ => True) := by
  induction k generalizing q x with
  | zero => exact pure_step
  | succ k ih =>
    unfold powLoop
    apply Step.seq opFunc_step; intro r
    apply Step.seq liftE_step; intro z
    exact ih _ _

@[effect] theorem scalarPow_step {i : Nat} {e : Int} : Step (.intern db) (scalarPow db i e) (fun _ => True) := by
  unfold scalarPow; step_auto

@[effect] theorem arrayOp_step {f : BinOp} {cls : Cls} {q1 q2 : Nat} {v1 v2 : Val} :
    Step (.intern db) (arrayOp db f cls q1 q2 v1 v2) (fun _ => True) := by
  unfold arrayOp; step_auto

@[effect] theorem arith_step {f : BinOp} {a b : Operand} : Step (.intern db) (arith db f a b) (fun _ => True) := by
  unfold arith; step_auto

@[effect] theorem getValue_step {i : Nat} {unit : Option Sym} : Step (.intern db) (getValue db i unit) (fun _ => True) := by
  unfold getValue; step_auto

@[effect] theorem copyQuantity_step {q : Nat} {unit cat : Option Sym} :
    Step (.intern db) (copyQuantity db q unit cat) (fun _ => True) := by
  unfold copyQuantity; step_auto

@[effect] theorem createCopy_step {i : Nat} {unit cat : Option Sym} :
    Step (.intern db) (createCopy db i unit cat) (fun _ => True) := by
  unfold createCopy; step_auto

@[effect] theorem pickleQuantity_step {q : Nat} : Step (.intern db) (pickleQuantity db q) (fun _ => True) := by
  unfold pickleQuantity; step_auto

@[effect] theorem pickleObj_step {i : Nat} : Step (.intern db) (pickleObj db i) (fun _ => True) := by
  unfold pickleObj; step_auto

@[effect] theorem objLt_step {i j : Nat} : Step (.intern db) (objLt db i j) (fun _ => True) := by
  unfold objLt; step_auto

@[effect] theorem mkScalar_step {v : Rat} {unit cat : Sym} : Step (.intern db) (mkScalar db v unit cat) (fun _ => True) := by
  unfold mkScalar; step_auto

@[effect] theorem mkEmptyScalar_step {v : Rat} : Step (.intern db) (mkEmptyScalar db v) (fun _ => True) := by
  unfold mkEmptyScalar; step_auto

@[effect] theorem mkCaptionScalar_step {v : Rat} {unit cap : Sym} :
    Step (.intern db) (mkCaptionScalar db v unit cap) (fun _ => True) := by
  unfold mkCaptionScalar; step_auto

@[effect] theorem mkArray_step {k : Kind} {xs : List Rat} {unit cat : Sym} :
    Step (.intern db) (mkArray db k xs unit cat) (fun _ => True) := by
  unfold mkArray; step_auto

@[effect] theorem mkArrayFrom_step {i : Nat} {unit cat : Sym} :
    Step (.intern db) (mkArrayFrom db i unit cat) (fun _ => True) := by
  unfold mkArrayFrom; step_auto

@[effect] theorem mkEmptyArray_step {k : Kind} {xs : List Rat} :
    Step (.intern db) (mkEmptyArray db k xs) (fun _ => True) := by
  unfold mkEmptyArray; step_auto

@[effect] theorem mkFixed_step {dim : Nat} {k : Kind} {xs : List Rat} {unit cat : Sym} :
    Step (.intern db) (mkFixed db dim k xs unit cat) (fun _ => True) := by
  unfold mkFixed; step_auto

@[effect] theorem mkFScalar_step {number : Rat} {num : Int} {den : Nat} {unit cat : Sym} :
    Step (.intern db) (mkFScalar db number num den unit cat) (fun _ => True) := by
  unfold mkFScalar; step_auto

@[effect] theorem mkDerived_step {cls : Cls} {items : List (Sym × Sym × Int)} {v : Rat} {k : Kind} {xs : List Rat} :
    Step (.intern db) (mkDerived db cls items v k xs) (fun _ => True) := by
  unfold mkDerived; step_auto

@[effect] theorem fresh_step {L : Rel} {m : M Nat} (h : Step L m (fun _ => True)) : Step L (fresh m) (fun _ => True) := by
  unfold fresh; step_auto

end

/-- every public operation of the model is a frame step that keeps the interning invariant: each branch of `exec` is
one function of the model (under `fresh`, or followed by a `pure`), closed by its `effect` lemma above -/
theorem exec_step (db : Db) (op : Op) : Step (.intern db) (exec db op) (fun _ => True) := by
  cases op <;> unfold exec <;> step_auto

theorem step_intern (db : Db) (s : St) (op : Op) : (Rel.intern db).rel s (step db s op).1 := by
  unfold step
  cases h : exec db op s with
  | error e => exact (Rel.intern db).refl s
  | ok p => exact ((exec_step db op).run s p.1 p.2 trivial h).1

theorem run_intern (db : Db) (ops : List Op) (s : St) : (Rel.intern db).rel s (run db s ops) := by
  induction ops generalizing s with
  | nil => exact (Rel.intern db).refl s
  | cons op ops ih => exact (Rel.intern db).trans (step_intern db s op) (ih _)

end Barril.Heap
