/-
Link between C06 (`Model/Compound.lean`) and the arithmetic engine (`Model/Alg.lean`, C03/C04): the
product of the parts' factors that the C06 rule compares a named unit with IS the base magnitude
`Alg.mag` of the quantity whose composing units are those parts — the magnitude that, by C04's
`mul_mag` / `div_mag`, every product and quotient of Scalars in the component units has.
-/
import Barril.Proofs.CompoundLemmas
import Barril.Proofs.AlgLemmas

namespace Barril
open Barril.Alg

/-- the composing entries of one side of a reading (the category plays no role in the magnitude) -/
def sideEntries (sign : Int) (fs : List Factor) : List Entry :=
  fs.map (fun f => ⟨0, f.unit.sym, sign * (f.exp : Int)⟩)

/-- product of the decimal multipliers of one side (`100km`, `10bbl`) -/
def sidePre : List Factor → Rat
  | [] => 1
  | f :: fs => (f.pre : Rat) * sidePre fs

theorem lookL_eq_find {tbl : List CRow} {units : List UnitRow}
    (h : tbl.map CRow.core = units.map UnitRow.core) (s : Sym) :
    (lookL s tbl).map CRow.core = (units.find? (·.sym == s)).map UnitRow.core := by
  induction tbl generalizing units with
  | nil =>
    cases units with
    | nil => simp [lookL]
    | cons u us => simp at h
  | cons c cs ih =>
    cases units with
    | nil => simp at h
    | cons u us =>
      simp only [List.map_cons, List.cons.injEq] at h
      obtain ⟨hcu, hrest⟩ := h
      have hsym : c.sym = u.sym := by
        simp only [CRow.core, UnitRow.core, Prod.mk.injEq] at hcu; exact hcu.1
      unfold lookL
      by_cases hs : s = c.sym
      · have h1 : Nat.beq s c.sym = true := Nat.beq_true_iff.mpr hs
        have h2 : (u.sym == s) = true := by rw [← hsym, hs]; simp
        simp only [h1, List.find?_cons, h2, Option.map_some]
        rw [hcu]
      · have h1 : Nat.beq s c.sym = false := by
          cases hb : Nat.beq s c.sym with
          | true => exact absurd (Nat.beq_true_iff.mp hb) hs
          | false => rfl
        have h2 : (u.sym == s) = false := by
          rw [← hsym]; simp only [beq_eq_false_iff_ne, ne_eq]; exact fun e => hs e.symm
        simp only [h1, List.find?_cons, h2]
        exact ih hrest

theorem slope_of_lookL {db : Db} {tbl : List CRow} (h : tbl.map CRow.core = db.units.map UnitRow.core)
    {s : Sym} {c : CRow} (hl : lookL s tbl = some c) : Alg.slope db s = c.slope := by
  have := lookL_eq_find h s
  rw [hl] at this
  unfold Alg.slope Db.unitBySym
  cases hf : db.units.find? (·.sym == s) with
  | none => rw [hf] at this; simp at this
  | some r =>
    rw [hf] at this
    simp only [Option.map_some, Option.some.injEq, CRow.core, UnitRow.core, Prod.mk.injEq] at this
    simp only [rowSlope]
    exact this.2.2.2.1.symm

/-- every factor of the side was produced by a lookup of its own symbol -/
def SideLooked (look : Sym → Option CRow) (fs : List Factor) : Prop := ∀ f ∈ fs, look f.unit.sym = some f.unit

theorem sideValue_zpow_eq_mag {db : Db} (s : Int) (fs : List Factor)
    (h : ∀ f ∈ fs, Alg.slope db f.unit.sym = f.unit.slope) :
    (sideValue fs).1 ^ s = sidePre fs ^ s * Alg.mag db (sideEntries s fs) := by
  induction fs with
  | nil => simp [sideValue, sidePre, sideEntries, Alg.mag]
  | cons f fs ih =>
    rw [List.forall_mem_cons] at h
    have ih' := ih h.2
    simp only [sideEntries] at ih'
    simp only [sideValue, sidePre, sideEntries, List.map_cons, Alg.mag]
    rw [mul_zpow, mul_zpow, mul_zpow, ih', h.1, ← zpow_natCast, ← zpow_mul, mul_comm s]
    ring

/-- **the expected factor of a compound reading is a base magnitude of the arithmetic engine**: the
multipliers times `Alg.mag` of the quantity whose composing units are the parts with their signed exponents -/
theorem expected_eq_mag {db : Db} {a b : List Factor} {e t : Rat}
    (ha : ∀ f ∈ a, Alg.slope db f.unit.sym = f.unit.slope) (hb : ∀ f ∈ b, Alg.slope db f.unit.sym = f.unit.slope)
    (h : expected (.compound a b) = some (e, t)) :
    e = sidePre a / sidePre b * Alg.mag db (sideEntries 1 a ++ sideEntries (-1) b) := by
  simp only [expected] at h
  split at h
  · cases h
  · simp only [Option.some.injEq, Prod.mk.injEq] at h
    have h1 := sideValue_zpow_eq_mag 1 a ha
    have h2 := sideValue_zpow_eq_mag (-1) b hb
    rw [zpow_one, zpow_one] at h1
    rw [zpow_neg_one, zpow_neg_one] at h2
    rw [← h.1, Alg.mag_append, div_eq_mul_inv, h1, h2]
    ring

theorem Forall2.right_mem {α β : Type} {R : α → β → Prop} {l : List α} {r : List β} (h : Forall2 R l r) :
    ∀ b ∈ r, ∃ a ∈ l, R a b := by
  induction h with
  | nil => intro b hb; cases hb
  | cons hab _ ih =>
    intro b hb
    rcases List.mem_cons.mp hb with rfl | hb
    · exact ⟨_, List.mem_cons_self, hab⟩
    · obtain ⟨a, ha, hr⟩ := ih b hb
      exact ⟨a, List.mem_cons_of_mem _ ha, hr⟩

theorem reading_factors_looked {tbl : List CRow} {c : CRow} {a b : List Factor}
    (h : reading (fun s => lookL s tbl) c = some (.compound a b)) :
    ∀ f, f ∈ a ∨ f ∈ b → lookL f.unit.sym tbl = some f.unit := by
  have key : ∀ (txt : List Nat) (f : Factor), FactorText (fun s => lookL s tbl) txt f → lookL f.unit.sym tbl = some f.unit := by
    intro txt f ⟨_, stem, _, _, hl, _⟩
    have := (lookL_some hl).2
    rw [this]; exact hl
  have hd : decompose (fun s => lookL s tbl) (Sym.bytes c.sym) = some (a, b) := by
    unfold reading at h
    split at h
    · rename_i a' b' hd; cases h; exact hd
    · split at h <;> cases h
  intro f hf
  rcases decompose_text hd with ⟨n, d, _, _, _, _, fa, fb⟩ | ⟨_, hb, _, fa⟩
  · rcases hf with hf | hf
    · obtain ⟨txt, _, ht⟩ := Forall2.right_mem fa f hf; exact key txt f ht
    · obtain ⟨txt, _, ht⟩ := Forall2.right_mem fb f hf; exact key txt f ht
  · rcases hf with hf | hf
    · obtain ⟨txt, _, ht⟩ := Forall2.right_mem fa f hf; exact key txt f ht
    · rw [hb] at hf; cases hf

theorem baseMag_simple (db : Db) (cat u cap : Sym) (x : Rat) :
    Alg.baseMag db ⟨[⟨cat, u, 1⟩], cap, false⟩ x = x * Alg.slope db u := by
  simp [Alg.baseMag, Alg.mag]

end Barril
