/-
Text lemmas for C18: decimal digits, `'%g'` of numbers with at most six significant digits, and
the regular-expression matcher of `CreateFromString` on formatted values.
-/
import Barril.Proofs.FracLemmas
import Mathlib.Tactic.IntervalCases

namespace Barril.Frac

theorem digitChar_toNat (d : Nat) (h : d < 10) : (digitChar d).toNat = 48 + d := by
  unfold digitChar
  interval_cases d <;> rfl

theorem digitVal_digitChar (d : Nat) (h : d < 10) : digitVal (digitChar d) = d := by
  unfold digitVal
  rw [digitChar_toNat d h]; omega

theorem readDigits_foldl (acc : Nat) (cs : List Char) :
    cs.foldl (fun acc c => acc * 10 + digitVal c) acc = acc * 10 ^ cs.length + readDigits cs := by
  induction cs generalizing acc with
  | nil => simp [readDigits]
  | cons c cs ih =>
    simp only [List.foldl_cons, List.length_cons, readDigits]
    rw [ih, ih (0 * 10 + digitVal c)]
    ring

theorem readDigits_append (a b : List Char) :
    readDigits (a ++ b) = readDigits a * 10 ^ b.length + readDigits b := by
  unfold readDigits
  rw [List.foldl_append, readDigits_foldl]
  rfl

theorem readDigits_single (c : Char) : readDigits [c] = digitVal c := by simp [readDigits]

theorem readDigits_zeros (k : Nat) : readDigits (List.replicate k '0') = 0 := by
  induction k with
  | zero => rfl
  | succ k ih =>
    rw [List.replicate_succ']
    rw [readDigits_append, ih]
    simp [readDigits, digitVal]

def AllDigits (cs : List Char) : Prop := ∀ c ∈ cs, isDigit c = true

theorem allDigits_append {a b : List Char} (ha : AllDigits a) (hb : AllDigits b) : AllDigits (a ++ b) := by
  intro c hc
  rcases List.mem_append.mp hc with h | h
  · exact ha c h
  · exact hb c h

theorem allDigits_digitChar (d : Nat) (h : d < 10) : AllDigits [digitChar d] := by
  intro c hc
  rw [List.mem_singleton.mp hc]
  unfold isDigit
  rw [digitChar_toNat d h]
  simp; omega

theorem natDigitsF_spec : ∀ (fuel n : Nat), n < fuel →
    AllDigits (natDigitsF fuel n) ∧ readDigits (natDigitsF fuel n) = n ∧
    n < 10 ^ (natDigitsF fuel n).length ∧ (1 ≤ n → 10 ^ ((natDigitsF fuel n).length - 1) ≤ n) := by
  intro fuel
  induction fuel with
  | zero => intro n h; omega
  | succ f ih =>
    intro n h
    unfold natDigitsF
    by_cases h10 : n < 10
    · rw [if_pos h10]
      exact ⟨allDigits_digitChar n h10, by rw [readDigits_single, digitVal_digitChar n h10],
        by simpa using h10, by simp⟩
    · rw [if_neg h10]
      obtain ⟨h1, h2, h3, h4⟩ := ih (n / 10) (by omega)
      have hm : n % 10 < 10 := Nat.mod_lt _ (by norm_num)
      obtain ⟨m, hlen⟩ : ∃ m, (natDigitsF f (n / 10)).length = m + 1 := by
        cases hl : (natDigitsF f (n / 10)).length with
        | zero => rw [hl] at h3; omega
        | succ m => exact ⟨m, rfl⟩
      have h4' := h4 (by omega)
      rw [hlen] at h3 h4'
      rw [List.length_append, List.length_singleton, hlen, readDigits_append, h2, readDigits_single,
        digitVal_digitChar _ hm]
      simp only [List.length_singleton, Nat.add_sub_cancel, pow_succ] at h3 h4' ⊢
      exact ⟨allDigits_append h1 (allDigits_digitChar _ hm), by omega, by omega, fun _ => by omega⟩

theorem natDigits_allDigits (n : Nat) : AllDigits (natDigits n) := (natDigitsF_spec (n + 1) n (by omega)).1
theorem readDigits_natDigits (n : Nat) : readDigits (natDigits n) = n := (natDigitsF_spec (n + 1) n (by omega)).2.1

theorem natDigits_bounds (n : Nat) (hn : 1 ≤ n) :
    n < 10 ^ (natDigits n).length ∧ 10 ^ ((natDigits n).length - 1) ≤ n :=
  ⟨(natDigitsF_spec (n + 1) n (by omega)).2.2.1, (natDigitsF_spec (n + 1) n (by omega)).2.2.2 hn⟩

theorem natDigits_ne_nil (n : Nat) : natDigits n ≠ [] := by
  unfold natDigits natDigitsF
  split <;> simp

theorem natDigits_length_le (n s : Nat) (h : n < 10 ^ (s + 1)) : (natDigits n).length ≤ s + 1 := by
  rcases Nat.eq_zero_or_pos n with rfl | hn
  · exact Nat.succ_le_succ (Nat.zero_le s)
  · have := lt_of_le_of_lt (natDigits_bounds n hn).2 h
    rw [Nat.pow_lt_pow_iff_right (by norm_num)] at this
    omega

theorem strip0_spec (s : Nat) : ∀ n, n * 10 ^ (strip0 n s).2 = (strip0 n s).1 * 10 ^ s := by
  induction s with
  | zero => intro n; simp [strip0]
  | succ s ih =>
    intro n
    unfold strip0
    split
    · rename_i h
      rw [pow_succ, ← mul_assoc, ← ih, Nat.mul_right_comm, Nat.div_mul_cancel (Nat.dvd_of_mod_eq_zero h)]
    · rfl

theorem strip0_pow (s n : Nat) : strip0 (n * 10 ^ s) s = (n, 0) := by
  induction s with
  | zero => simp [strip0]
  | succ s ih =>
    unfold strip0
    have h1 : n * 10 ^ (s + 1) % 10 = 0 := by
      rw [pow_succ, ← mul_assoc]; exact Nat.mul_mod_left _ _
    have h2 : n * 10 ^ (s + 1) / 10 = n * 10 ^ s := by
      rw [pow_succ, ← mul_assoc]; exact Nat.mul_div_cancel _ (by norm_num)
    rw [if_pos h1, h2, ih]

/-- an unsigned text matched by `NUM`: integer digits, optionally a point and more digits, with the
number it denotes -/
def NumText (cs : List Char) (q : Rat) : Prop :=
  ∃ ip fp, cs = ip ++ (if fp = [] then [] else '.' :: fp) ∧ ip ≠ [] ∧ AllDigits ip ∧ AllDigits fp
    ∧ q = (readDigits (ip ++ fp) : Rat) / 10 ^ fp.length

theorem allDigits_zeros (k : Nat) : AllDigits (List.replicate k '0') := by
  intro c hc
  rw [List.mem_replicate] at hc
  rw [hc.2]; rfl

theorem padLeft_digits {m k : Nat} (hk : k ≠ 0) (h : m < 10 ^ k) :
    AllDigits (padLeft k (natDigits m)) ∧ (padLeft k (natDigits m)).length = k
      ∧ readDigits (padLeft k (natDigits m)) = m := by
  have hlen : (natDigits m).length ≤ k := by
    obtain ⟨j, rfl⟩ := Nat.exists_eq_succ_of_ne_zero hk
    exact natDigits_length_le m j h
  unfold padLeft
  refine ⟨allDigits_append (allDigits_zeros _) (natDigits_allDigits _), by simp; omega, ?_⟩
  rw [readDigits_append, readDigits_zeros, readDigits_natDigits]; simp

theorem renderFixed_numText (n s : Nat) : NumText (renderFixed n s) ((n : Rat) / 10 ^ s) := by
  unfold renderFixed
  have hq : (n : Rat) / 10 ^ s = ((strip0 n s).1 : Rat) / 10 ^ (strip0 n s).2 := by
    rw [div_eq_div_iff (by positivity) (by positivity)]
    exact_mod_cast strip0_spec s n
  rw [hq]
  generalize strip0 n s = p
  simp only
  split
  · rename_i h0
    exact ⟨natDigits p.1, [], by simp, natDigits_ne_nil _, natDigits_allDigits _, by simp [AllDigits],
      by simp [h0, readDigits_natDigits]⟩
  · rename_i h0
    obtain ⟨hd, hl, hr⟩ := padLeft_digits h0 (Nat.mod_lt p.1 (by positivity : 0 < 10 ^ p.2))
    refine ⟨_, _, by rw [if_neg (List.ne_nil_of_length_pos (by omega))], natDigits_ne_nil _,
      natDigits_allDigits _, hd, ?_⟩
    rw [hl, readDigits_append, hl, readDigits_natDigits, hr]
    congr 1
    exact_mod_cast (Nat.div_add_mod' p.1 (10 ^ p.2)).symm

theorem renderFixed_int (n s : Nat) : renderFixed (n * 10 ^ s) s = natDigits n := by
  unfold renderFixed
  rw [strip0_pow]
  simp

theorem ilogUp_small (fuel : Nat) (a : Rat) (e0 : Int) (h : a < 10) : ilogUp fuel a e0 = (a, e0) := by
  cases fuel with
  | zero => rfl
  | succ f => simp [ilogUp, not_le.mpr h]

theorem ilogUp_spec (k : Nat) : ∀ (fuel : Nat) (a : Rat) (e0 : Int), k ≤ fuel → (10 : Rat) ^ k ≤ a →
    a < 10 ^ (k + 1) → ilogUp fuel a e0 = (a / 10 ^ k, e0 + k) := by
  induction k with
  | zero =>
    intro fuel a e0 _ _ h2
    simpa using ilogUp_small fuel a e0 (by simpa using h2)
  | succ k ih =>
    intro fuel a e0 hf h1 h2
    obtain ⟨f, rfl⟩ := Nat.exists_eq_succ_of_ne_zero (by omega : fuel ≠ 0)
    have h10 : (10 : Rat) ≤ a := (le_self_pow₀ (by norm_num) (by omega)).trans h1
    rw [ilogUp, if_pos h10, ih f (a / 10) (e0 + 1) (by omega)
      (by rwa [le_div_iff₀ (by norm_num), ← pow_succ]) (by rwa [div_lt_iff₀ (by norm_num), ← pow_succ]),
      div_div, ← pow_succ', Nat.cast_succ, add_assoc, add_comm 1]

theorem ilogDown_spec (k : Nat) : ∀ (fuel : Nat) (a : Rat) (e0 : Int), k ≤ fuel → 1 ≤ a * 10 ^ k →
    a * 10 ^ k < 10 → ilogDown fuel a e0 = (a * 10 ^ k, e0 - k) := by
  induction k with
  | zero =>
    intro fuel a e0 _ h1 _
    rw [pow_zero, mul_one] at h1
    cases fuel <;> simp [ilogDown, not_lt.mpr h1]
  | succ k ih =>
    intro fuel a e0 hf h1 h2
    obtain ⟨f, rfl⟩ := Nat.exists_eq_succ_of_ne_zero (by omega : fuel ≠ 0)
    have hlt : a < 1 := by
      by_contra hge
      exact absurd (((le_self_pow₀ (by norm_num) (by omega)).trans
        (le_mul_of_one_le_left (by positivity) (not_lt.mp hge))).trans_lt h2) (lt_irrefl _)
    rw [pow_succ', ← mul_assoc] at h1 h2 ⊢
    rw [ilogDown, if_pos hlt, ih f (a * 10) (e0 - 1) (by omega) h1 h2, Nat.cast_succ, sub_sub, add_comm 1]

theorem pow10_eq (e : Int) : pow10 e = (10 : Rat) ^ e := by
  unfold pow10
  split
  · rw [← zpow_natCast, Int.toNat_of_nonneg ‹_›]
  · rw [one_div, ← zpow_natCast, ← zpow_neg, Int.toNat_of_nonneg (by omega), neg_neg]

theorem ilog10_eq {a : Rat} {e : Int} (he : e.natAbs ≤ 400) (h1 : (10 : Rat) ^ e ≤ a) (h2 : a < 10 ^ (e + 1)) :
    ilog10 a = e := by
  unfold ilog10
  rcases Int.eq_nat_or_neg e with ⟨k, rfl | rfl⟩
  · -- `k` divisions bring `a` below 10, no multiplication follows
    have hp : (0 : Rat) < 10 ^ k := by positivity
    rw [zpow_natCast] at h1
    rw [← Nat.cast_succ, zpow_natCast] at h2
    rw [ilogUp_spec k 400 a 0 (by omega) h1 h2]
    simp only
    rw [ilogDown_spec 0 400 _ _ (by omega) (by rwa [pow_zero, mul_one, one_le_div hp])
      (by rwa [pow_zero, mul_one, div_lt_iff₀ hp, ← pow_succ'])]
    simp
  · -- no division, `k` multiplications bring `a` up to 1
    have hp : (0 : Rat) < 10 ^ k := by positivity
    have hlt : a < 10 := lt_of_lt_of_le h2 (by
      simpa using zpow_le_zpow_right₀ (by norm_num : (1 : Rat) ≤ 10) (by omega : -(k : Int) + 1 ≤ 1))
    rw [zpow_neg, zpow_natCast, inv_le_iff_one_le_mul₀ hp] at h1
    rw [zpow_add₀ (by norm_num), zpow_neg, zpow_natCast, zpow_one, inv_mul_eq_div, lt_div_iff₀ hp] at h2
    rw [ilogUp_small 400 a 0 hlt]
    simp only
    rw [ilogDown_spec k 400 _ _ (by omega) h1 h2]
    simp

theorem sci6_six (r s : Nat) (hr : 100000 ≤ r) (hr' : r < 1000000) (hs : s ≤ 9) :
    sci6 ((r : Rat) / 10 ^ s) = (r, 5 - (s : Int)) := by
  have hp : (0 : Rat) < 10 ^ s := by positivity
  have hlog : ilog10 ((r : Rat) / 10 ^ s) = 5 - (s : Int) := by
    apply ilog10_eq (by omega)
    · rw [zpow_sub₀ (by norm_num), zpow_natCast]
      exact div_le_div_of_nonneg_right (by exact_mod_cast hr) hp.le
    · rw [show (5 : Int) - s + 1 = 6 - s by ring, zpow_sub₀ (by norm_num), zpow_natCast]
      exact div_lt_div_of_pos_right (by exact_mod_cast hr') hp
  unfold sci6
  simp only [hlog]
  rw [show (5 : Int) - s - 5 = -(s : Int) by ring, pow10_eq, zpow_neg, zpow_natCast, div_inv_eq_mul,
    div_mul_cancel₀ _ hp.ne', ← Int.cast_natCast, roundHE_int, Int.toNat_natCast, if_neg (by omega)]

theorem fmtG_sign (q : Rat) : fmtG q = if q < 0 then '-' :: fmtG |q| else fmtG |q| := by
  by_cases h0 : q = 0
  · simp [h0]
  · simp [fmtG, absR_eq_abs, h0, not_lt.mpr (abs_nonneg q)]

/-- **`'%g'` of a number with at most six significant digits in `[1e-4, 1e6)`**: fixed notation of
exactly that number (`|q| = r / 10^s`, `r` six digits, `s ≤ 9`), with a minus sign when negative -/
theorem fmtG_fixed (q : Rat) (r s : Nat) (hr : 100000 ≤ r) (hr' : r < 1000000) (hs : s ≤ 9)
    (hq : |q| = (r : Rat) / 10 ^ s) :
    fmtG q = if q < 0 then '-' :: renderFixed r s else renderFixed r s := by
  have hpos : (0 : Rat) < (r : Rat) / 10 ^ s :=
    div_pos (by exact_mod_cast (by omega : 0 < r)) (by positivity)
  have hfix : fmtG ((r : Rat) / 10 ^ s) = renderFixed r s := by
    unfold fmtG
    rw [if_neg hpos.ne', absR_eq_abs, abs_of_pos hpos, sci6_six r s hr hr' hs]
    simp only
    rw [if_neg (by omega : ¬ (5 - (s : Int) < -4 ∨ 6 ≤ 5 - (s : Int))), if_neg (not_lt.mpr hpos.le),
      show (5 - (5 - (s : Int))).toNat = s by omega]
  rw [fmtG_sign, hq, hfix]

theorem fmtG_nat (n : Nat) (h : n < 1000000) : fmtG (n : Rat) = natDigits n := by
  rcases Nat.eq_zero_or_pos n with rfl | h0
  · rfl
  · -- scale `n` to six digits: `j = 6 - (number of digits)`
    obtain ⟨hlt, hge⟩ := natDigits_bounds n h0
    have hL1 : 1 ≤ (natDigits n).length := List.length_pos_iff.mpr (natDigits_ne_nil n)
    have hL6 : (natDigits n).length ≤ 6 := natDigits_length_le n 5 h
    generalize (natDigits n).length = L at *
    obtain ⟨j, hj⟩ : ∃ j, L + j = 6 := ⟨6 - L, by omega⟩
    have h1 : 100000 ≤ n * 10 ^ j := by
      have := Nat.mul_le_mul_right (10 ^ j) hge
      rwa [← pow_add, show L - 1 + j = 5 by omega] at this
    have h2 : n * 10 ^ j < 1000000 := by
      have := Nat.mul_lt_mul_of_pos_right hlt (Nat.pow_pos (n := j) (by norm_num : 0 < 10))
      rwa [← pow_add, hj] at this
    have hq : |(n : Rat)| = ((n * 10 ^ j : Nat) : Rat) / 10 ^ j := by
      rw [abs_of_nonneg (by positivity)]
      push_cast
      field_simp
    rw [fmtG_fixed (n : Rat) (n * 10 ^ j) j h1 h2 (by omega) hq,
      if_neg (not_lt.mpr (by positivity)), renderFixed_int]

theorem digit_facts {c : Char} (h : isDigit c = true) :
    isSpace c = false ∧ isSep c = false ∧ (c == '/') = false ∧ (c == '-') = false ∧ (c == '+') = false
      ∧ (c == ',') = false := by
  unfold isDigit at h
  simp only [Bool.and_eq_true, decide_eq_true_eq] at h
  have hne : ∀ d : Char, (d.toNat < 48 ∨ 57 < d.toNat) → (c == d) = false := by
    intro d hd
    rw [beq_eq_false_iff_ne]
    intro hcd; rw [hcd] at h; omega
  refine ⟨?_, ?_, hne '/' (by decide), hne '-' (by decide), hne '+' (by decide), hne ',' (by decide)⟩
  · unfold isSpace
    rw [hne ' ' (by decide), hne '\t' (by decide), hne '\n' (by decide), hne '\r' (by decide)]
    simp; omega
  · unfold isSep
    rw [hne '.' (by decide), hne ',' (by decide)]; rfl

theorem spanDigits_append {ds tail : List Char} (hd : AllDigits ds)
    (ht : ∀ c rest, tail = c :: rest → isDigit c = false) : spanDigits (ds ++ tail) = (ds, tail) := by
  induction ds with
  | nil =>
    cases tail with
    | nil => rfl
    | cons c rest => simp [spanDigits, ht c rest rfl]
  | cons d ds ih =>
    have hd1 : isDigit d = true := hd d (by simp)
    have := ih (fun c hc => hd c (by simp [hc]))
    simp [spanDigits, hd1, this]

theorem spanDigits_all {ds : List Char} (hd : AllDigits ds) : spanDigits ds = (ds, []) := by
  have := spanDigits_append (tail := []) hd (by intro c rest h; cases h)
  simpa using this

theorem skipSpaces_head {cs : List Char} (h : ∀ c rest, cs = c :: rest → isSpace c = false) : skipSpaces cs = cs := by
  cases cs with
  | nil => rfl
  | cons c rest => simp [skipSpaces, h c rest rfl]

theorem prefixesDesc_head (ds : List Char) (hne : ds ≠ []) :
    ∃ more, prefixesDesc ds.length ds = (ds, []) :: more := by
  cases hl : ds.length with
  | zero => exact absurd (List.length_eq_zero_iff.mp hl) hne
  | succ n =>
    refine ⟨prefixesDesc n ds, ?_⟩
    show prefixesDesc (n + 1) ds = _
    simp only [prefixesDesc]
    rw [List.take_of_length_le (by omega), List.drop_eq_nil_of_le (by omega)]

/-- what may follow a number inside a formatted value: nothing, a blank or the slash -/
def GoodTail (tail : List Char) : Prop :=
  ∀ c rest, tail = c :: rest → isDigit c = false ∧ isSep c = false

theorem goodTail_nil : GoodTail [] := by intro c rest h; cases h
theorem goodTail_space (rest : List Char) : GoodTail (' ' :: rest) := by
  intro c r h; cases h; exact ⟨by decide, by decide⟩
theorem goodTail_slash (rest : List Char) : GoodTail ('/' :: rest) := by
  intro c r h; cases h; exact ⟨by decide, by decide⟩

theorem numText_ne_nil {cs : List Char} {q : Rat} (h : NumText cs q) : cs ≠ [] := by
  obtain ⟨ip, fp, rfl, hne, -⟩ := h
  simp [hne]

/-- the greedy candidate of `NUM` on a number text followed by a good tail is the whole number -/
theorem numCandsU_head {cs tail : List Char} {q : Rat} (h : NumText cs q) (ht : GoodTail tail) :
    (numCandsU (cs ++ tail)).head? = some (cs, tail) := by
  obtain ⟨ip, fp, rfl, hne, hip, hfp, -⟩ := h
  have hipE : ip.isEmpty = false := List.isEmpty_eq_false_iff.mpr hne
  obtain ⟨m1, hm1⟩ := prefixesDesc_head ip hne
  by_cases hf : fp = []
  · subst hf
    simp only [if_true, List.append_nil]
    have hsp : spanDigits (ip ++ tail) = (ip, tail) := spanDigits_append hip (fun c r h => (ht c r h).1)
    unfold numCandsU
    simp only [hsp, hipE, Bool.false_eq_true, if_false, hm1]
    cases tail with
    | nil => simp
    | cons c rest =>
      have := (ht c rest rfl).2
      simp only [this, Bool.false_eq_true, if_false]
      simp
  · rw [if_neg hf]
    obtain ⟨m2, hm2⟩ := prefixesDesc_head fp hf
    have hsp : spanDigits ((ip ++ '.' :: fp) ++ tail) = (ip, '.' :: (fp ++ tail)) := by
      have : (ip ++ '.' :: fp) ++ tail = ip ++ ('.' :: (fp ++ tail)) := by simp
      rw [this]
      exact spanDigits_append hip (by intro c r h; cases h; decide)
    have hsp2 : spanDigits (fp ++ tail) = (fp, tail) := spanDigits_append hfp (fun c r h => (ht c r h).1)
    unfold numCandsU
    simp only [hsp, hipE, Bool.false_eq_true, if_false]
    have hs : isSep '.' = true := by decide
    simp only [hs, if_true, hsp2, hm2]
    simp

theorem readUnsigned_numText {cs : List Char} {q : Rat} (h : NumText cs q) : readUnsigned cs = .ok q := by
  obtain ⟨ip, fp, rfl, hne, hip, hfp, rfl⟩ := h
  have hnc : ∀ l : List Char, AllDigits l → l.any (· == ',') = false := by
    intro l hl
    rw [List.any_eq_false]
    intro c hc
    have := (digit_facts (hl c hc)).2.2.2.2.2
    simpa using this
  by_cases hf : fp = []
  · subst hf
    simp only [if_true, List.append_nil]
    unfold readUnsigned
    rw [hnc ip hip]
    simp only [Bool.false_eq_true, if_false, spanDigits_all hip]
    simp
  · rw [if_neg hf]
    unfold readUnsigned
    have hany : (ip ++ '.' :: fp).any (· == ',') = false := by
      rw [List.any_append, hnc ip hip]
      simp only [List.any_cons, hnc fp hfp]
      decide
    rw [hany]
    have hsp : spanDigits (ip ++ '.' :: fp) = (ip, '.' :: fp) :=
      spanDigits_append hip (by intro c r h; cases h; decide)
    simp only [Bool.false_eq_true, if_false, hsp]

/-- a number text with an optional minus sign -/
def SNumText (cs : List Char) (q : Rat) : Prop :=
  (∃ u v, cs = '-' :: u ∧ NumText u v ∧ q = -v) ∨ NumText cs q

theorem numText_head {cs : List Char} {q : Rat} (h : NumText cs q) :
    ∃ d rest, cs = d :: rest ∧ isDigit d = true := by
  obtain ⟨ip, fp, rfl, hne, hip, -⟩ := h
  cases ip with
  | nil => exact absurd rfl hne
  | cons d r => exact ⟨d, _, rfl, hip d (by simp)⟩

theorem snumText_head {cs : List Char} {q : Rat} (h : SNumText cs q) :
    ∃ c rest, cs = c :: rest ∧ isSpace c = false ∧ (c == '/') = false := by
  rcases h with ⟨u, v, rfl, -, -⟩ | h
  · exact ⟨'-', u, rfl, by decide, by decide⟩
  · obtain ⟨d, rest, rfl, hd⟩ := numText_head h
    exact ⟨d, rest, rfl, (digit_facts hd).1, (digit_facts hd).2.2.1⟩

theorem numCands_snumText {cs tail : List Char} {q : Rat} (h : SNumText cs q) (ht : GoodTail tail) :
    ∃ more, numCands (cs ++ tail) = (cs, tail) :: more := by
  rcases h with ⟨u, v, rfl, hu, -⟩ | h
  · obtain ⟨more, hm⟩ := List.head?_eq_some_iff.mp (numCandsU_head hu ht)
    refine ⟨more.map (fun p => ('-' :: p.1, p.2)), ?_⟩
    show numCands ('-' :: (u ++ tail)) = _
    simp [numCands, hm]
  · obtain ⟨more, hm⟩ := List.head?_eq_some_iff.mp (numCandsU_head h ht)
    obtain ⟨d, rest, rfl, hd⟩ := numText_head h
    have hf := digit_facts hd
    refine ⟨more, ?_⟩
    rw [← hm]
    show numCands (d :: (rest ++ tail)) = _
    simp [numCands, hf.2.2.2.1, hf.2.2.2.2.1]

theorem readFloat_snumText {cs : List Char} {q : Rat} (h : SNumText cs q) : readFloat cs = .ok q := by
  rcases h with ⟨u, v, rfl, hu, rfl⟩ | h
  · simp [readFloat, readUnsigned_numText hu]
  · obtain ⟨d, rest, rfl, hd⟩ := numText_head h
    have hf := digit_facts hd
    rw [← readUnsigned_numText h]
    unfold readFloat
    split
    · rename_i heq; cases heq; simp at hf
    · rename_i heq; cases heq; simp at hf
    · rfl

/-- `NUM \s*/\s* \d+ $` on `numerator/denominator` -/
theorem fracPart_some {n d : List Char} {q : Rat} (hn : SNumText n q) (hd : AllDigits d) (hne : d ≠ []) :
    fracPart (n ++ '/' :: d) = some (n, d) := by
  obtain ⟨more, hm⟩ := numCands_snumText hn (goodTail_slash d)
  unfold fracPart
  rw [hm]
  simp only
  have h1 : skipSpaces ('/' :: d) = '/' :: d := skipSpaces_head (by intro c r h; cases h; decide)
  rw [h1]
  simp only [beq_self_eq_true, if_true]
  have h2 : skipSpaces d = d := skipSpaces_head (by
    intro c r h; exact (digit_facts (hd c (by simp [h]))).1)
  rw [h2, spanDigits_all hd]
  simp [List.isEmpty_eq_false_iff.mpr hne]

theorem fracPart_number {n : List Char} {q : Rat} (hn : SNumText n q) : fracPart n = none := by
  obtain ⟨more, hm⟩ := numCands_snumText hn goodTail_nil
  rw [List.append_nil] at hm
  unfold fracPart
  rw [hm]
  simp [skipSpaces]

theorem fracPart_two {n f rest : List Char} {q q' : Rat} (hn : SNumText n q) (hf : SNumText f q') :
    fracPart (n ++ ' ' :: (f ++ rest)) = none := by
  obtain ⟨more, hm⟩ := numCands_snumText hn (goodTail_space (f ++ rest))
  obtain ⟨c, r, rfl, hc1, hc2⟩ := snumText_head hf
  unfold fracPart
  rw [hm]
  simp only
  have : skipSpaces (' ' :: (c :: r ++ rest)) = c :: (r ++ rest) := by
    show skipSpaces (' ' :: c :: (r ++ rest)) = _
    simp [skipSpaces, hc1]
    decide
  rw [this]
  simp [hc2]

theorem stripSpaces_id {cs : List Char} (h1 : ∀ c rest, cs = c :: rest → isSpace c = false)
    (h2 : ∃ pre c, cs = pre ++ [c] ∧ isSpace c = false) : stripSpaces cs = cs := by
  unfold stripSpaces
  rw [skipSpaces_head h1]
  obtain ⟨pre, c, rfl, hc⟩ := h2
  have : (pre ++ [c]).reverse = c :: pre.reverse := by simp
  rw [this, skipSpaces_head (by intro d r h; cases h; exact hc)]
  simp

theorem ends_of_digits (pre l : List Char) (hl : AllDigits l) (hne : l ≠ []) :
    ∃ p c, pre ++ l = p ++ [c] ∧ isSpace c = false := by
  refine ⟨pre ++ l.dropLast, l.getLast hne, ?_, (digit_facts (hl _ (List.getLast_mem hne))).1⟩
  rw [List.append_assoc, List.dropLast_append_getLast]

theorem snumText_ends {cs : List Char} {q : Rat} (h : SNumText cs q) :
    ∃ pre l, cs = pre ++ l ∧ AllDigits l ∧ l ≠ [] := by
  have key : ∀ {u : List Char} {v : Rat}, NumText u v → ∃ pre l, u = pre ++ l ∧ AllDigits l ∧ l ≠ [] := by
    intro u v hu
    obtain ⟨ip, fp, rfl, hne, hip, hfp, -⟩ := hu
    by_cases hf : fp = []
    · exact ⟨[], ip, by simp [hf], hip, hne⟩
    · exact ⟨ip ++ ['.'], fp, by simp [hf], hfp, hf⟩
  rcases h with ⟨u, v, rfl, hu, -⟩ | h
  · obtain ⟨pre, l, rfl, hl, hne⟩ := key hu
    exact ⟨'-' :: pre, l, rfl, hl, hne⟩
  · exact key h

/-- `"<number>"` -/
theorem parse_number {n : List Char} {q : Rat} (hn : SNumText n q) : parse n = .ok ⟨q, ⟨0⟩⟩ := by
  obtain ⟨c, r, hcs, hc1, -⟩ := snumText_head hn
  obtain ⟨pre, l, hpl, hl, hlne⟩ := snumText_ends hn
  have hstrip : stripSpaces n = n := by
    apply stripSpaces_id
    · intro c' r' h; rw [hcs] at h; cases h; exact hc1
    · rw [hpl]; exact ends_of_digits pre l hl hlne
  have hne : n.isEmpty = false := by rw [hcs]; rfl
  obtain ⟨more, hm⟩ := numCands_snumText hn goodTail_nil
  rw [List.append_nil] at hm
  unfold parse
  rw [hstrip]
  have hp : matchPartial n = none := by
    unfold matchPartial
    rw [hne]; simp [fracPart_number hn]
  have hfull : matchFull n = some ⟨some n, none⟩ := by
    unfold matchFull
    rw [hm]; simp [matchFullCands, skipSpaces]
  rw [hp, hfull]
  simp only [fromGroups, readFloat_snumText hn]
  exact fv_init_default q

/-- `"<number> <numerator>/<denominator>"` -/
theorem parse_mixed {n f d : List Char} {q : Rat} {a : Int} {b : Nat} (hn : SNumText n q)
    (hf : SNumText f (a : Rat)) (hd : AllDigits d) (hdne : d ≠ []) (hdv : readDigits d = b) (hb : b ≠ 0) :
    parse (n ++ ' ' :: (f ++ '/' :: d)) = .ok ⟨q, ⟨(a : Rat) / (b : Rat)⟩⟩ := by
  set text := n ++ ' ' :: (f ++ '/' :: d) with htext
  obtain ⟨c, r, hcs, hc1, -⟩ := snumText_head hn
  have hstrip : stripSpaces text = text := by
    apply stripSpaces_id
    · intro c' r' h; rw [htext, hcs] at h; cases h; exact hc1
    · have : text = (n ++ ' ' :: (f ++ ['/'])) ++ d := by simp [htext]
      rw [this]; exact ends_of_digits _ d hd hdne
  have hne : text.isEmpty = false := by rw [htext, hcs]; rfl
  obtain ⟨more, hm⟩ := numCands_snumText hn (goodTail_space (f ++ '/' :: d))
  unfold parse
  rw [hstrip]
  have hp : matchPartial text = none := by
    unfold matchPartial
    rw [hne]; simp [htext, fracPart_two hn hf]
  obtain ⟨c2, r2, hf2, hc21, hc22⟩ := snumText_head hf
  have hskip : skipSpaces (' ' :: (f ++ '/' :: d)) = f ++ '/' :: d := by
    rw [hf2]
    show skipSpaces (' ' :: c2 :: (r2 ++ '/' :: d)) = _
    simp [skipSpaces, hc21]
    decide
  have hfull : matchFull text = some ⟨some n, some (f, d)⟩ := by
    unfold matchFull
    rw [htext, hm]
    unfold matchFullCands
    rw [hskip]
    have hfp := fracPart_some hf hd hdne
    rw [hf2] at hfp ⊢
    simp only [List.cons_append] at hfp ⊢
    rw [hfp]
  rw [hp, hfull]
  simp only [fromGroups, readFloat_snumText hn, readFloat_snumText hf, hdv]
  have hbR : ((b : Nat) : Rat) ≠ 0 := by exact_mod_cast hb
  rw [init_fin_fin _ _ hbR, normalise_int]
  simp [FV.init, setFraction]

/-- at most six significant digits and `1e-4 ≤ |q| < 1e6`, or zero: `|q| = r / 10^s` with a
six-digit `r` and `s ≤ 9` -/
def Printable (q : Rat) : Prop :=
  q = 0 ∨ ∃ r s : Nat, 100000 ≤ r ∧ r < 1000000 ∧ s ≤ 9 ∧ |q| = (r : Rat) / 10 ^ s

theorem numText_natDigits (n : Nat) : NumText (natDigits n) (n : Rat) :=
  ⟨natDigits n, [], by simp, natDigits_ne_nil n, natDigits_allDigits n, by intro c hc; simp at hc,
   by simp [readDigits_natDigits]⟩

theorem snumText_sign {u : List Char} {q : Rat} (h : NumText u |q|) :
    SNumText (if q < 0 then '-' :: u else u) q := by
  split
  · exact Or.inl ⟨u, |q|, rfl, h, by rw [abs_of_neg ‹_›, neg_neg]⟩
  · exact Or.inr (abs_of_nonneg (not_lt.mp ‹_›) ▸ h)

theorem fmtG_printable {q : Rat} (h : Printable q) : SNumText (fmtG q) q := by
  rcases h with rfl | ⟨r, s, hr, hr', hs, hq⟩
  · rw [show fmtG 0 = natDigits 0 from rfl]
    exact Or.inr (by simpa using numText_natDigits 0)
  · rw [fmtG_fixed q r s hr hr' hs hq]
    exact snumText_sign (hq ▸ renderFixed_numText r s)

theorem fmtG_int_snum (z : Int) (h : z.natAbs < 1000000) : SNumText (fmtG (z : Rat)) (z : Rat) := by
  rw [fmtG_sign]
  apply snumText_sign
  rw [← Int.cast_abs, Int.abs_eq_natAbs, Int.cast_natCast, fmtG_nat _ h]
  exact numText_natDigits _

/-- **formatting followed by parsing gives the FractionValue back**, number, numerator and
denominator, for every printable number and every fraction with numerator and denominator below
a million -/
theorem parse_str (v : FV) (hn : Printable v.number) (hnum : v.frac.x.num.natAbs < 1000000)
    (hden : v.frac.x.den < 1000000) : parse v.str = .ok v := by
  have hN := fmtG_printable hn
  unfold FV.str
  by_cases h0 : v.frac.toFloat = 0
  · rw [if_pos h0, parse_number hN]
    cases v with
    | mk n f => cases f with
      | mk x => simp only [Frac.toFloat] at h0; subst h0; rfl
  · rw [if_neg h0]
    unfold Frac.str Frac.numerator Frac.denominator
    have hF := fmtG_int_snum v.frac.x.num hnum
    have hD : fmtG ((v.frac.x.den : Int) : Rat) = natDigits v.frac.x.den := by
      rw [Int.cast_natCast]; exact fmtG_nat _ hden
    rw [hD]
    rw [parse_mixed hN hF (natDigits_allDigits _) (natDigits_ne_nil _) (readDigits_natDigits _) v.frac.x.den_nz]
    rw [Rat.num_div_den]

end Barril.Frac
