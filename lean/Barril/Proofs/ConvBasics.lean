/- Facts several engines use: a hit of an association list is an entry of it; `GetInfo` only raises units errors. -/
import Barril.Model.Conv

namespace Barril

theorem lookup_some {κ ν : Type} [BEq κ] [LawfulBEq κ] {m : List (κ × ν)} {k : κ} {v : ν}
    (h : (m.find? (·.1 == k)).map (·.2) = some v) : (k, v) ∈ m := by
  obtain ⟨e, hf, rfl⟩ := Option.map_eq_some_iff.mp h
  have hk : e.1 = k := by simpa using List.find?_some hf
  exact hk ▸ List.mem_of_find?_eq_some hf

/-- `GetInfo` fails with `InvalidUnitError`/`InvalidQuantityTypeError` only -/
theorem Db.getInfo_error_units {db : Db} {qt u : Sym} {fu fl : Bool} {e : ErrKind}
    (h : db.getInfo qt u fu fl = .error e) : e = .units := by
  unfold Db.getInfo at h
  split at h
  · cases h
  · split at h
    · cases h; rfl
    · split at h
      · cases h
      · split at h
        · cases h
        · split at h
          · cases h
          · cases h; rfl

end Barril
