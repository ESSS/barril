/-
Lemmas for C18: pools of objects and operation sequences,
the in-place setters and the sequence protocol of `Fraction`, `Fraction.__pow__`.
-/
import Barril.Proofs.FracLemmas

namespace Barril.Frac

theorem poolStep_length_le (db : Db) (p : Pool) (op : PoolOp) : p.length ≤ (poolStep db p op).1.length := by
  cases op with
  | new c =>
    simp only [poolStep]
    split <;> simp
  | upd i m =>
    simp only [poolStep]
    split
    · simp
    · split <;> simp

theorem poolStep_get_other (db : Db) (p : Pool) (op : PoolOp) (j : Nat) (hj : j < p.length)
    (h : op.target ≠ some j) : (poolStep db p op).1[j]? = p[j]? := by
  cases op with
  | new c =>
    simp only [poolStep]
    split
    · exact List.getElem?_append_left hj
    · rfl
    · rfl
  | upd i m =>
    have hij : i ≠ j := fun e => h (by simp [PoolOp.target, e])
    simp only [poolStep]
    split
    · rfl
    · split
      · exact List.getElem?_set_ne hij
      · rfl

theorem mutsOf_nil_of_no_target (j : Nat) :
    ∀ (ops : List PoolOp), (∀ op ∈ ops, op.target ≠ some j) → mutsOf j ops = [] := by
  intro ops
  induction ops with
  | nil => intro _; rfl
  | cons op ops ih =>
    intro h
    have h1 := h op (by simp)
    have h2 := ih (fun o ho => h o (by simp [ho]))
    cases op with
    | new c => simpa [mutsOf] using h2
    | upd i m =>
      have hij : i ≠ j := fun e => h1 (by simp [PoolOp.target, e])
      simp [mutsOf, hij, h2]

/-- after a whole program object `j` is what the in-place operations aimed at `j`, applied to it alone,
make of it -/
theorem poolRun_projection (db : Db) :
    ∀ (ops : List PoolOp) (p : Pool) (j : Nat) (o : Obj), p[j]? = some o →
      (poolRun db p ops)[j]? = some (o.mutateAll (mutsOf j ops)) := by
  intro ops
  induction ops with
  | nil => intro p j o h; simpa [poolRun, mutsOf, Obj.mutateAll] using h
  | cons op ops ih =>
    intro p j o h
    have hj : j < p.length := (List.getElem?_eq_some_iff.mp h).1
    cases op with
    | new c =>
      have hs : (poolStep db p (.new c)).1[j]? = some o := by
        rw [poolStep_get_other db p (.new c) j hj (by simp [PoolOp.target])]; exact h
      simpa [poolRun, mutsOf] using ih _ j o hs
    | upd i m =>
      by_cases hij : i = j
      · subst hij
        cases hm : o.mutate m with
        | ok o' =>
          have hs : (poolStep db p (.upd i m)).1[i]? = some o' := by
            simp only [poolStep, h, hm]
            exact List.getElem?_set_self hj
          have := ih _ i o' hs
          simpa [poolRun, mutsOf, Obj.mutateAll, hm] using this
        | error e =>
          have hs : (poolStep db p (.upd i m)).1[i]? = some o := by
            simp only [poolStep, h, hm]
          have := ih _ i o hs
          simpa [poolRun, mutsOf, Obj.mutateAll, hm] using this
      · have hs : (poolStep db p (.upd i m)).1[j]? = some o := by
          rw [poolStep_get_other db p (.upd i m) j hj (by simp [PoolOp.target, hij])]; exact h
        simpa [poolRun, mutsOf, hij] using ih _ j o hs

theorem poolStep_new (db : Db) (p : Pool) (c : Ctor) (o : Obj) (h : c.eval db p = .ok (some o)) :
    poolStep db p (.new c) = (p ++ [o], .ok ()) := by
  simp [poolStep, h]

theorem setNum_int (f : Frac) (n : Int) : f.setNum (.int n) = .ok ⟨(n : Rat) / (f.denominator : Rat)⟩ := by
  simp [Frac.setNum, stdFraction, denominator_ne_zero f]

theorem setDen_int (f : Frac) (d : Int) (hd : d ≠ 0) : f.setDen (.int d) = .ok ⟨(f.numerator : Rat) / (d : Rat)⟩ := by
  simp [Frac.setDen, stdFraction, hd]

theorem setDen_zero (f : Frac) : f.setDen (.int 0) = .error .other := by
  simp [Frac.setDen, stdFraction]

theorem setNum_decimal (f : Frac) (m : Int) (i : Nat) (hi : i ≤ 7) :
    f.setNum (.float ((m : Rat) / 10 ^ i)) = .ok ⟨(m : Rat) / 10 ^ i / (f.denominator : Rat)⟩ := by
  simp only [Frac.setNum]
  rw [setNumerator_eq, normalise_decimal m i hi]
  simp [Frac.denominator]

theorem setDen_decimal (f : Frac) (m : Int) (i : Nat) (hi : i ≤ 7) (hm : m ≠ 0) :
    f.setDen (.float ((m : Rat) / 10 ^ i)) = .ok ⟨(f.numerator : Rat) / ((m : Rat) / 10 ^ i)⟩ := by
  simp only [Frac.setDen]
  rw [init_fin_none, init_fin_none, normalise_decimal m i hi, normalise_int]
  have : ((m : Rat) / 10 ^ i / 1) ≠ 0 := by
    have h10 : ((10 : Rat) ^ i) ≠ 0 := pow_ne_zero _ (by norm_num)
    have hm' : (m : Rat) ≠ 0 := by exact_mod_cast hm
    simp [hm', h10]
  simp only [this, if_false]
  simp

theorem powInt_nonneg (s : Frac) (k : Nat) : s.powInt (k : Int) = .ok ⟨s.x ^ k⟩ := by
  unfold Frac.powInt
  rw [if_neg (by omega), Int.toNat_natCast]
  refine (ofInts_eq _ _ (pow_ne_zero _ (denominator_ne_zero s))).trans ?_
  unfold Frac.numerator Frac.denominator
  rw [Int.cast_pow, Int.cast_pow, ← div_pow, num_div_den']

theorem powInt_neg (s : Frac) (k : Nat) (hk : 0 < k) (hx : s.x ≠ 0) :
    s.powInt (-(k : Int)) = .ok ⟨(s.x ^ k)⁻¹⟩ := by
  unfold Frac.powInt
  rw [if_pos (by omega), neg_neg, Int.toNat_natCast]
  refine (ofInts_eq _ _ (pow_ne_zero _ (Rat.num_ne_zero.mpr hx))).trans ?_
  unfold Frac.denominator
  rw [Int.cast_pow, Int.cast_pow, ← div_pow, ← inv_div, num_div_den', inv_pow]

theorem powInt_neg_zero (s : Frac) (k : Nat) (hk : 0 < k) (hx : s.x = 0) :
    s.powInt (-(k : Int)) = .error .assertion := by
  unfold Frac.powInt
  rw [if_pos (by omega), neg_neg, Int.toNat_natCast, show s.numerator = 0 from Rat.num_eq_zero.mpr hx,
    zero_pow (by omega), Int.cast_zero]
  exact init_fin_zero _

end Barril.Frac
