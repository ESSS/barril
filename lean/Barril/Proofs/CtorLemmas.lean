/-
Lemmas for C19 (`Barril/Model/Ctor.lean`).  The central one is `forms_build`: each constructor form ends in
`create`.
-/
import Barril.Model.Ctor

namespace Barril.Ctor
open Barril


theorem ofBytes_symBytesFuel : ∀ (fuel n : Nat), n ≤ fuel → Sym.ofBytes (symBytesFuel fuel n) = n
  | 0, n, h => by
    have : n = 0 := by omega
    subst this; simp [symBytesFuel, Sym.ofBytes]
  | fuel + 1, n, h => by
    unfold symBytesFuel
    by_cases h0 : n = 0
    · simp [h0, Sym.ofBytes]
    · simp only [h0, ↓reduceIte, Sym.ofBytes]
      rw [ofBytes_symBytesFuel fuel (n / 256) (by omega)]
      exact Nat.mod_add_div n 256

theorem ofBytes_bytes (n : Sym) : Sym.ofBytes (Sym.bytes n) = n :=
  ofBytes_symBytesFuel n n (Nat.le_refl n)


def plainByte (c : Nat) : Bool := !(c == quote || c == backslash || c == 10 || c == 13)

theorem plainBytes_cons (c : Nat) (cs : List Nat) :
    plainBytes (c :: cs) = (plainByte c && plainBytes cs) := by
  simp [plainBytes, plainByte]

theorem parseLitBody_plain : ∀ (s : List Nat), plainBytes s = true → parseLitBody (s ++ [quote]) = some s
  | [], _ => by simp [parseLitBody]
  | c :: cs, h => by
    rw [plainBytes_cons] at h
    simp only [Bool.and_eq_true] at h
    have ih := parseLitBody_plain cs h.2
    have hc := h.1
    simp only [plainByte, Bool.not_eq_true', Bool.or_eq_false_iff] at hc
    obtain ⟨⟨⟨h1, h2⟩, h3⟩, h4⟩ := hc
    simp [parseLitBody, h1, h2, h3, h4, ih]

theorem parseLitBody_some : ∀ (s t : List Nat), parseLitBody (s ++ [quote]) = some t → plainBytes s = true ∧ t = s
  | [], t, h => by
    simp [parseLitBody] at h
    simp [plainBytes, h]
  | c :: cs, t, h => by
    simp only [List.cons_append, parseLitBody] at h
    by_cases h1 : (c == quote) = true
    · simp [h1] at h
    · simp only [h1, Bool.false_eq_true, ↓reduceIte] at h
      by_cases h2 : (c == backslash || c == 10 || c == 13) = true
      · simp [h2] at h
      · simp only [h2, Bool.false_eq_true, ↓reduceIte, Option.map_eq_some_iff] at h
        obtain ⟨t', ht', rfl⟩ := h
        have ih := parseLitBody_some cs t' ht'
        rw [plainBytes_cons]
        refine ⟨?_, by rw [ih.2]⟩
        simp only [Bool.and_eq_true, ih.1, and_true, plainByte]
        simp only [Bool.not_eq_true] at h1 h2
        simp only [Bool.or_eq_false_iff] at h2
        simp [h1, h2.1.1, h2.1.2, h2.2]

theorem parseLit_quoteLit_iff (s : List Nat) : parseLit (quoteLit s) = some s ↔ plainBytes s = true := by
  simp only [parseLit, quoteLit, beq_self_eq_true, ↓reduceIte]
  constructor
  · intro h; exact (parseLitBody_some s s h).1
  · exact parseLitBody_plain s

theorem parseLit_quoteLit_eq (s t : List Nat) (h : parseLit (quoteLit s) = some t) : t = s := by
  simp only [parseLit, quoteLit, beq_self_eq_true, ↓reduceIte] at h
  exact (parseLitBody_some s t h).2

theorem parseLit_quoteLit_none {s : List Nat} (h : plainBytes s = false) : parseLit (quoteLit s) = none := by
  cases hp : parseLit (quoteLit s) with
  | none => rfl
  | some t =>
    have := parseLit_quoteLit_eq _ _ hp; subst this
    rw [(parseLit_quoteLit_iff _).mp hp] at h; cases h


/-- the `float(s)` remembered with a category string plays no role in building a quantity -/
theorem newQuantity_str_irrel (db : Db) (c : Sym) (f f' : Option Rat) (u : Sym) :
    newQuantity db (.str c f) u = newQuantity db (.str c f') u := rfl

theorem checkedUnit_valid {db : Db} {c u u' : Sym} (h : checkedUnit db c u = .ok u') :
    db.categoryUnitValid c u' = true := by
  unfold checkedUnit at h
  split at h
  · cases h; assumption
  · split at h
    · split at h
      · cases h; assumption
      · cases h
    · cases h

theorem checkedUnit_of_valid {db : Db} {c u : Sym} (h : db.categoryUnitValid c u = true) :
    checkedUnit db c u = .ok u := by
  simp [checkedUnit, h]

theorem newQuantity_ok {db : Db} {c : Sym} {f : Option Rat} {u : Sym} {q : Qty}
    (h : newQuantity db (.str c f) u = .ok q) :
    ∃ ci u', db.catByName c = some ci ∧ checkedUnit db c u = .ok u' ∧ q = Qty.simple c u'
      ∧ finishQuantity db ci c u' = .ok q := by
  simp only [newQuantity, newQuantityC, capOf] at h
  split at h
  · cases h
  · rename_i ci hci
    split at h
    · cases h
    · rename_i u' hu'
      have h' := h
      unfold finishQuantityC at h
      split at h
      · cases h
        exact ⟨ci, u', hci, hu', rfl, h'⟩
      · cases h

theorem newQuantity_idem {db : Db} {c : Sym} {f f' : Option Rat} {u : Sym} {q : Qty}
    (h : newQuantity db (.str c f) u = .ok q) : newQuantity db (.str q.cat f') q.unit = .ok q := by
  obtain ⟨ci, u', hci, hu, rfl, hf⟩ := newQuantity_ok h
  have hf' : finishQuantityC db ci c u' 0 = .ok (Qty.simple c u') := hf
  simp only [newQuantity, newQuantityC, capOf, Qty.simple, hci, checkedUnit_of_valid (checkedUnit_valid hu), hf']

theorem newQuantity_simple {db : Db} {c : Sym} {f : Option Rat} {u : Sym} {q : Qty}
    (h : newQuantity db (.str c f) u = .ok q) : q.comp = none ∧ q.caption = 0 := by
  obtain ⟨_, _, _, _, rfl, _⟩ := newQuantity_ok h
  exact ⟨rfl, rfl⟩

theorem qtyInfo_of_newQuantity {db : Db} {c : Sym} {f : Option Rat} {u : Sym} {q : Qty}
    (h : newQuantity db (.str c f) u = .ok q) : ∃ ci, db.catByName c = some ci ∧ qtyInfo db q = .ok ci := by
  obtain ⟨ci, _, hci, _, rfl, _⟩ := newQuantity_ok h
  exact ⟨ci, hci, by simp [qtyInfo, Qty.simple, hci]⟩

theorem obtainQuantity_str (db : Db) (u : Sym) (g : Option Rat) (c : Sym) (f : Option Rat) :
    obtainQuantity db (.atom (.str u g)) (.str c f) = newQuantity db (.str c f) u := rfl

theorem obtainDefault_of_default {db : Db} {u c : Sym} (hc : getDefaultCategory db u = .ok (some c))
    (hc0 : c ≠ 0) : obtainDefault db u = newQuantity db (.str c none) u := by
  have : (c == 0) = false := by simpa using hc0
  simp [obtainDefault, obtainDefaultC, newQuantity, hc, falsy, this, optAtom]

theorem obtainQuantity_default {db : Db} {u c : Sym} (g : Option Rat)
    (hc : getDefaultCategory db u = .ok (some c)) (hc0 : c ≠ 0) :
    obtainQuantity db (.atom (.str u g)) .none = newQuantity db (.str c none) u := by
  rw [← obtainDefault_of_default hc hc0]; rfl


theorem catByName_spec {db : Db} {c : Sym} {ci : CatRow} (h : db.catByName c = some ci) :
    ci ∈ db.cats ∧ ci.name = c := by
  unfold Db.catByName at h
  exact ⟨List.mem_of_find?_eq_some h, by simpa using List.find?_some h⟩

theorem unitBySym_spec {db : Db} {u : Sym} {r : UnitRow} (h : db.unitBySym u = some r) :
    r ∈ db.units ∧ r.sym = u := by
  unfold Db.unitBySym at h
  exact ⟨List.mem_of_find?_eq_some h, by simpa using List.find?_some h⟩

/-- `GetInfo(quantity_type, unit, fix_unknown=False, fix_legacy=False)` can only answer with the row
of that very unit -/
theorem getInfo_strict_spec {db : Db} {qt u : Sym} {r : UnitRow} (h : db.getInfo qt u false false = .ok r) :
    r ∈ db.units ∧ r.sym = u := by
  unfold Db.getInfo at h
  cases h1 : db.tryInfo qt u with
  | some r' =>
    rw [h1] at h; cases h
    unfold Db.tryInfo at h1
    cases h0 : db.unitBySym u with
    | none => rw [h0] at h1; cases h1
    | some r'' =>
      rw [h0] at h1
      simp only at h1
      split at h1
      · cases h1; exact unitBySym_spec h0
      · cases h1
  | none =>
    rw [h1] at h
    simp only at h
    split at h
    · cases h
    · cases h2 : (db.unitsOfType (db.resolveQt qt)).find? (·.sym == u) with
      | some r' =>
        rw [h2] at h; cases h
        have hm := List.mem_of_find?_eq_some h2
        unfold Db.unitsOfType at hm
        exact ⟨(List.mem_filter.mp hm).1, by simpa using List.find?_some h2⟩
      | none =>
        rw [h2] at h
        simp [Db.infoUnknown, Db.infoLegacy] at h

theorem categoryUnitValid_spec {db : Db} {c u : Sym} (h : db.categoryUnitValid c u = true) :
    ∃ r ∈ db.units, r.sym = u := by
  unfold Db.categoryUnitValid at h
  split at h
  · cases h
  · rename_i ci _
    split at h
    · rename_i hck
      unfold Db.checkQuantityTypeUnit at hck
      split at hck
      · rename_i r hr; exact ⟨r, getInfo_strict_spec hr⟩
      · cases hck
    · cases h

theorem newQuantity_rows {db : Db} {c : Sym} {f : Option Rat} {u : Sym} {q : Qty}
    (h : newQuantity db (.str c f) u = .ok q) :
    (∃ ci ∈ db.cats, ci.name = q.cat) ∧ (∃ r ∈ db.units, r.sym = q.unit) := by
  obtain ⟨ci, _, hci, hu, rfl, _⟩ := newQuantity_ok h
  obtain ⟨hm, hn⟩ := catByName_spec hci
  exact ⟨⟨ci, hm, hn⟩, categoryUnitValid_spec (checkedUnit_valid hu)⟩


theorem newQuantity_of_row {db : Db} {c u : Sym} {f : Option Rat} {ci : CatRow} {r : UnitRow}
    (hci : db.catByName c = some ci) (hr : db.unitBySym u = some r) (hqt : r.qtype = ci.qtype) :
    newQuantity db (.str c f) u = .ok (Qty.simple c u) := by
  have htry : db.tryInfo ci.qtype u = some r := by simp [Db.tryInfo, hr, hqt]
  have hget : ∀ a b, db.getInfo ci.qtype u a b = .ok r := by
    intro a b; simp [Db.getInfo, htry]
  have hvalid : db.categoryUnitValid c u = true := by
    simp [Db.categoryUnitValid, hci, Db.checkQuantityTypeUnit, hget]
  simp [newQuantity, newQuantityC, capOf, hci, checkedUnit_of_valid hvalid, finishQuantityC, hget, Qty.simple]

theorem natBeq_eq_beq (a b : Nat) : Nat.beq a b = (a == b) := by
  apply Bool.eq_iff_iff.mpr
  rw [Nat.beq_eq, beq_iff_eq]

theorem fastCat_eq (c : Sym) : ∀ l : List CatRow, fastCat c l = l.find? (·.name == c)
  | [] => rfl
  | x :: xs => by
    simp only [fastCat, List.find?_cons, fastCat_eq c xs, natBeq_eq_beq]
    cases h : (x.name == c) <;> rfl

theorem fastUnit_eq (u : Sym) : ∀ l : List UnitRow, fastUnit u l = l.find? (·.sym == u)
  | [] => rfl
  | x :: xs => by
    simp only [fastUnit, List.find?_cons, fastUnit_eq u xs, natBeq_eq_beq]
    cases h : (x.sym == u) <;> rfl

theorem defaultCatOk_spec {db : Db} {r : UnitRow} (h : r.defaultCatOk db = true) :
    ∃ c ci, rowDefaultCategory db r = some c ∧ c ≠ 0 ∧ db.catByName c = some ci ∧ ci.qtype = r.qtype := by
  unfold UnitRow.defaultCatOk at h
  simp only [natBeq_eq_beq, Bool.and_eq_true, Bool.not_eq_true', beq_eq_false_iff_ne, ne_eq] at h
  obtain ⟨hc0, hm⟩ := h
  rw [fastCat_eq] at hm
  split at hm
  · rename_i ci hci
    have hq : ci.qtype = r.qtype := by simpa using hm
    have hci' : db.catByName (bif r.defaultCat == 0 then r.qtype else r.defaultCat) = some ci := hci
    by_cases hd : r.defaultCat = 0
    · simp only [hd, beq_self_eq_true, cond_true] at hci' hc0
      refine ⟨r.qtype, ci, ?_, hc0, hci', hq⟩
      simp [rowDefaultCategory, hd, hci']
    · have hb : (r.defaultCat == 0) = false := by simpa using hd
      simp only [hb, cond_false] at hci' hc0
      refine ⟨r.defaultCat, ci, ?_, hc0, hci', hq⟩
      simp [rowDefaultCategory, hd]
  · cases hm

theorem default_quantity_of_row {db : Db} {u : Sym} {r : UnitRow} (hr : db.unitBySym u = some r)
    (h : r.defaultCatOk db = true) :
    ∃ c ci, getDefaultCategory db u = .ok (some c) ∧ c ≠ 0 ∧ db.catByName c = some ci ∧ ci.qtype = r.qtype
      ∧ newQuantity db (.str c none) u = .ok (Qty.simple c u) := by
  obtain ⟨c, ci, hc, hc0, hci, hq⟩ := defaultCatOk_spec h
  refine ⟨c, ci, ?_, hc0, hci, hq, newQuantity_of_row hci hr hq.symm⟩
  simp [getDefaultCategory, defaultCategoryRow, hr, hc]

/-- every row's symbol is found in the symbol index (by that row or an earlier one of the same symbol) -/
theorem unitBySym_of_mem {db : Db} {r : UnitRow} (hr : r ∈ db.units) : ∃ r', db.unitBySym r.sym = some r' := by
  unfold Db.unitBySym
  cases h : db.units.find? (·.sym == r.sym) with
  | some r' => exact ⟨r', rfl⟩
  | none =>
    have := List.find?_eq_none.mp h r hr
    simp at this

theorem catByName_of_mem {db : Db} {ci : CatRow} (h : ci ∈ db.cats) : ∃ ci', db.catByName ci.name = some ci' := by
  unfold Db.catByName
  cases h' : db.cats.find? (·.name == ci.name) with
  | some r' => exact ⟨r', rfl⟩
  | none =>
    have := List.find?_eq_none.mp h' ci h
    simp at this

theorem defaultUnitOk_spec {db : Db} {c : Sym} {ci : CatRow} (hci : db.catByName c = some ci)
    (h : ci.defaultUnitOk db = true) :
    newQuantity db (.str c none) ci.defaultUnit = .ok (Qty.simple c ci.defaultUnit) := by
  unfold CatRow.defaultUnitOk at h
  rw [fastUnit_eq] at h
  split at h
  · rename_i r hr
    exact newQuantity_of_row hci hr (by simpa [natBeq_eq_beq] using h)
  · cases h

/-! Every accepted form of `Cls(a1, a2, a3)` sorts its arguments into (category, value, unit), obtains the
quantity `q` of (unit, category) and ends in `create db cls q value`. -/

/-- FixedArray's `if dimension < 2: raise ValueError` in front of everything else -/
def dimGuard (cls : Cls) (r : Except ErrKind Obj) : Except ErrKind Obj :=
  match cls with
  | .fixed d => if d < 2 then .error .value else r
  | _ => r

theorem create_eq (db : Db) (cls : Cls) (q : Qty) (x : PyVal) :
    create db cls q x = dimGuard cls (internalCreate db cls q x) := by
  cases cls <;> rfl

theorem dimGuard_ok {cls : Cls} {r : Except ErrKind Obj} {o : Obj} (h : dimGuard cls r = .ok o) : r = .ok o := by
  cases cls with
  | fixed d =>
    simp only [dimGuard] at h
    split at h
    · cases h
    · exact h
  | _ => exact h

def PyVal.isTuple : PyVal → Bool
  | .seq .tuple _ => true
  | .rows .tuple _ => true
  | .nest .tuple _ => true
  | _ => false

/-- only Scalar looks for a tuple -/
theorem construct_eq (db : Db) (cls : Cls) (a1 a2 : PyVal) (a3 : Atom)
    (h : cls = .scalar → a1.isTuple = false) :
    construct db cls a1 a2 a3 = dimGuard cls (abstractInit db cls a1 a2 a3) := by
  cases cls with
  | scalar =>
    have h' := h rfl
    simp only [construct, dimGuard, scalarInit]
    split
    · simp [PyVal.isTuple] at h'
    · simp [PyVal.isTuple] at h'
    · simp [PyVal.isTuple] at h'
    · rfl
  | _ => rfl

theorem isValueFor_notNone {cls : Cls} {x : PyVal} (h : x.isValueFor cls = true) : x.isNone = false := by
  cases x with
  | atom a => cases a <;> simp_all [PyVal.isValueFor, PyVal.isNone]
  | _ => rfl

theorem isValueFor_notTuple {x : PyVal} (h : x.isValueFor .scalar = true) : x.isTuple = false := by
  cases x with
  | seq k l => cases k <;> simp_all [PyVal.isValueFor, PyVal.isTuple]
  | rows k l => cases k <;> simp_all [PyVal.isValueFor, PyVal.isTuple]
  | nest k l => cases k <;> simp_all [PyVal.isValueFor, PyVal.isTuple]
  | _ => rfl

/-- a leading value argument moves everything one place: `Cls(x, u, c)` is category `c`, value `x`,
unit `u` -/
theorem abstractInit_value_first (db : Db) (cls : Cls) {cls' : Cls} {x : PyVal} (h : x.isValueFor cls' = true)
    (v : PyVal) (u : Atom) : abstractInit db cls x v u = initNamed db cls u x v := by
  cases x with
  | atom a => cases a <;> simp_all [PyVal.isValueFor, abstractInit, juggle]
  | qty q => simp [PyVal.isValueFor] at h
  | _ => rfl

theorem isNone_none : PyVal.none.isNone = true := rfl

theorem isNone_atom_none : (PyVal.atom Atom.none).isNone = true := rfl

theorem initNamed_given (db : Db) (cls : Cls) (cat : Atom) {x unit : PyVal} (hx : x.isNone = false)
    (hu : unit.isNone = false) :
    initNamed db cls cat x unit
      = (match obtainQuantity db unit cat with
         | .error e => .error e
         | .ok q => internalCreate db cls q x) := by
  simp only [initNamed, hx, hu, Bool.false_eq_true, ↓reduceIte]
  cases obtainQuantity db unit cat <;> rfl

/-- `Cls(x, unit, category)`, whether or not the category accepts the unit -/
theorem construct_value_first_eq {db : Db} {cls : Cls} {x unit : PyVal} {cat : Atom}
    (hx : x.isValueFor cls = true) (hu : unit.isNone = false) :
    construct db cls x unit cat
      = dimGuard cls (match obtainQuantity db unit cat with
                      | .error e => .error e
                      | .ok q => internalCreate db cls q x) := by
  rw [construct_eq db cls _ _ _ (fun e => isValueFor_notTuple (e ▸ hx)), abstractInit_value_first db cls hx,
    initNamed_given db cls _ (isValueFor_notNone hx) hu]

theorem construct_value_first {db : Db} {cls : Cls} {x unit : PyVal} {cat : Atom} {q : Qty}
    (hx : x.isValueFor cls = true) (hu : unit.isNone = false) (hq : obtainQuantity db unit cat = .ok q) :
    construct db cls x unit cat = create db cls q x := by
  rw [construct_value_first_eq hx hu, hq, create_eq]

/-- `Cls(category, x, unit)`: a leading string is the category -/
theorem construct_category_first {db : Db} {cls : Cls} {c : Sym} {f : Option Rat} {x : PyVal} {u : Atom} {q : Qty}
    (hx : x.isNone = false) (hu : (PyVal.atom u).isNone = false) (hq : obtainQuantity db (.atom u) (.str c f) = .ok q) :
    construct db cls (.atom (.str c f)) x u = create db cls q x := by
  have h : abstractInit db cls (.atom (.str c f)) x u = internalCreate db cls q x := by
    rw [show abstractInit db cls (.atom (.str c f)) x u = initNamed db cls (.str c f) x (.atom u) from rfl,
      initNamed_given db cls _ hx hu, hq]
  rw [construct_eq db cls _ _ _ (fun _ => rfl), create_eq, h]

/-- `Cls(q, x)`, for any quantity -/
theorem construct_quantity_first (db : Db) (cls : Cls) (q : Qty) {x : PyVal} (hx : x.isNone = false) :
    construct db cls (.qty q) x .none = create db cls q x := by
  rw [construct_eq db cls _ _ _ (fun _ => rfl), create_eq]
  simp [abstractInit, initQuantity, hx, Atom.isNone]

theorem pickValues_left {x : PyVal} (hx : x.isNone = false) : pickValues x .none = .ok x := by
  simp [pickValues, isNone_none, hx]

theorem pickValues_right {x : PyVal} (hx : x.isNone = false) : pickValues .none x = .ok x := by
  simp [pickValues, isNone_none, hx]

/-- `Cls.CreateWithQuantity(q, x)` / `(q, value=x)` of a class without `dimension` -/
theorem createWithQuantity_eq_create (db : Db) (q : Qty) {x : PyVal} (kw : Bool) (hx : x.isNone = false) :
    ∀ cls : Cls, (∀ d, cls ≠ .fixed d) → createWithQuantity db cls q x kw none = create db cls q x
  | .scalar, _ => rfl
  | .fraction, _ => rfl
  | .array, _ => by
    cases kw <;> simp [createWithQuantity, create, internalCreate, arrayInternal, pickValues_left hx, pickValues_right hx]
  | .fixed d, h => absurd rfl (h d)

/-- `FixedArray.CreateWithQuantity`: the method does not see the class's dimension `d'`; the dimension is
the keyword, else `len(x)` -/
theorem createWithQuantity_fixed (db : Db) (q : Qty) {x : PyVal} (kw : Bool) (hx : x.isNone = false) (d d' : Int) :
    createWithQuantity db (.fixed d') q x kw (some d) = create db (.fixed d) q x
    ∧ (pyLen x = .ok d → createWithQuantity db (.fixed d') q x kw none = create db (.fixed d) q x) := by
  -- however the value (`values` or `value=`) and the dimension (keyword or `len`) arrive, the method
  -- computes what `create` computes; `create` only repeats the guard `d < 2`
  have hc : ∀ {a b : PyVal} {sd dk : Option Int}, pickValues a b = .ok x → fixedDimension x sd dk = .ok d →
      fixedInternal q a b sd dk = create db (.fixed d) q x := by
    intro a b sd dk hp hd
    have hd' : fixedDimension x (some d) none = .ok d := rfl
    simp only [create, internalCreate, fixedInternal, hp, hd, hd', pickValues_left hx]
    split <;> simp_all
  constructor
  · cases kw
    · exact hc (sd := none) (dk := some d) (pickValues_left hx) rfl
    · exact hc (sd := none) (dk := some d) (pickValues_right hx) rfl
  · intro hl
    cases kw
    · exact hc (pickValues_left hx) hl
    · exact hc (pickValues_right hx) hl

theorem create_array (db : Db) (q : Qty) {x : PyVal} (hx : x.isNone = false) :
    create db .array q x = .ok ⟨q, .arr x⟩ := by
  simp [create, internalCreate, arrayInternal, pickValues_left hx]

theorem create_fixed (db : Db) (q : Qty) {x : PyVal} {d : Int} (hx : x.isNone = false) (hd : 2 ≤ d)
    (hl : pyLen x = .ok d) : create db (.fixed d) q x = .ok ⟨q, .fixed x d⟩ := by
  have : ¬ d < 2 := by omega
  simp [create, internalCreate, fixedInternal, fixedDimension, pickValues_left hx, this, checkValues, hl]

theorem create_stores_float (db : Db) (q : Qty) (x : PyVal) (v : Rat) (hx : x.isNone = false)
    (hv : pyFloat x = .ok v) :
    create db .scalar q x = .ok ⟨q, .scalar v⟩
    ∧ ((∀ n f, x ≠ .fv n f) → create db .fraction q x = .ok ⟨q, .fraction v 0⟩) := by
  constructor
  · simp [create, internalCreate, scalarInternal, hx, hv]
  · intro hfv
    cases x with
    | fv n f => exact absurd rfl (hfv n f)
    | _ => simp [create, internalCreate, fractionInternal, hv]

/-- **the four `__init__` forms of any class build the object `create` builds**: `Cls(x, u)`, `Cls(x, u, c)`,
`Cls(c, x, u)`, `Cls(q, x)`, for a unit `u` whose default category is `c`, with `Quantity(c, u)` = `q` -/
theorem forms_build {db : Db} {c u : Sym} {q : Qty} (f g : Option Rat) {cls : Cls} {x : PyVal} {o : Obj}
    (hc : getDefaultCategory db u = .ok (some c)) (hc0 : c ≠ 0) (hq : newQuantity db (.str c none) u = .ok q)
    (hx : x.isValueFor cls = true) (hb : create db cls q x = .ok o) :
    construct db cls x (.atom (.str u g)) .none = .ok o
    ∧ construct db cls x (.atom (.str u g)) (.str c f) = .ok o
    ∧ construct db cls (.atom (.str c f)) x (.str u g) = .ok o
    ∧ construct db cls (.qty q) x .none = .ok o := by
  have hn := isValueFor_notNone hx
  have h0 : obtainQuantity db (.atom (.str u g)) .none = .ok q := (obtainQuantity_default g hc hc0).trans hq
  have h1 : obtainQuantity db (.atom (.str u g)) (.str c f) = .ok q := hq
  exact ⟨(construct_value_first hx rfl h0).trans hb, (construct_value_first hx rfl h1).trans hb,
    (construct_category_first hn rfl h1).trans hb, (construct_quantity_first db cls q hn).trans hb⟩

theorem createWithQuantity_fixed_builds (db : Db) (q : Qty) {x : PyVal} {d : Int} (kw : Bool) (d' : Int)
    (hx : x.isNone = false) (hd : 2 ≤ d) (hl : pyLen x = .ok d) :
    createWithQuantity db (.fixed d') q x kw none = .ok ⟨q, .fixed x d⟩
    ∧ createWithQuantity db (.fixed d') q x kw (some d) = .ok ⟨q, .fixed x d⟩ :=
  have hcw := createWithQuantity_fixed db q kw hx d d'
  ⟨(hcw.2 hl).trans (create_fixed db q hx hd hl), hcw.1.trans (create_fixed db q hx hd hl)⟩

theorem construct_tuple (db : Db) (a : Atom) (u : Sym) (g : Option Rat) :
    construct db .scalar (.seq .tuple [a, .str u g]) .none .none
      = construct db .scalar (.atom a) (.atom (.str u g)) .none := rfl

/-- `Cls(c)`: value and unit both missing stand for the default value `v` of the class and the default
unit of the category -/
theorem construct_category_only {db : Db} {cls : Cls} {c : Sym} (f : Option Rat) {ci : CatRow} {q : Qty} {v : PyVal}
    (hci : db.catByName c = some ci) (hq : newQuantity db (.str c none) ci.defaultUnit = .ok q)
    (hv : defaultValue db cls ci (.atom .none) = .ok v) :
    construct db cls (.atom (.str c f)) .none .none = create db cls q v := by
  have hob : obtainQuantity db (PyVal.str ci.defaultUnit) (.str c f) = .ok q := hq
  have hci' : getCategoryInfo db (.str c f) = .ok ci := by simp [getCategoryInfo, hci]
  rw [construct_eq db cls _ _ _ (fun _ => rfl), create_eq]
  simp only [abstractInit, juggle, initNamed, isNone_none, isNone_atom_none, ↓reduceIte, hci', hv, hob]


theorem pyEq_refl (q : Qty) : q.pyEq q = true := by simp [Qty.pyEq]

theorem pyEq_symm (a b : Qty) : a.pyEq b = b.pyEq a := by
  simp only [Qty.pyEq]
  rw [@BEq.comm _ _ _ a.items b.items, @BEq.comm _ _ _ a.caption b.caption]

theorem pyEq_simple (c u cp c' u' cp' : Sym) :
    Qty.pyEq ⟨c, u, cp, none⟩ ⟨c', u', cp', none⟩ = (c == c' && u == u' && cp == cp') := by
  simp only [Qty.pyEq, Qty.items]
  apply Bool.eq_iff_iff.mpr
  simp only [Bool.and_eq_true, beq_iff_eq, List.cons.injEq, Prod.mk.injEq, and_true]

theorem pyEq_caption {a b : Qty} (h : a.pyEq b = true) : a.caption = b.caption := by
  simp only [Qty.pyEq, Bool.and_eq_true, beq_iff_eq] at h
  exact h.2

theorem atomEq_refl (a : Atom) : atomEq a a = true := by
  cases a <;> simp [atomEq, Atom.numVal]

theorem atomsEq_refl : ∀ l : List Atom, atomsEq l l = true
  | [] => rfl
  | a :: as => by simp [atomsEq, atomEq_refl a, atomsEq_refl as]

theorem atomEq_symm (a b : Atom) : atomEq a b = atomEq b a := by
  cases a <;> cases b <;> simp only [atomEq, Atom.numVal] <;> first | rfl | exact BEq.comm

theorem atomsEq_symm : ∀ l m : List Atom, atomsEq l m = atomsEq m l
  | [], [] => rfl
  | [], _ :: _ => rfl
  | _ :: _, [] => rfl
  | a :: as, b :: bs => by simp only [atomsEq, atomEq_symm a b, atomsEq_symm as bs]

theorem elemEq_refl (a : Elem) : elemEq a a = true := by
  cases a <;> simp [elemEq, atomEq_refl, atomsEq_refl]

theorem elemsEq_refl : ∀ l : List Elem, elemsEq l l = true
  | [] => rfl
  | a :: as => by simp [elemsEq, elemEq_refl a, elemsEq_refl as]

theorem elemEq_symm (a b : Elem) : elemEq a b = elemEq b a := by
  cases a <;> cases b <;> simp only [elemEq]
  · exact atomEq_symm ..
  · exact atomsEq_symm ..
  · exact atomsEq_symm ..

theorem elemsEq_symm : ∀ l m : List Elem, elemsEq l m = elemsEq m l
  | [], [] => rfl
  | [], _ :: _ => rfl
  | _ :: _, [] => rfl
  | a :: as, b :: bs => by simp only [elemsEq, elemEq_symm a b, elemsEq_symm as bs]

theorem pyTuple_error {v : PyVal} {e : ErrKind} (h : pyTuple v = .error e) : e = .type := by
  cases v with
  | atom a => cases a <;> simp_all [pyTuple]
  | seq k l => simp [pyTuple] at h
  | rows k l => simp [pyTuple] at h
  | nest k l => simp [pyTuple] at h
  | fv n f => simp_all [pyTuple]
  | qty q => simp_all [pyTuple]

theorem arrayEq_symm (q1 : Qty) (v1 : PyVal) (q2 : Qty) (v2 : PyVal) :
    arrayEq q1 v1 q2 v2 = arrayEq q2 v2 q1 v1 := by
  unfold arrayEq
  cases h1 : pyTuple v1 with
  | error e1 =>
    have := pyTuple_error h1; subst this
    cases h2 : pyTuple v2 with
    | error e2 => have := pyTuple_error h2; subst this; rfl
    | ok t2 => rfl
  | ok t1 =>
    cases h2 : pyTuple v2 with
    | error e2 => rfl
    | ok t2 =>
      simp only [elemsEq_symm t1 t2]
      rw [pyEq_symm q1 q2]

theorem eq_self_of_tuple (q : Qty) {v : PyVal} {t : List Elem} (h : pyTuple v = .ok t) :
    Obj.eq ⟨q, .arr v⟩ ⟨q, .arr v⟩ = .ok true
    ∧ (∀ d : Int, Obj.eq ⟨q, .fixed v d⟩ ⟨q, .fixed v d⟩ = .ok true) := by
  have ha : arrayEq q v q v = .ok true := by simp [arrayEq, h, elemsEq_refl, pyEq_refl]
  exact ⟨ha, fun d => by simp [Obj.eq, ha]⟩

theorem eq_self_number (q : Qty) :
    (∀ v : Rat, Obj.eq ⟨q, .scalar v⟩ ⟨q, .scalar v⟩ = .ok true)
    ∧ (∀ n f : Rat, Obj.eq ⟨q, .fraction n f⟩ ⟨q, .fraction n f⟩ = .ok true) :=
  ⟨fun v => by simp [Obj.eq, pyEq_refl], fun n f => by simp [Obj.eq, pyEq_refl]⟩

/-- all Scalar forms build one object holding `float(a)`, for every kind of number `a` (floats, ints of
any size with their float image, bools, numpy integers) -/
theorem scalar_forms {db : Db} {c u : Sym} {q : Qty} (f g : Option Rat) (a : Atom) (v : Rat) (kw : Bool)
    (ha : (PyVal.atom a).isValueFor .scalar = true) (hv : pyFloat (.atom a) = .ok v)
    (hc : getDefaultCategory db u = .ok (some c)) (hc0 : c ≠ 0)
    (hq : newQuantity db (.str c none) u = .ok q) :
    let o : Obj := ⟨q, .scalar v⟩
    construct db .scalar (.atom a) (.atom (.str u g)) .none = .ok o
    ∧ construct db .scalar (.atom a) (.atom (.str u g)) (.str c f) = .ok o
    ∧ construct db .scalar (.atom (.str c f)) (.atom a) (.str u g) = .ok o
    ∧ construct db .scalar (.seq .tuple [a, .str u g]) .none .none = .ok o
    ∧ obtainQuantity db (.atom (.str u g)) (.str c f) = .ok q
    ∧ construct db .scalar (.qty q) (.atom a) .none = .ok o
    ∧ createWithQuantity db .scalar q (.atom a) kw none = .ok o
    ∧ Obj.eq o o = .ok true := by
  have hn := isValueFor_notNone ha
  have hb := (create_stores_float db q _ v hn hv).1
  obtain ⟨h1, h2, h3, h4⟩ := forms_build f g hc hc0 hq ha hb
  exact ⟨h1, h2, h3, (construct_tuple db a u g).trans h1, hq, h4,
    (createWithQuantity_eq_create db q kw hn .scalar nofun).trans hb, (eq_self_number q).1 v⟩


theorem scalarInternal_q {db : Db} {q : Qty} {x : PyVal} {o : Obj} (h : scalarInternal db q x = .ok o) : o.q = q := by
  unfold scalarInternal at h
  split at h <;> split at h <;> cases h <;> rfl

theorem fractionInternal_q {q : Qty} {x : PyVal} {o : Obj} (h : fractionInternal q x = .ok o) : o.q = q := by
  unfold fractionInternal at h
  split at h
  · cases h; rfl
  · split at h <;> cases h <;> rfl

theorem arrayInternal_q {q : Qty} {a b : PyVal} {o : Obj} (h : arrayInternal q a b = .ok o) : o.q = q := by
  unfold arrayInternal at h
  split at h <;> cases h <;> rfl

theorem fixedInternal_q {q : Qty} {a b : PyVal} {sd dk : Option Int} {o : Obj}
    (h : fixedInternal q a b sd dk = .ok o) : o.q = q := by
  unfold fixedInternal at h
  split at h
  · cases h
  · split at h
    · cases h
    · split at h
      · cases h
      · split at h <;> cases h <;> rfl

theorem internalCreate_q {db : Db} {cls : Cls} {q : Qty} {x : PyVal} {o : Obj}
    (h : internalCreate db cls q x = .ok o) : o.q = q := by
  cases cls <;> simp only [internalCreate] at h
  · exact scalarInternal_q h
  · exact arrayInternal_q h
  · exact fixedInternal_q h
  · exact fractionInternal_q h

theorem createWithQuantity_q {db : Db} {cls : Cls} {q : Qty} {x : PyVal} {kw : Bool} {dimKw : Option Int} {o : Obj}
    (h : createWithQuantity db cls q x kw dimKw = .ok o) : o.q = q := by
  cases cls <;> simp only [createWithQuantity] at h
  · split at h
    · cases h
    · exact scalarInternal_q h
  · split at h
    · cases h
    · split at h <;> exact arrayInternal_q h
  · split at h <;> exact fixedInternal_q h
  · split at h
    · cases h
    · exact fractionInternal_q h

theorem newQuantityC_caption {db : Db} {category : Atom} {u : Sym} {cap : Atom} {q : Qty}
    (h : newQuantityC db category u cap = .ok q) : capOf cap = .ok q.caption := by
  simp only [newQuantityC] at h
  split at h
  · cases h
  · rename_i cp hcp
    rw [hcp]
    split at h
    · split at h
      · cases h
      · split at h
        · cases h
        · simp only [finishQuantityC] at h
          split at h
          · cases h; rfl
          · cases h
    · cases h

theorem obtainDefaultC_caption {db : Db} {u : Sym} {cap : Atom} {q : Qty}
    (h : obtainDefaultC db u cap = .ok q) : capOf cap = .ok q.caption := by
  simp only [obtainDefaultC] at h
  split at h
  · cases h
  · split at h
    · exact newQuantityC_caption h
    · split at h
      · split at h
        · cases h
        · exact newQuantityC_caption h
      · cases h

theorem obtainNonStrC_caption {db : Db} {category cap : Atom} {q : Qty}
    (h : obtainNonStrC db category cap = .ok q) : capOf cap = .ok q.caption := by
  simp only [obtainNonStrC] at h
  split at h
  · cases h
  · split at h
    · cases h
    · exact newQuantityC_caption h

theorem obtainAtomC_caption {db : Db} {unit category cap : Atom} {q : Qty}
    (h : obtainAtomC db unit category cap = .ok q) : capOf cap = .ok q.caption := by
  simp only [obtainAtomC] at h
  split at h
  · split at h
    · exact obtainDefaultC_caption h
    · exact newQuantityC_caption h
  · exact obtainNonStrC_caption h

theorem obtainRowsC_caption {db : Db} {rows : List (List Atom)} {category cap : Atom} {q : Qty}
    (h : obtainRowsC db rows category cap = .ok q) : capOf cap = .ok q.caption := by
  simp only [obtainRowsC] at h
  split at h
  · split at h
    · split at h
      · exact obtainAtomC_caption h
      · cases h
    · cases h
  · cases h

theorem obtainQuantityC_caption {db : Db} {unit : PyVal} {category cap : Atom} {q : Qty}
    (h : obtainQuantityC db unit category cap = .ok q) : capOf cap = .ok q.caption := by
  simp only [obtainQuantityC] at h
  split at h
  · cases h
  · cases h
  · exact obtainRowsC_caption h
  · exact obtainRowsC_caption h
  · exact obtainRowsC_caption h
  · exact obtainRowsC_caption h
  · exact obtainAtomC_caption h
  · split at h
    · cases h
    · exact obtainNonStrC_caption h

theorem obtainDict_caption {db : Db} {items : List (Sym × Sym × Int)} {cap : Atom} {q : Qty}
    (h : obtainDict db items cap = .ok q) : capOf cap = .ok q.caption := by
  simp only [obtainDict] at h
  split at h
  · exact newQuantityC_caption h
  · split at h
    · cases h
    · split at h
      · cases h
      · rename_i cp hcp
        cases h; exact hcp

/-- the `…_caption` lemmas read for a given caption argument: `None` is stored as `""`, a string as
itself -/
theorem caption_of {cap : Atom} {q : Qty} {cp : Sym} (h : capOf cap = .ok q.caption) (hc : capOf cap = .ok cp) :
    q.caption = cp :=
  Except.ok.inj (h.symm.trans hc)

/-- `GetUnknownQuantity(caption)`: an empty caption gives the module constant, whose caption is `""` too -/
theorem unknownQuantity_caption {db : Db} {cap : Atom} {q : Qty} {cp : Sym}
    (h : unknownQuantity db cap = .ok q) (hc : capOf cap = .ok cp) : q.caption = cp := by
  unfold unknownQuantity at h
  split at h
  · exact caption_of (obtainQuantityC_caption h) hc
  · rename_i ht
    rw [caption_of (obtainQuantityC_caption (cap := .none) h) rfl]
    cases cap with
    | none => exact Except.ok.inj hc
    | str s f =>
      have hs : s = 0 := by simpa [Atom.truthyStr] using ht
      exact hs ▸ Except.ok.inj hc
    | _ => cases hc

theorem arrayEq_pyEq {q1 q2 : Qty} {v1 v2 : PyVal} {r : Bool} (h : arrayEq q1 v1 q2 v2 = .ok r) (hr : r = true) :
    q1.pyEq q2 = true := by
  simp only [arrayEq] at h
  split at h
  · cases h
  · split at h
    · cases h
    · cases h; exact (Bool.and_eq_true _ _ ▸ hr).2

theorem objEq_pyEq {a b : Obj} (h : Obj.eq a b = .ok true) : a.q.pyEq b.q = true := by
  obtain ⟨qa, va⟩ := a
  obtain ⟨qb, vb⟩ := b
  cases va <;> cases vb <;> simp only [Obj.eq, Except.ok.injEq, Bool.and_eq_true, reduceCtorEq] at h
  · exact h.2
  · exact h.2
  · exact arrayEq_pyEq h rfl
  · split at h
    · cases h
    · rename_i r hr
      have hd := Except.ok.inj h
      simp only [Bool.and_eq_true] at hd
      exact arrayEq_pyEq hr hd.1


theorem hrun_eq_run (lg : List (Sym × Sym)) : ∀ (ops : List HOp) (r : Reg.Registry),
    hrun lg r ops = Reg.run lg r (regsOf ops)
  | [], _ => rfl
  | op :: ops, r => by
    cases op <;> simp only [hrun, regsOf, Reg.run, hstep] <;> exact hrun_eq_run lg ops _

theorem hrun_append (lg : List (Sym × Sym)) : ∀ (ops ops' : List HOp) (r : Reg.Registry),
    hrun lg r (ops ++ ops') = hrun lg (hrun lg r ops) ops'
  | [], _, _ => rfl
  | op :: ops, ops', r => by simp only [List.cons_append, hrun]; exact hrun_append lg ops ops' _

theorem houts_append (lg : List (Sym × Sym)) : ∀ (ops ops' : List HOp) (r : Reg.Registry),
    houts lg r (ops ++ ops') = houts lg r ops ++ houts lg (hrun lg r ops) ops'
  | [], _, _ => rfl
  | op :: ops, ops', r => by
    simp only [List.cons_append, houts, hrun]; rw [houts_append lg ops ops' _]

theorem getDefaultCategory_of_row {db : Db} {u c : Sym} {w : UnitRow} {ci : CatRow}
    (hu : db.unitBySym u = some w) (hd : w.defaultCat = 0) (hq : w.qtype = c) (hc : db.catByName c = some ci) :
    getDefaultCategory db u = .ok (some c) := by
  subst hq
  simp [getDefaultCategory, defaultCategoryRow, hu, rowDefaultCategory, hd, hc]

theorem catByName_catSet (units : List UnitRow) (lg : List (Sym × Sym)) (info : CatRow) : ∀ cs : List CatRow,
    Db.catByName ⟨units, Reg.catSet cs info, lg⟩ info.name = some info
  | [] => by simp [Db.catByName, Reg.catSet]
  | ci :: cs => by
    have ih : (Reg.catSet cs info).find? (·.name == info.name) = some info := catByName_catSet units lg info cs
    simp only [Db.catByName, Reg.catSet]
    split
    · simp
    · rename_i hne
      have : (ci.name == info.name) = false := by simpa using hne
      simp only [List.find?_cons, this]
      exact ih

theorem newQuantityC_eq (db : Db) (cat : Atom) (u : Sym) (cap : Atom) (cp : Sym) (h : capOf cap = .ok cp) :
    newQuantityC db cat u cap
      = (match newQuantity db cat u with
         | .ok q => .ok (q.withCaption cp)
         | .error e => .error e) := by
  have h0 : capOf Atom.none = .ok 0 := rfl
  simp only [newQuantity, newQuantityC, h, h0]
  cases cat with
  | str c f =>
    simp only
    cases hc : db.catByName c with
    | none => rfl
    | some ci =>
      simp only
      cases hu : checkedUnit db c u with
      | error e => rfl
      | ok u' =>
        simp only [finishQuantityC]
        cases db.getInfo ci.qtype u' true <;> rfl
  | _ => rfl

theorem newQuantityC_simple {db : Db} {c u cp : Sym} {f : Option Rat} {cap : Atom}
    (hcap : capOf cap = .ok cp) (hq : newQuantity db (.str c f) u = .ok (Qty.simple c u)) :
    newQuantityC db (.str c f) u cap = .ok ⟨c, u, cp, none⟩ := by
  rw [newQuantityC_eq db _ u cap cp hcap, hq]; rfl

theorem obtainQuantityC_str (db : Db) (u : Sym) (g : Option Rat) (c : Sym) (f : Option Rat) (cap : Atom) :
    obtainQuantityC db (.atom (.str u g)) (.str c f) cap = newQuantityC db (.str c f) u cap := rfl

theorem quantityInit_str (db : Db) (c u : Sym) (f g : Option Rat) (cap : Atom) :
    quantityInit db (.str c f) (.str u g) cap = newQuantityC db (.str c f) u cap := rfl

/-- a dict with one entry of exponent 1 is "a simple case" -/
theorem obtainDict_simple (db : Db) (c u : Sym) (cap : Atom) :
    obtainDict db [(c, u, 1)] cap = newQuantityC db (.str c none) u cap := rfl

/-- a row appended to the list of its quantity type (`setdefault` + `append`) is what a search finds
when no listed row matched before -/
theorem find_after_append (p : UnitRow → Bool) (info : UnitRow) (q : Sym) (hp : p info = true) :
    ∀ ts : List (Sym × List UnitRow), (ts.flatMap (·.2)).find? p = none →
      ((Reg.tlModify (· ++ [info]) (Reg.tlSetDefault ts q) q).flatMap (·.2)).find? p = some info
  | [], _ => by simp [Reg.tlSetDefault, Reg.tlGet, Reg.tlModify, hp]
  | (k, l) :: ts, h => by
    simp only [List.flatMap_cons, List.find?_append, Option.or_eq_none_iff] at h
    by_cases hk : k = q
    · subst hk
      simp [Reg.tlSetDefault, Reg.tlGet, Reg.tlModify, List.find?_append, h.1, hp]
    · have hsd : Reg.tlSetDefault ((k, l) :: ts) q = (k, l) :: Reg.tlSetDefault ts q := by
        simp only [Reg.tlSetDefault, Reg.tlGet, hk, ↓reduceIte]
        cases Reg.tlGet ts q <;> rfl
      rw [hsd]
      simp only [Reg.tlModify, hk, ↓reduceIte, List.flatMap_cons, List.find?_append, h.1, Option.none_or]
      exact find_after_append p info q hp ts h.2

end Barril.Ctor
