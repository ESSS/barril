/-
Helper lemmas for C06 (`Barril/Model/Compound.lean`): the table lookups are membership of registered
symbols, and the grammar functions only ever cut the symbol text (they never invent factors).
-/
import Barril.Model.Compound

namespace Barril

theorem mem_takeWhile_prop {p : Nat → Bool} {l : List Nat} {d : Nat} (h : d ∈ l.takeWhile p) : p d = true :=
  List.all_eq_true.mp (List.all_takeWhile (l := l) (p := p)) d h

theorem Nat.beq_true_iff {a b : Nat} : Nat.beq a b = true ↔ a = b := by
  constructor
  · exact Nat.eq_of_beq_eq_true
  · intro h; subst h; exact Nat.beq_refl a

theorem lookL_eq_find? (x : Sym) (tbl : List CRow) : lookL x tbl = tbl.find? (fun c => c.sym == x) := by
  induction tbl with
  | nil => rfl
  | cons c cs ih =>
    by_cases h : c.sym = x
    · simp [lookL, h, Nat.beq_refl]
    · have : Nat.beq x c.sym = false := Bool.eq_false_iff.mpr fun hb => h (Nat.beq_true_iff.mp hb).symm
      simp [lookL, h, this, ih]

theorem baseL_eq_find? (q : Sym) (tbl : List CRow) : baseL q tbl = tbl.find? (fun c => c.qtype == q) := by
  induction tbl with
  | nil => rfl
  | cons c cs ih =>
    by_cases h : c.qtype = q
    · simp [baseL, h, Nat.beq_refl]
    · have : Nat.beq q c.qtype = false := Bool.eq_false_iff.mpr fun hb => h (Nat.beq_true_iff.mp hb).symm
      simp [baseL, h, this, ih]

theorem lookL_some {x : Sym} {tbl : List CRow} {c : CRow} (h : lookL x tbl = some c) : c ∈ tbl ∧ c.sym = x := by
  rw [lookL_eq_find?] at h
  exact ⟨List.mem_of_find?_eq_some h, by simpa using List.find?_some h⟩

theorem lookL_none {x : Sym} {tbl : List CRow} (h : lookL x tbl = none) : ∀ c ∈ tbl, c.sym ≠ x := by
  rw [lookL_eq_find?] at h
  simpa using h

theorem lookL_isSome_iff {x : Sym} {tbl : List CRow} : (lookL x tbl).isSome = true ↔ ∃ c ∈ tbl, c.sym = x := by
  rw [lookL_eq_find?]
  simp

theorem baseL_some {q : Sym} {tbl : List CRow} {c : CRow} (h : baseL q tbl = some c) : c ∈ tbl ∧ c.qtype = q := by
  rw [baseL_eq_find?] at h
  exact ⟨List.mem_of_find?_eq_some h, by simpa using List.find?_some h⟩

theorem mem_of_core_eq {tbl : List CRow} {units : List UnitRow}
    (h : tbl.map CRow.core = units.map UnitRow.core) {c : CRow} (hc : c ∈ tbl) :
    ∃ r ∈ units, r.core = c.core := by
  have : c.core ∈ tbl.map CRow.core := List.mem_map.mpr ⟨c, hc, rfl⟩
  rw [h] at this
  obtain ⟨r, hr, e⟩ := List.mem_map.mp this
  exact ⟨r, hr, e⟩

theorem mem_of_core_eq' {tbl : List CRow} {units : List UnitRow}
    (h : tbl.map CRow.core = units.map UnitRow.core) {r : UnitRow} (hr : r ∈ units) :
    ∃ c ∈ tbl, c.core = r.core := by
  have : r.core ∈ units.map UnitRow.core := List.mem_map.mpr ⟨r, hr, rfl⟩
  rw [← h] at this
  obtain ⟨c, hc, e⟩ := List.mem_map.mp this
  exact ⟨c, hc, e⟩


theorem splitOnB_spec (sep : Nat) (s : List Nat) :
    ∃ h t, splitOnB sep s = h :: t ∧ [sep].intercalate (h :: t) = s ∧ ∀ p ∈ h :: t, sep ∉ p := by
  induction s with
  | nil => exact ⟨[], [], rfl, rfl, by simp⟩
  | cons b bs ih =>
    obtain ⟨h, t, hsp, hj, hn⟩ := ih
    unfold splitOnB
    rw [hsp]
    by_cases hb : b = sep
    · subst hb
      refine ⟨[], h :: t, by simp, ?_, ?_⟩
      · rw [← hj]; simp [List.intercalate]
      · intro p hp
        rcases List.mem_cons.mp hp with rfl | hp
        · simp
        · exact hn p hp
    · refine ⟨b :: h, t, by simp [hb], ?_, ?_⟩
      · rw [← hj]
        cases t <;> simp [List.intercalate]
      · intro p hp
        rcases List.mem_cons.mp hp with rfl | hp
        · intro hm
          rcases List.mem_cons.mp hm with e | hm
          · exact hb e.symm
          · exact hn h List.mem_cons_self hm
        · exact hn p (List.mem_cons_of_mem _ hp)
theorem intercalate_splitOnB (sep : Nat) (s : List Nat) : [sep].intercalate (splitOnB sep s) = s := by
  obtain ⟨h, t, e, hj, _⟩ := splitOnB_spec sep s
  rw [e]
  exact hj

theorem splitOnB_no_sep (sep : Nat) (s : List Nat) : ∀ p ∈ splitOnB sep s, sep ∉ p := by
  obtain ⟨h, t, e, _, hn⟩ := splitOnB_spec sep s
  rw [e]
  exact hn

theorem splitTrailingDigits_append (f : List Nat) :
    (splitTrailingDigits f).1 ++ (splitTrailingDigits f).2 = f := by
  unfold splitTrailingDigits
  simp only
  rw [← List.reverse_append, List.takeWhile_append_dropWhile, List.reverse_reverse]

theorem splitTrailingDigits_digits (f : List Nat) : ∀ d ∈ (splitTrailingDigits f).2, isDigitB d = true := by
  unfold splitTrailingDigits
  simp only
  intro d hd
  rw [List.mem_reverse] at hd
  exact mem_takeWhile_prop hd

/-- the text of a factor `[multiplier] symbol [exponent]` -/
structure FactorText (look : Sym → Option CRow) (f : List Nat) (r : Factor) : Prop where
  ex : ∃ pre stem ds : List Nat, f = pre ++ stem ++ ds
    ∧ look (Sym.ofBytes stem) = some r.unit
    ∧ (∀ d ∈ pre, isDigitB d = true) ∧ (∀ d ∈ ds, isDigitB d = true)
    ∧ ((pre = [] ∧ r.pre = 1) ∨ (pre ≠ [] ∧ r.pre = natOfDigits pre))
    ∧ ((ds = [] ∧ r.exp = 1) ∨ (ds ≠ [] ∧ r.exp = natOfDigits ds ∧ 1 ≤ r.exp))

theorem factorPlain_text {look : Sym → Option CRow} {top : Bool} {f : List Nat} {r : Factor}
    (h : factorPlain look top f = some r) :
    ∃ stem ds : List Nat, f = stem ++ ds ∧ look (Sym.ofBytes stem) = some r.unit ∧ r.pre = 1
      ∧ (∀ d ∈ ds, isDigitB d = true)
      ∧ ((ds = [] ∧ r.exp = 1) ∨ (ds ≠ [] ∧ r.exp = natOfDigits ds ∧ 1 ≤ r.exp)) := by
  unfold factorPlain at h
  split at h
  · rename_i u hu
    cases h
    have hl : look (Sym.ofBytes f) = some u := by
      cases top with
      | true => simp at hu
      | false => simpa using hu
    exact ⟨f, [], by simp, hl, rfl, by simp, Or.inl ⟨rfl, rfl⟩⟩
  · simp only at h
    split at h
    · cases h
    · rename_i hcond
      split at h
      · rename_i u hu
        cases h
        have hne : (splitTrailingDigits f).2 ≠ [] := by
          intro e; simp [e] at hcond
        have hpos : 1 ≤ natOfDigits (splitTrailingDigits f).2 := by
          have : ¬ (natOfDigits (splitTrailingDigits f).2 == 0) = true := by
            intro e; simp [e] at hcond
          have : natOfDigits (splitTrailingDigits f).2 ≠ 0 := by simpa using this
          omega
        exact ⟨(splitTrailingDigits f).1, (splitTrailingDigits f).2, (splitTrailingDigits_append f).symm, hu, rfl,
          splitTrailingDigits_digits f, Or.inr ⟨hne, rfl, hpos⟩⟩
      · cases h

theorem factorOf_text {look : Sym → Option CRow} {top : Bool} {f : List Nat} {r : Factor}
    (h : factorOf look top f = some r) : FactorText look f r := by
  unfold factorOf at h
  split at h
  · rename_i r' hr'
    cases h
    obtain ⟨stem, ds, hf, hl, hp, hd, he⟩ := factorPlain_text hr'
    exact ⟨[], stem, ds, by simpa using hf, hl, by simp, hd, Or.inl ⟨rfl, hp⟩, he⟩
  · split at h
    · cases h
    · rename_i hcond
      split at h
      · rename_i r' hr'
        cases h
        obtain ⟨stem, ds, hf, hl, _hp, hd, he⟩ := factorPlain_text hr'
        have hne : f.takeWhile isDigitB ≠ [] := by
          intro e; simp [e] at hcond
        refine ⟨f.takeWhile isDigitB, stem, ds, ?_, hl, ?_, hd, Or.inr ⟨hne, rfl⟩, he⟩
        · rw [List.append_assoc, ← hf, List.takeWhile_append_dropWhile]
        · intro d hd'; exact mem_takeWhile_prop hd'
      · cases h

/-- the two lists have the same length and corresponding elements are related -/
inductive Forall2 {α β : Type} (R : α → β → Prop) : List α → List β → Prop
  | nil : Forall2 R [] []
  | cons {a b as bs} : R a b → Forall2 R as bs → Forall2 R (a :: as) (b :: bs)

theorem mapOpt_forall2 {α β : Type} {f : α → Option β} {R : α → β → Prop} (hR : ∀ a b, f a = some b → R a b) :
    ∀ {l : List α} {r : List β}, mapOpt f l = some r → Forall2 R l r := by
  intro l
  induction l with
  | nil => intro r h; simp [mapOpt] at h; subst h; exact .nil
  | cons a as ih =>
    intro r h
    unfold mapOpt at h
    split at h
    · rename_i b bs hb hbs
      cases h
      exact .cons (hR a b hb) (ih hbs)
    · cases h

/-- every factor of a side is the reading of one `.`-separated piece of it (pieces `1` are the empty product) -/
theorem sideOf_text {look : Sym → Option CRow} {top : Bool} {s : List Nat} {fs : List Factor}
    (h : sideOf look top s = some fs) :
    Forall2 (FactorText look) ((splitOnB 46 s).filter (fun f => f != [49])) fs :=
  mapOpt_forall2 (f := factorOf look top) (fun _ _ hb => factorOf_text hb) (by simpa [sideOf] using h)

/-- what a decomposition is: the symbol is `n/d` (exactly one `/`) or has no `/` at all; each side is cut
at its `.`s; every piece is `[multiplier] registered-symbol [exponent]` -/
theorem decompose_text {look : Sym → Option CRow} {s : List Nat} {a b : List Factor}
    (h : decompose look s = some (a, b)) :
    (∃ n d, s = n ++ [47] ++ d ∧ 47 ∉ n ∧ 47 ∉ d ∧ b ≠ []
        ∧ Forall2 (FactorText look) ((splitOnB 46 n).filter (fun f => f != [49])) a
        ∧ Forall2 (FactorText look) ((splitOnB 46 d).filter (fun f => f != [49])) b)
    ∨ (47 ∉ s ∧ b = [] ∧ a ≠ []
        ∧ Forall2 (FactorText look) ((splitOnB 46 s).filter (fun f => f != [49])) a) := by
  unfold decompose at h
  split at h
  · rename_i n d hsp
    split at h
    · rename_i fa fb ha hb
      split at h
      · cases h
      · rename_i hne
        cases h
        left
        have hj := intercalate_splitOnB 47 s
        have hn := splitOnB_no_sep 47 s
        rw [hsp] at hj hn
        refine ⟨n, d, ?_, hn n (by simp), hn d (by simp), ?_, sideOf_text ha, sideOf_text hb⟩
        · rw [← hj]; simp [List.intercalate]
        · intro e; simp [e] at hne
    · cases h
  · rename_i one hsp
    split at h
    · rename_i fa ha
      split at h
      · cases h
      · rename_i hne
        cases h
        right
        have hj := intercalate_splitOnB 47 s
        have hn := splitOnB_no_sep 47 s
        rw [hsp] at hj hn
        have hs : one = s := by rw [← hj]; simp [List.intercalate]
        subst hs
        exact ⟨hn one (by simp), rfl, by intro e; simp [e] at hne, sideOf_text ha⟩
    · cases h
  · cases h

end Barril
