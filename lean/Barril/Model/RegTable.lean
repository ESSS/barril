/-
C14 on the shipped tables: the registry invariant as decidable per-row predicates over a `Db` (the
flat view of a registry the translator reads: rows in the iteration order of `quantity_types`,
categories in registration order).  `harness/tablepreds.py` turns each into one `decide +kernel`
theorem over the regenerated table.
-/
import Barril.Model.Reg

namespace Barril
open Barril.Reg

/-- the row is THE row listed under its symbol (so no symbol is listed twice, in one quantity type
or in two), and the first-listed row of its quantity type has identity to-base and from-base
functions -/
def UnitRow.regOk (db : Db) (w : UnitRow) : Bool :=
  db.unitBySym w.sym == some w
  && (match db.units.find? (·.qtype == w.qtype) with
      | some b => b.ok && isIdent b
      | none => false)

def symInType (db : Db) (qt u : Sym) : Bool := db.units.any (fun w => w.qtype == qt && w.sym == u)

/-- the category is THE one stored under its name, its quantity type exists, its default unit and
its valid units are units of that type, its default value lies inside its limits -/
def CatRow.regOk (db : Db) (c : CatRow) : Bool :=
  db.catByName c.name == some c
  && db.hasType c.qtype
  && symInType db c.qtype c.defaultUnit
  && (match c.validUnits with
      | none => true
      | some vu => vu.all (symInType db c.qtype))
  && minOk c.minV c.minExcl c.defaultValue
  && maxOk c.maxV c.maxExcl c.defaultValue

/-- both families of predicates, evaluated (used by the driver for the native cross-check) -/
def Db.regOk (db : Db) : Bool := db.units.all (UnitRow.regOk db) && db.cats.all (CatRow.regOk db)

end Barril
