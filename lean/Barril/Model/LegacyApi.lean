/-
C16 engine `Legacy`: every API entry of barril that takes a unit string and gives legacy spellings a
meaning, written after the Python function by function (memo tables `_category_unit_valid` and
`quantities_cache` left out: they are C07/C15's subject and are emptied by every registration).

Modelled after
* `UnitDatabase.GetDefaultCategory`                         → `getDefaultCategory`
* simple branch of `Quantity.__init__(category, unit)`       → `newQuantity`   (legacy retry after
  `CheckCategoryUnit` said `InvalidUnitError`, then `GetInfo(.., fix_unknown=True)` for `_tobase`)
* `ObtainQuantity(unit: str, category: str | None)`          → `obtainQuantity`
* `ObtainQuantity({category: (unit, exp)})` / `ObtainQuantity([(unit, exp)], [category])` (composing
  mapping forms, cold cache) → `obtainFromMapping`, `obtainFromLists`
* `Scalar/Array/FractionScalar(value, unit[, category])`     → `create`        (= `ObtainQuantity`)
* `Quantity.ConvertScalarValue` (`Scalar.GetValue(unit)`)    → `getValue`
* `Array.GetValues(unit)` → `Quantity.Convert` → `UnitDatabase.Convert` on a list → `getValues`,
  `convertList`
* `AbstractValueWithQuantityObject.CreateCopy(unit=…)`       → `createCopy`
* the unit handling of `UnitDatabase.AddCategory` (valid units, default unit; `from_category`,
  limits and the caption default are not modelled: the caption is always passed)  → `addCategory`
* `AbstractValueWithQuantityObject.__init__(category, None, unit)` with `Scalar._GetDefaultValue` /
  `FractionScalar._GetDefaultValue` / `Array._GetDefaultValue` / `FixedArray._GetDefaultValue`
  → `createValueless`, `defaultValueIn`, `constDefault`, `createDefault`, `createDefaultList`
* `Array.CreateCopy(unit=…)` → `createCopyList`; `UnitDatabase.GetUnitName` → `getUnitName`
* `AddCategory` with `default_value`, limits and exclusivity flags → `addCategoryFull`
`UnitDatabase.GetInfo`/`Convert`/`CheckCategoryUnit` are `Db.getInfo`/`Db.convert`/
`Db.categoryUnitValid` of `Model/Conv.lean`; `FixUnitIfIsLegacy` is `fixLegacy`/`isLegacy` of
`Model/Legacy.lean`.
-/
import Barril.Model.Conv

namespace Barril

/-! ### derived legacy spellings (the quantifier of C16) -/

/-- `pat in s` on byte strings -/
def containsB : List Nat → List Nat → Bool
  | [], pat => isPrefixB pat []
  | c :: cs, pat => isPrefixB pat (c :: cs) || containsB cs pat

/-- the legacy spellings of one current symbol: for every entry `(legacy, current)` of the list whose
`current` fragment occurs in the symbol, the symbol with that fragment written the legacy way -/
def deriveFor (legacy : List (Sym × Sym)) (u : Sym) : List (Sym × Sym) :=
  (legacy.filter (fun lc => lc.2 != 0 && containsB (Sym.bytes u) (Sym.bytes lc.2))).map
    (fun lc => (Sym.ofBytes (replaceAll (Sym.bytes u) (Sym.bytes lc.2) (Sym.bytes lc.1)), u))

/-- all pairs (legacy spelling, current symbol) of a database -/
def Db.derive (db : Db) : List (Sym × Sym) := db.units.flatMap (fun r => deriveFor db.legacy r.sym)

/-- no entry of the list occurs in `s` (the decidable side condition of generic idempotence) -/
def noFragment (legacy : List (Sym × Sym)) (s : List Nat) : Bool :=
  legacy.all (fun lc => !containsB s (Sym.bytes lc.1))

/-! ### table predicates (proved by `decide +kernel` over regenerated data) -/

/-- a current symbol is not rewritten -/
def UnitRow.notRewritten (legacy : List (Sym × Sym)) (r : UnitRow) : Bool :=
  fixLegacy legacy r.sym == r.sym

/-- a derived spelling: rewritten to its current symbol, really a different string, a fixed point
after one rewrite -/
def derivedPairOk (legacy : List (Sym × Sym)) (p : Sym × Sym) : Bool :=
  fixLegacy legacy p.1 == p.2 && p.1 != p.2
  && fixLegacy legacy (fixLegacy legacy p.1) == fixLegacy legacy p.1

/-- the row is the only one with its symbol (`AddUnit` refuses a symbol twice) -/
def UnitRow.onlyOne (db : Db) (r : UnitRow) : Bool := db.units.filter (·.sym == r.sym) == [r]

/-- if the row's quantity type is also the name of a category, that category belongs to the type
(so that `GetInfo`'s "category or quantity type" argument means one thing) -/
def UnitRow.typeNameStable (db : Db) (r : UnitRow) : Bool :=
  match db.catByName r.qtype with
  | some ci => ci.qtype == r.qtype
  | none => true

/-- a row without legacy spellings asks for nothing; for a row with legacy spellings every one of
them is fine, the row is the only one with its symbol, its quantity type is not the `<unknown>`
placeholder's and is not re-routed by a category of the same name -/
def UnitRow.derivedOk (db : Db) (r : UnitRow) : Bool :=
  (deriveFor db.legacy r.sym).isEmpty
  || ((deriveFor db.legacy r.sym).all (derivedPairOk db.legacy)
      && r.qtype != unknownQType && r.onlyOne db && r.typeNameStable db)

/-! ### `GetDefaultCategory` -/

def Db.hasCat (db : Db) (c : Sym) : Bool := (db.catByName c).isSome

/-- tail of `GetDefaultCategory` once the `UnitInfo` is known -/
def Db.defaultCategoryOf (db : Db) (r : UnitRow) : Option Sym :=
  if r.defaultCat != 0 then some r.defaultCat
  else if db.hasCat r.qtype then some r.qtype else none

/-- `UnitDatabase.GetDefaultCategory(unit)`; `none` is Python's `None`; the unguarded second
dictionary access raises `KeyError` when the rewritten string is no unit either -/
def Db.getDefaultCategory (db : Db) (u : Sym) : Except ErrKind (Option Sym) :=
  match db.unitBySym u with
  | some r => .ok (db.defaultCategoryOf r)
  | none =>
    if !isLegacy db.legacy u then .ok none
    else
      match db.unitBySym (fixLegacy db.legacy u) with
      | some r => .ok (db.defaultCategoryOf r)
      | none => .error .key

/-! ### `Quantity.__init__` (simple branch) and `ObtainQuantity` -/

/-- a simple quantity as stored: category and (rewritten) unit -/
structure Simple where
  cat : Sym
  unit : Sym
deriving DecidableEq, Repr

/-- `self._tobase = GetInfo(self._quantity_type, self._unit, fix_unknown=True).tobase` -/
def Db.finishQuantity (db : Db) (ci : CatRow) (c u : Sym) : Except ErrKind Simple :=
  match db.getInfo ci.qtype u true with
  | .ok _ => .ok ⟨c, u⟩
  | .error e => .error e

/-- `Quantity(category, unit)` for two strings -/
def Db.newQuantity (db : Db) (c u : Sym) : Except ErrKind Simple :=
  match db.catByName c with
  | none => .error .units                        -- GetCategoryInfo: InvalidQuantityTypeError
  | some ci =>
    if db.categoryUnitValid c u then db.finishQuantity ci c u
    else if isLegacy db.legacy u then
      if db.categoryUnitValid c (fixLegacy db.legacy u) then
        db.finishQuantity ci c (fixLegacy db.legacy u)
      else .error .units
    else .error .units

/-- Python truthiness of an optional string -/
def falsy : Option Sym → Bool
  | none => true
  | some c => c == 0

/-- `Quantity(category, unit)` where the category may be `None` (`TypeError: Only str is accepted`) -/
def Db.quantityOfOpt (db : Db) : Option Sym → Sym → Except ErrKind Simple
  | none, _ => .error .type
  | some c, u => db.newQuantity c u

/-- `ObtainQuantity(unit)` without a category -/
def Db.obtainNoCat (db : Db) (u : Sym) : Except ErrKind Simple :=
  match db.getDefaultCategory u with
  | .error e => .error e
  | .ok dc =>
    if !falsy dc then db.quantityOfOpt dc u
    else if isLegacy db.legacy u then
      match db.getDefaultCategory (fixLegacy db.legacy u) with
      | .error e => .error e
      | .ok dc2 => db.quantityOfOpt dc2 (fixLegacy db.legacy u)
    else .error .units

/-- `ObtainQuantity(unit, category)`, `unit : str`, `category : str | None` -/
def Db.obtainQuantity (db : Db) (u : Sym) : Option Sym → Except ErrKind Simple
  | some c => db.newQuantity c u
  | none => db.obtainNoCat u

/-- `Scalar(value, unit, category)`, `Array(values, unit, category)`, `FractionScalar(value, unit,
category)`: the value is stored as given, the quantity comes from `ObtainQuantity` -/
def Db.create {α : Type} (db : Db) (v : α) (u : Sym) (cat : Option Sym) : Except ErrKind (Simple × α) :=
  match db.obtainQuantity u cat with
  | .ok q => .ok (q, v)
  | .error e => .error e

/-! ### `ObtainQuantity` with a composing mapping (dict form, parallel-lists form) -/

/-- one entry `category -> (unit, exponent)` of a composing mapping -/
structure MapCell where
  cat : Sym
  unit : Sym
  exp : Int
deriving DecidableEq, Repr

/-- what `ObtainQuantity` gives back for a mapping: a simple quantity, or a derived one (its
composing categories, units and exponents in order) -/
inductive Obtained
  | simple (q : Simple)
  | derived (cells : List MapCell)
deriving DecidableEq, Repr

/-- `len(unit) == 1 and next(iter(unit.values()))[1] == 1`: "although passed as composing, it's a
simple case" -/
def simpleCell : List MapCell → Option MapCell
  | [c] => if c.exp == 1 then some c else none
  | _ => none

/-- the loop `CheckQuantityTypeUnit(GetCategoryQuantityType(category), unit)` over the mapping (which
uses `fix_legacy=False`); an unknown category is `InvalidQuantityTypeError` -/
def Db.checkCells (db : Db) : List MapCell → Except ErrKind Unit
  | [] => .ok ()
  | c :: cs =>
    match db.catByName c.cat with
    | none => .error .units
    | some ci =>
      match db.checkQuantityTypeUnit ci.qtype c.unit with
      | .error e => .error e
      | .ok _ => db.checkCells cs

/-- the dict branch of `ObtainQuantity` (`category` is `None`, no caption) on a cold cache: one entry
with exponent 1 is unpacked and goes through the ordinary `(unit, category)` path; anything else is
validated cell by cell and handed to `Quantity(mapping, None)`, which builds a derived quantity from
an `OrderedDict` (`ordered`) and raises `TypeError` for any other mapping class -/
def Db.obtainFromMapping (db : Db) (ordered : Bool) (cells : List MapCell) : Except ErrKind Obtained :=
  match simpleCell cells with
  | some c =>
    match db.obtainQuantity c.unit (some c.cat) with
    | .ok q => .ok (.simple q)
    | .error e => .error e
  | none =>
    match db.checkCells cells with
    | .error e => .error e
    | .ok _ => if ordered then .ok (.derived cells) else .error .type

/-- `d[cat] = (unit, exp)` on an ordered dict: an existing key keeps its position and takes the new
value -/
def odictSet (cat : Sym) (ue : Sym × Int) : List MapCell → List MapCell
  | [] => [⟨cat, ue.1, ue.2⟩]
  | c :: cs => if c.cat == cat then ⟨cat, ue.1, ue.2⟩ :: cs else c :: odictSet cat ue cs

/-- `OrderedDict((cat, unit_and_exp) for (cat, unit_and_exp) in zip(category, unit))`, onto `acc` -/
def odictOfZip : List MapCell → List Sym → List (Sym × Int) → List MapCell
  | acc, c :: cs, ue :: ues => odictOfZip (odictSet c ue acc) cs ues
  | acc, _, _ => acc

/-- the `category` argument next to a list of `(unit, exponent)`: `None`, a string, or a list/tuple -/
inductive CatArg
  | none
  | str (c : Sym)
  | list (cs : List Sym)
deriving DecidableEq, Repr

/-- `len(unit) == 1 and unit[0][1] == 1` -/
def simplePair : List (Sym × Int) → Option Sym
  | [ue] => if ue.2 == 1 then some ue.1 else none
  | _ => none

/-- `ObtainQuantity([(unit, exp), …], category)`: a single pair with exponent 1 is the plain form
(with the first element of a category list: `IndexError` for an empty one); otherwise the category must
be a list/tuple (`assert`) and the zipped ordered dict goes through the dict branch -/
def Db.obtainFromLists (db : Db) (units : List (Sym × Int)) (cat : CatArg) : Except ErrKind Obtained :=
  match simplePair units with
  | some u =>
    match cat with
    | .list [] => .error .index
    | .list (c :: _) =>
      match db.obtainQuantity u (some c) with
      | .ok q => .ok (.simple q)
      | .error e => .error e
    | .str c =>
      match db.obtainQuantity u (some c) with
      | .ok q => .ok (.simple q)
      | .error e => .error e
    | .none =>
      match db.obtainQuantity u none with
      | .ok q => .ok (.simple q)
      | .error e => .error e
  | none =>
    match cat with
    | .list cs => db.obtainFromMapping true (odictOfZip [] cs units)
    | _ => .error .assertion

/-! ### reading values in another unit -/

/-- `Quantity.ConvertScalarValue(value, to_unit)` of a simple quantity (`Scalar.GetValue(unit)`) -/
def Db.getValue (db : Db) (q : Simple) (x : Rat) (toU : Sym) : Except ErrKind Rat :=
  if q.unit == toU then .ok x else
  match db.catByName q.cat with
  | none => .error .units
  | some ci =>
    match db.getInfo ci.qtype toU true with
    | .error e => .error e
    | .ok other =>
      match db.getInfo ci.qtype q.unit true with
      | .error e => .error e
      | .ok this => convRows this other x

/-- `List.mapM` for `Except`, structurally (the generator expression of `Convert`) -/
def mapRows (this other : UnitRow) : List Rat → Except ErrKind (List Rat)
  | [] => .ok []
  | x :: xs =>
    match convRows this other x with
    | .error e => .error e
    | .ok y =>
      match mapRows this other xs with
      | .error e => .error e
      | .ok ys => .ok (y :: ys)

/-- `UnitDatabase.Convert(category_or_quantity_type, from_unit, to_unit, values)` for a list or
tuple of numbers: the two rows are looked up once, before the first element -/
def Db.convertList (db : Db) (cq fromU toU : Sym) (xs : List Rat) : Except ErrKind (List Rat) :=
  if fromU == toU then .ok xs else
  match db.typeOf cq with
  | .error e => .error e
  | .ok qt =>
    match db.getInfo qt fromU true with
    | .error e => .error e
    | .ok this =>
      match db.getInfo qt toU true with
      | .error e => .error e
      | .ok other => mapRows this other xs

/-- `Array.GetValues(unit)` for a flat list: own-unit shortcut, then `Quantity.Convert` =
`UnitDatabase.Convert(category, unit, to_unit, values)` -/
def Db.getValues (db : Db) (q : Simple) (xs : List Rat) (toU : Sym) : Except ErrKind (List Rat) :=
  if toU == q.unit then .ok xs else db.convertList q.cat q.unit toU xs

/-- `Scalar.CreateCopy(unit=u)`: value read in the new unit, quantity obtained for the new unit in
the old category (or without category for the empty quantity) -/
def Db.createCopy (db : Db) (q : Simple) (x : Rat) (u : Sym) : Except ErrKind (Simple × Rat) :=
  match db.getValue q x u with
  | .error e => .error e
  | .ok v =>
    match db.obtainQuantity u (if q.cat != 0 then some q.cat else none) with
    | .error e => .error e
    | .ok q' => .ok (q', v)

/-! ### value objects created WITHOUT a value (`Scalar(category, unit=u)`, …) -/

/-- `Scalar._GetDefaultValue(category_info, unit)` (and `FractionScalar._GetDefaultValue`): the
default value of the category, which is expressed in the category's default unit, converted to the
requested unit through `ObtainQuantity(default_unit, category).ConvertScalarValue(value, unit)`;
without a unit the number itself -/
def Db.defaultValueIn (db : Db) (ci : CatRow) : Option Sym → Except ErrKind Rat
  | none => .ok ci.defaultValue
  | some u =>
    match db.newQuantity ci.name ci.defaultUnit with
    | .error e => .error e
    | .ok q => db.getValue q ci.defaultValue u

/-- `Array._GetDefaultValue` (`n = 0`: the empty list) and `FixedArray._GetDefaultValue`
(`[0.0] * dimension`): the unit is ignored -/
def constDefault (n : Nat) (_ : CatRow) (_ : Option Sym) : Except ErrKind (List Rat) :=
  .ok (List.replicate n 0)

/-- `AbstractValueWithQuantityObject.__init__(category, None, unit)` for a category string: the
category info is fetched (`InvalidQuantityTypeError` for an unknown one), the default value is asked
from the subclass (`dv`), a missing unit becomes the default unit of the category, and the quantity
comes from `ObtainQuantity(unit, category)` -/
def Db.createValueless {α : Type} (db : Db) (dv : CatRow → Option Sym → Except ErrKind α) (c : Sym)
    (u : Option Sym) : Except ErrKind (Simple × α) :=
  match db.catByName c with
  | none => .error .units
  | some ci =>
    match dv ci u with
    | .error e => .error e
    | .ok v =>
      match db.obtainQuantity (match u with | some u => u | none => ci.defaultUnit) (some c) with
      | .error e => .error e
      | .ok q => .ok (q, v)

/-- `Scalar(category, unit=u)` / `FractionScalar(category, unit=u)` -/
def Db.createDefault (db : Db) (c : Sym) (u : Option Sym) : Except ErrKind (Simple × Rat) :=
  db.createValueless db.defaultValueIn c u

/-- `Array(category, unit=u)` (`n = 0`) / `FixedArray(n, category, unit=u)` -/
def Db.createDefaultList (db : Db) (n : Nat) (c : Sym) (u : Option Sym) :
    Except ErrKind (Simple × List Rat) :=
  db.createValueless (constDefault n) c u

/-- `Array.CreateCopy(unit=u)` / `FixedArray.CreateCopy(unit=u)` for a flat list: the values read in
the new unit, the quantity obtained for the new unit in the old category -/
def Db.createCopyList (db : Db) (q : Simple) (xs : List Rat) (u : Sym) :
    Except ErrKind (Simple × List Rat) :=
  match db.getValues q xs u with
  | .error e => .error e
  | .ok vs =>
    match db.obtainQuantity u (if q.cat != 0 then some q.cat else none) with
    | .error e => .error e
    | .ok q' => .ok (q', vs)

/-- `UnitDatabase.GetUnitName(quantity_type, unit)` = `GetInfo(quantity_type, unit).name` -/
def Db.getUnitName (db : Db) (qt u : Sym) : Except ErrKind Sym :=
  match db.getInfo qt u false true with
  | .ok r => .ok r.name
  | .error e => .error e

/-! ### `AddCategory`: the unit arguments -/

/-- the loop over `valid_units`: each entry is rewritten and must be a unit of the quantity type
(`ValueError` otherwise) -/
def Db.fixValid (db : Db) (qt : Sym) : List Sym → Except ErrKind (List Sym)
  | [] => .ok []
  | v :: vs =>
    if (db.unitsOfType qt).any (·.sym == fixLegacy db.legacy v) then
      match db.fixValid qt vs with
      | .ok r => .ok (fixLegacy db.legacy v :: r)
      | .error e => .error e
    else .error .value

def Db.fixValidOpt (db : Db) (qt : Sym) : Option (List Sym) → Except ErrKind (Option (List Sym))
  | none => .ok none
  | some vs =>
    match db.fixValid qt vs with
    | .ok r => .ok (some r)
    | .error e => .error e

/-- `GetBaseUnit(quantity_type)` -/
def Db.baseUnit (db : Db) (qt : Sym) : Option Sym := ((db.unitsOfType qt).head?).map (·.sym)

/-- the `default_unit` argument: `None` → base unit (or the first valid unit when the base unit is
not among the valid ones); a string → rewritten, must be a unit of the type (`ValueError`) -/
def Db.chooseDefault (db : Db) (qt : Sym) (valid : Option (List Sym)) : Option Sym → Except ErrKind Sym
  | none =>
    match db.baseUnit qt with
    | none => .error .units
    | some b =>
      match valid with
      | some (v :: vs) => if (v :: vs).contains b then .ok b else .ok v
      | _ => .ok b
  | some d =>
    if (db.unitsOfType qt).any (·.sym == fixLegacy db.legacy d) then .ok (fixLegacy db.legacy d)
    else .error .value

/-- `categories_to_quantity_types[category] = info` -/
def upsertCat (row : CatRow) : List CatRow → List CatRow
  | [] => [row]
  | c :: cs => if c.name == row.name then row :: cs else c :: upsertCat row cs

/-- `AddCategory(category, quantity_type, valid_units, override, default_unit, caption=caption)`
without limits, default value and `from_category`; the caption argument is non-empty -/
def Db.addCategory (db : Db) (name qt : Sym) (valid : Option (List Sym)) (dflt : Option Sym)
    (caption : Sym) (override : Bool) : Except ErrKind Db :=
  if !override && db.hasCat name then .error .units else
  if !db.hasType qt then .error .units else
  match db.fixValidOpt qt valid with
  | .error e => .error e
  | .ok valid' =>
    match db.chooseDefault qt valid' dflt with
    | .error e => .error e
    | .ok d =>
      .ok { db with cats := upsertCat ⟨name, qt, valid', d, 0, none, none, false, false, caption⟩ db.cats }

/-! ### `AddCategory` with default value and limits -/

/-- is `v` outside the lower limit `mn` (exclusive or not)? -/
def belowMin (mn : Option Rat) (minx : Bool) (v : Rat) : Bool :=
  match mn with
  | none => false
  | some m => if minx then !(m < v) else !(m ≤ v)

def aboveMax (mx : Option Rat) (maxx : Bool) (v : Rat) : Bool :=
  match mx with
  | none => false
  | some m => if maxx then !(v < m) else !(v ≤ m)

/-- the `default_value` argument: `None` → the lower limit, else the upper limit, else zero
(`RuntimeError` when a limit is exclusive); a number → must respect the limits (`assert`) -/
def chooseDefaultValue (dv mn mx : Option Rat) (minx maxx : Bool) : Except ErrKind Rat :=
  match dv with
  | none =>
    if minx || maxx then .error .runtime else
    match mn with
    | some m => .ok m
    | none =>
      match mx with
      | some m => .ok m
      | none => .ok 0
  | some v =>
    if belowMin mn minx v then .error .assertion
    else if aboveMax mx maxx v then .error .assertion
    else .ok v

/-- `max_value < min_value` when both are given (`ValueError`) -/
def limitsCrossed : Option Rat → Option Rat → Bool
  | some a, some b => decide (b < a)
  | _, _ => false

/-- `AddCategory(category, quantity_type, valid_units, override, default_unit, default_value,
min_value, max_value, is_min_exclusive, is_max_exclusive, caption)` (no `from_category`; the
caption argument is non-empty) -/
def Db.addCategoryFull (db : Db) (name qt : Sym) (valid : Option (List Sym)) (dflt : Option Sym)
    (caption : Sym) (override : Bool) (dv mn mx : Option Rat) (minx maxx : Bool) : Except ErrKind Db :=
  if !override && db.hasCat name then .error .units else
  if limitsCrossed mn mx then .error .value else
  if !db.hasType qt then .error .units else
  match db.fixValidOpt qt valid with
  | .error e => .error e
  | .ok valid' =>
    match db.chooseDefault qt valid' dflt with
    | .error e => .error e
    | .ok d =>
      match chooseDefaultValue dv mn mx minx maxx with
      | .error e => .error e
      | .ok v =>
        .ok { db with cats := upsertCat ⟨name, qt, valid', d, v, mn, mx, minx, maxx, caption⟩ db.cats }

end Barril
