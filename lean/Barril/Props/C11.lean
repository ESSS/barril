/-
C11 — size invariants: FixedArray dimension (>= 2) and Curve image/domain length.

Model: `Barril/Model/Fixed.lean` (the internal constructor as an automaton over class attribute /
instance attribute / `dimension` keyword / `len(values)`; `__init__` in all positional forms,
`CreateWithQuantity`, `CreateEmptyArray`, `CreateCopy`, copy, pickle, `Array._DoOperation`,
`ChangingIndex`, `IndexAsScalar`; `Curve`).  Helper lemmas, `Inv`, `CInv`, `accepts`:
`Barril/Proofs/FixedLemmas.lean`.

`Inv fa` is `len(values) == dimension >= 2`.  Arithmetic is proved for ANY `operation_func`
(`F : OpFunc`), so derived results (array*array …) are covered although the driver only runs the
simple ones.  Objects are immutable values in the model: "leaves its source unchanged" is the
statement that the store of all arrays obtained so far only ever grows at its end.
-/
import Barril.Proofs.FixedLemmas

namespace Barril.Fixed
open Barril

/-- **every route** (`FixedArray(...)` in every positional form, `CreateWithQuantity` with any
combination of keywords, `CreateEmptyArray`, the bare internal constructor with any class / instance
attribute), on every class, for every container, returns an error or an array with
`len(values) == dimension >= 2` -/
theorem route_inv (db : Db) (r : Route) (o : Obj) (h : runRoute db r = .ok o) : Inv o.st :=
  runRoute_inv h

/-- every route ends in an error or in an array that satisfies the invariant -/
theorem route_error_or_inv (db : Db) (r : Route) :
    (∃ e, runRoute db r = .error e) ∨ ∃ o, runRoute db r = .ok o ∧ Inv o.st := by
  cases h : runRoute db r with
  | error e => exact .inl ⟨e, rfl⟩
  | ok o => exact .inr ⟨o, rfl, runRoute_inv h⟩

/-- **the constructor automaton, exactly**: given a container of length `n` (through `values` or
`value`), the internal constructor stores it with dimension `n` when `n >= 2` and every stated
dimension — the keyword, a class or instance attribute that is not `None` — equals `n`; in every
other case it raises `ValueError` (an absent attribute needs the keyword) -/
theorem internalCreate_spec (cls : ClsAttr) (inst : Option Int) (q : Qty) (values value : Option ValArg)
    (dimension : Option Int) (v : Vals)
    (hm : mergeValue values value = .ok (.sized v))
    (hattr : lookupDim cls inst = .absent → dimension ≠ none) :
    internalCreate cls inst q values dimension value =
      if accepts (lookupDim cls inst) dimension v.xs.length then .ok ⟨v.xs.length, v, q⟩ else .error .value :=
  internalCreate_sized hm hattr

/-- `FixedArray(dimension, …)` with a dimension below 2 raises `ValueError` before anything else -/
theorem init_small_dimension (db : Db) (cls : ClsAttr) (dim : Int) (args : InitArgs) (h : dim < 2) :
    init db cls dim args = .error .value := by
  simp [init, h]

/-- `FixedArray(dimension, …)` whose arguments name a quantity and a container: accepted exactly when
the length is the dimension, stored as given; `ValueError` otherwise -/
theorem init_sized_spec (db : Db) (cls : ClsAttr) (dim : Int) (args : InitArgs) (q : Qty) (v : Vals)
    (hq : initQuantity db dim args = .ok (q, .sized v)) :
    init db cls dim args =
      if 2 ≤ dim ∧ (v.xs.length : Int) = dim then .ok ⟨cls, ⟨dim, v, q⟩⟩ else .error .value := by
  unfold init
  by_cases hd : dim < 2
  · have : ¬ (2 ≤ dim ∧ (v.xs.length : Int) = dim) := by omega
    simp [hd, this]
  · simp only [hd, ↓reduceIte, hq]
    rw [internalCreate_sized (v := v) rfl (by simp [lookupDim])]
    -- the instance attribute set by `__init__` is the only stated dimension
    have hacc : accepts (lookupDim cls (some dim)) none v.xs.length = true ↔
        2 ≤ dim ∧ (v.xs.length : Int) = dim := by
      simp only [accepts, agrees, lookupDim, Attr.pinned, Bool.and_true, Bool.and_eq_true, decide_eq_true_eq,
        beq_iff_eq]
      omega
    by_cases h : 2 ≤ dim ∧ (v.xs.length : Int) = dim
    · simp [hacc.mpr h, h]
    · simp [mt hacc.mp h, h]

/-- `CreateWithQuantity(quantity, values, dimension=…)` on a class of the hierarchy: accepted exactly
when the length is at least 2 and equals the keyword and the class's pinned dimension (where given);
`ValueError` otherwise.  This is the route arithmetic results, `CreateCopy` and `CreateEmptyArray`
take. -/
theorem createWithQuantity_spec (cls : ClsAttr) (q : Qty) (values value : Option ValArg)
    (dimension : Option Int) (v : Vals) (hm : mergeValue values value = .ok (.sized v))
    (hc : cls = .missing → dimension ≠ none) :
    createWithQuantity cls q values dimension value =
      if accepts (lookupDim cls none) dimension v.xs.length then .ok ⟨cls, ⟨v.xs.length, v, q⟩⟩
      else .error .value := by
  unfold createWithQuantity
  rw [internalCreate_sized hm (by
    intro h
    apply hc
    cases cls <;> simp [lookupDim] at h ⊢)]
  cases accepts (lookupDim cls none) dimension v.xs.length <;> simp

/-- `CreateCopy` with new values of another length raises `ValueError` (whenever the unit/category
arguments themselves are fine) -/
theorem createCopy_wrong_length (db : Db) (o : Obj) (v : Vals) (unit category : Option Sym) (q : Qty)
    (hq : copyQuantity db o.st.q unit category = .ok q) (hlen : (v.xs.length : Int) ≠ o.st.dim) :
    createCopy db o (some (.sized v)) unit category = .error .value := by
  unfold createCopy
  simp only [hq]
  rw [createWithQuantity_spec o.cls q none (some (.sized v)) (some o.st.dim) v rfl (by simp)]
  have : accepts (lookupDim o.cls none) (some o.st.dim) v.xs.length = false := by
    have : ¬ o.st.dim = (v.xs.length : Int) := fun h => hlen h.symm
    simp [accepts, agrees, this]
  simp [this]

/-- `CreateCopy` that succeeds keeps class and dimension and stores exactly the new values -/
theorem createCopy_keeps_dimension (db : Db) (o r : Obj) (values : Option ValArg) (unit category : Option Sym)
    (h : createCopy db o values unit category = .ok r) :
    r.cls = o.cls ∧ r.st.dim = o.st.dim ∧ ∀ w, values = some w → w = .sized r.st.vals := by
  obtain ⟨q, v, _, hc, hv⟩ := createCopy_ok h
  obtain ⟨hcls, hi⟩ := createWithQuantity_ok hc
  obtain ⟨vs, hm, hr, hvs, _, _⟩ := internalCreate_ok hi
  simp only [mergeValue] at hm
  cases hm
  refine ⟨hcls, ?_, ?_⟩
  · simp only [resolveDim] at hr
    split at hr
    · split at hr
      · cases hr
      · exact (Except.ok.inj hr).symm
    · exact (Except.ok.inj hr).symm
  · intro w hw
    rw [← hv w hw]
    exact hvs

/-- arithmetic between two Arrays of different lengths raises `ValueError`, whatever the operation -/
theorem doOperation_length_mismatch (F : OpFunc) (self : Obj) (op : AOp) (v : Vals) (q : Qty) (l : Bool)
    (h : self.st.vals.xs.length ≠ v.xs.length) :
    doOperation F self op (.arr v q) l = .error .value := by
  simp [doOperation, lengthsAgree, h]

/-- a bare numpy operand whose length is neither 1 nor the array's cannot be broadcast: `ValueError`
(on either side, whatever the operation) -/
theorem doOperation_nd_length_mismatch (F : OpFunc) (self : Obj) (op : AOp) (xs : List Rat) (l : Bool)
    (h : xs.length ≠ self.st.vals.xs.length) (h1 : xs.length ≠ 1) (h2 : self.st.vals.xs.length ≠ 1) :
    doOperation F self op (.nd xs) l = .error .value := by
  have hb1 : broadcast self.st.vals.xs xs = .error .value := broadcast_error (Ne.symm h) h2 h1
  have hb2 : broadcast xs self.st.vals.xs = .error .value := broadcast_error h h1 h2
  cases l <;>
    simp [doOperation, lengthsAgree, operationValues, Operand.val, pairs, hb1, hb2]

/-- the result of an arithmetic operator — for ANY `operation_func`, any operand (number, bare
ndarray of any length, Array of any quantity) on either side — is an error or satisfies the invariant,
and has the class of `self` -/
theorem doOperation_inv_any (F : OpFunc) (self r : Obj) (op : AOp) (other : Operand) (l : Bool)
    (h : doOperation F self op other l = .ok r) : Inv r.st ∧ r.cls = self.cls := by
  obtain ⟨_, _, _, hc⟩ := doOperation_ok h
  exact ⟨createWithQuantity_inv hc, (createWithQuantity_ok hc).1⟩

/-- **arithmetic never changes the size** (no truncation, no stretching of `self`): on an array that
satisfies the invariant, the result of any operator with a number, a bare ndarray or an Array — for
any `operation_func`, on either side — has as many values as `self` and the same dimension -/
theorem doOperation_keeps_dimension (F : OpFunc) (self r : Obj) (op : AOp) (other : Operand) (l : Bool)
    (hs : Inv self.st) (h : doOperation F self op other l = .ok r) :
    r.st.vals.xs.length = self.st.vals.xs.length ∧ r.st.dim = self.st.dim := by
  have hr : Inv r.st := doOperation_inv h
  have hlen := doOperation_length (by have := hs.1; have := hs.2; omega) h
  refine ⟨hlen, ?_⟩
  have h1 := hr.1
  have h2 := hs.1
  omega

/-- pickling round trip: the result, when there is one, is the same state on the base class -/
theorem reduce_spec (db : Db) (o r : Obj) (h : reduce db o = .ok r) : r = ⟨.none, o.st⟩ ∧ Inv o.st := by
  obtain ⟨hr, hl, hd⟩ := init_qty_ok h
  exact ⟨hr, hl, hd⟩

/-- … and an array that satisfies the invariant always survives it -/
theorem reduce_of_inv (db : Db) (o : Obj) (h : Inv o.st) : reduce db o = .ok ⟨.none, o.st⟩ := by
  unfold reduce
  rw [init_sized_spec db .none o.st.dim _ o.st.q o.st.vals rfl]
  simp [h.1, h.2]

/-- **the invariant over all chains**: whatever sequence of constructions, copies, `CreateCopy`,
pickle round trips, arithmetic (any `operation_func`), `ChangingIndex` and `IndexAsScalar` calls —
accepted or rejected, on any earlier array — is run, every array ever obtained satisfies
`len(values) == dimension >= 2` -/
theorem reachable_inv (db : Db) (F : OpFunc) (cmds : List Cmd) : ∀ o ∈ run db F [] cmds, Inv o.st :=
  run_inv cmds (by simp)

/-- every array a command of a chain returns satisfies the invariant -/
theorem outputs_inv_all (db : Db) (F : OpFunc) (cmds : List Cmd) (r : Obj)
    (h : .ok (.obj r) ∈ outputs db F [] cmds) : Inv r.st :=
  outputs_inv cmds (by simp) r h

/-- one more command on ANY store of arrays that satisfy the invariant keeps it -/
theorem step_preserves_inv (db : Db) (F : OpFunc) (store : List Obj) (c : Cmd)
    (hs : ∀ o ∈ store, Inv o.st) : ∀ o ∈ (step db F store c).1, Inv o.st :=
  step_inv hs

/-- **a failed operation leaves everything as it was** -/
theorem step_failed_leaves_store (db : Db) (F : OpFunc) (store : List Obj) (c : Cmd) (e : ErrKind)
    (h : (step db F store c).2 = .error e) : (step db F store c).1 = store := by
  simp only [step] at h ⊢
  rw [h]
  rfl

/-- no operation, accepted or rejected, changes an array obtained earlier (sources included) -/
theorem step_keeps_sources (db : Db) (F : OpFunc) (store : List Obj) (c : Cmd) (i : Nat) (o : Obj)
    (h : store[i]? = some o) : (step db F store c).1[i]? = some o := by
  obtain ⟨t, ht⟩ := push_prefix store (runCmd db F store c)
  simp only [step]
  rw [ht, List.getElem?_append_left (List.getElem?_eq_some_iff.mp h).1]
  exact h

theorem run_keeps_sources (db : Db) (F : OpFunc) (store : List Obj) (cmds : List Cmd) (i : Nat) (o : Obj)
    (h : store[i]? = some o) : (run db F store cmds)[i]? = some o := by
  obtain ⟨t, ht⟩ := run_prefix (db := db) (F := F) cmds store
  rw [ht, List.getElem?_append_left (List.getElem?_eq_some_iff.mp h).1]
  exact h

/-- there is no mutator: assigning to `dimension`, `values`, `unit`, `category` or `quantity_type` of a
FixedArray raises (`AttributeError`) whatever is assigned, and by `step_failed_leaves_store` changes nothing -/
theorem assign_rejected (db : Db) (F : OpFunc) (store : List Obj) (src : Obj) (a : ReadOnlyAttr) :
    runOp db F store src (.assign a) = .error .other := rfl

/-- **Python's index normalisation**: `normIndex n i = some j` iff `i` is a valid index of a sequence
of length `n` and `j` is the position it denotes (`i` itself, or `n + i` for a negative index) -/
theorem normIndex_spec (n : Nat) (i : Int) (j : Nat) :
    normIndex n i = some j ↔
      (0 ≤ i ∧ i < n ∧ (j : Int) = i) ∨ (i < 0 ∧ -(n : Int) ≤ i ∧ (j : Int) = n + i) := by
  unfold normIndex
  constructor
  · intro h
    split at h
    · split at h
      · cases h; left; omega
      · cases h
    · split at h
      · cases h; right; omega
      · cases h
  · intro h
    rcases h with ⟨h1, h2, h3⟩ | ⟨h1, h2, h3⟩
    · have : i.toNat < n := by omega
      simp only [h1, ↓reduceIte, this]
      congr 1
      omega
    · have h0 : ¬ 0 ≤ i := by omega
      have : (-i).toNat ≤ n := by omega
      simp only [h0, ↓reduceIte, this]
      congr 1
      omega

/-- **`ChangingIndex`**: the result is a new base-class FixedArray (a tuple) of the same dimension
and length whose quantity is the Scalar's (with `use_value_unit`) or the array's own; at the
(normalised) index it holds the supplied amount expressed in the unit of the result, and every other
element is the source's element re-expressed in that unit — nothing else differs -/
theorem changingIndex_spec (db : Db) (o r : Obj) (i : Int) (value : CIValue) (uvu : Bool)
    (h : changingIndex db o i value uvu = .ok r) :
    ∃ sc j,
      ciScalar db o i value = .ok sc ∧
      normIndex o.st.vals.xs.length i = some j ∧
      r.cls = .none ∧ r.st.dim = o.st.dim ∧ r.st.vals.kind = .tuple ∧
      r.st.q = (if uvu then sc.q else o.st.q) ∧
      r.st.vals.xs.length = o.st.vals.xs.length ∧
      (∃ a, sc.q.convertScalarValue db sc.v r.st.q.unit = .ok a ∧ r.st.vals.xs[j]? = some a) ∧
      (∀ (k : Nat) x, k ≠ j → o.st.vals.xs[k]? = some x →
        ∃ y, o.st.q.convertScalarValue db x r.st.q.unit = .ok y ∧ r.st.vals.xs[k]? = some y) := by
  obtain ⟨sc, vals, amount, ys, hsc, hvals, hamount, hys, hinit⟩ := changingIndex_ok h
  obtain ⟨hr, _, _⟩ := init_qty_ok hinit
  obtain ⟨j, hj, hset⟩ := pySet_ok hys
  obtain ⟨_, hlen, helem⟩ := getValues_ok hvals
  subst hr
  subst hset
  have hjlt : j < vals.xs.length := normIndex_lt hj
  refine ⟨sc, j, hsc, by rw [← hlen]; exact hj, rfl, rfl, rfl, rfl, by simp [hlen], ?_, ?_⟩
  · exact ⟨amount, hamount, by simp [hjlt]⟩
  · intro k x hk hx
    obtain ⟨y, hy, hky⟩ := helem k x hx
    refine ⟨y, hy, ?_⟩
    simp only
    rw [List.getElem?_set_ne (Ne.symm hk)]
    exact hky

/-- the Scalar `ChangingIndex` works with: the number in the array's quantity; the Scalar itself; for
a tuple `(value, unit, category)` the element at the index as a Scalar, copied with the given value
(taken as it is, in the new unit) or, without one, with its own amount re-expressed in `unit` -/
theorem ciScalar_spec (db : Db) (o : Obj) (i : Int) (value : CIValue) (sc : Scalar)
    (h : ciScalar db o i value = .ok sc) :
    match value with
    | .num x => sc = ⟨o.st.q, x⟩
    | .scalar s => sc = s
    | .tup v u c =>
      ∃ x, pyGet o.st.vals.xs i = .ok x ∧ copyQuantity db o.st.q u c = .ok sc.q ∧
        (match v, u with
         | some a, _ => sc.v = a
         | none, none => sc.v = x
         | none, some u' => o.st.q.convertScalarValue db x u' = .ok sc.v) := by
  cases value with
  | num x => simp only [ciScalar] at h; cases h; rfl
  | scalar s => simp only [ciScalar] at h; cases h; rfl
  | tup v u c =>
    simp only [ciScalar] at h
    split at h
    · cases h
    · rename_i x hx
      refine ⟨x, hx, ?_⟩
      unfold Scalar.createCopy at h
      simp only at h
      split at h
      · cases h
      · rename_i a ha
        split at h
        · cases h
        · rename_i q hq
          cases h
          refine ⟨hq, ?_⟩
          cases v with
          | some a' => simp only at ha; cases ha; rfl
          | none =>
            cases u with
            | none => simp only [Scalar.getValue] at ha; cases ha; rfl
            | some u' => simpa [Scalar.getValue] using ha

/-- **a plain number keeps the quantity of the array** (in both `use_value_unit` modes) and replaces
exactly the element at the index by that number; nothing is converted -/
theorem changingIndex_plain_number (db : Db) (o r : Obj) (i : Int) (x : Rat) (uvu : Bool)
    (h : changingIndex db o i (.num x) uvu = .ok r) :
    r.st.q = o.st.q ∧ r.st.dim = o.st.dim ∧
      ∃ j, normIndex o.st.vals.xs.length i = some j ∧ r.st.vals.xs = o.st.vals.xs.set j x := by
  obtain ⟨sc, vals, amount, ys, hsc, hvals, hamount, hys, hinit⟩ := changingIndex_ok h
  simp only [ciScalar] at hsc
  cases hsc
  have hq : (if uvu then o.st.q else o.st.q) = o.st.q := by cases uvu <;> rfl
  simp only [hq] at hvals hamount hinit
  rw [getValues_own_unit] at hvals
  cases hvals
  simp only [Scalar.getValue, convertScalarValue_own_unit] at hamount
  cases hamount
  obtain ⟨hr, _, _⟩ := init_qty_ok hinit
  obtain ⟨j, hj, hset⟩ := pySet_ok hys
  subst hr
  exact ⟨rfl, rfl, j, hj, hset⟩

/-- an index outside the array never yields an array … -/
theorem changingIndex_bad_index (db : Db) (o : Obj) (i : Int) (value : CIValue) (uvu : Bool)
    (hi : normIndex o.st.vals.xs.length i = none) (r : Obj) : changingIndex db o i value uvu ≠ .ok r := by
  intro h
  obtain ⟨_, j, _, hj, _⟩ := changingIndex_spec db o r i value uvu h
  rw [hi] at hj
  cases hj

/-- … and with a plain number it is precisely `IndexError` -/
theorem changingIndex_num_bad_index (db : Db) (o : Obj) (i : Int) (x : Rat) (uvu : Bool)
    (hi : normIndex o.st.vals.xs.length i = none) : changingIndex db o i (.num x) uvu = .error .index := by
  have hq : (if uvu then o.st.q else o.st.q) = o.st.q := by cases uvu <;> rfl
  simp only [changingIndex, ciScalar, hq, getValues_own_unit, Scalar.getValue, convertScalarValue_own_unit,
    pySet, hi]

/-- **every array derived from a source has the source's dimension**: copy, `CreateCopy` (any
arguments), pickle round trip, arithmetic (any `operation_func`, any operand, either side) and
`ChangingIndex` all return an array of dimension `src.dimension` (or fail) -/
theorem runOp_keeps_dimension (db : Db) (F : OpFunc) (store : List Obj) (src r : Obj) (o : Op)
    (hs : Inv src.st) (h : runOp db F store src o = .ok (.obj r)) : r.st.dim = src.st.dim := by
  rcases runOp_obj h with rfl | ⟨_, _, _, h⟩ | h | ⟨_, _, _, h⟩ | ⟨_, _, _, h⟩
  · rfl
  · exact (createCopy_keeps_dimension db src r _ _ _ h).2.1
  · rw [(reduce_spec db src r h).1]
  · exact (doOperation_keeps_dimension F src r _ _ _ hs h).2
  · obtain ⟨_, _, _, _, _, hd, _⟩ := changingIndex_spec db src r _ _ _ h
    exact hd

/-- **`IndexAsScalar(i, quantity)`** is a Scalar of the requested quantity (the array's own when none
is given) whose value is the element at the normalised index, expressed in the requested unit -/
theorem indexAsScalar_spec (db : Db) (o : Obj) (i : Int) (quantity : Option Qty) (s : Scalar)
    (h : indexAsScalar db o i quantity = .ok s) :
    s.q = quantity.getD o.st.q ∧
      ∃ j x, normIndex o.st.vals.xs.length i = some j ∧ o.st.vals.xs[j]? = some x ∧
        o.st.q.convertScalarValue db x s.q.unit = .ok s.v := by
  unfold indexAsScalar at h
  simp only at h
  split at h
  · cases h
  · rename_i vals hvals
    split at h
    · cases h
    · rename_i y hy
      cases h
      obtain ⟨_, hlen, helem⟩ := getValues_ok hvals
      obtain ⟨j, hj, hyj⟩ := pyGet_ok hy
      refine ⟨rfl, ?_⟩
      have hjlt : j < o.st.vals.xs.length := by rw [← hlen]; exact normIndex_lt hj
      obtain ⟨x, hx⟩ : ∃ x, o.st.vals.xs[j]? = some x := ⟨o.st.vals.xs[j], by simp [hjlt]⟩
      obtain ⟨y', hy', hk⟩ := helem j x hx
      rw [hyj] at hk
      cases hk
      exact ⟨j, x, by rw [← hlen]; exact hj, hx, hy'⟩

/-- without a quantity it is the stored element itself -/
theorem indexAsScalar_own (db : Db) (o : Obj) (i : Int) :
    indexAsScalar db o i none = (match pyGet o.st.vals.xs i with
      | .error e => .error e
      | .ok x => .ok ⟨o.st.q, x⟩) := by
  simp only [indexAsScalar, getValues_own_unit, Option.getD]
  cases pyGet o.st.vals.xs i <;> rfl

/-- read after write: after `ChangingIndex(i, x)` with a plain number, `IndexAsScalar(i)` is `x` in the
array's quantity -/
theorem changingIndex_then_indexAsScalar (db : Db) (o r : Obj) (i : Int) (x : Rat) (uvu : Bool)
    (h : changingIndex db o i (.num x) uvu = .ok r) : indexAsScalar db r i none = .ok ⟨o.st.q, x⟩ := by
  obtain ⟨hq, _, j, hj, hxs⟩ := changingIndex_plain_number db o r i x uvu h
  have hjlt : j < o.st.vals.xs.length := normIndex_lt hj
  have hget : pyGet r.st.vals.xs i = .ok x := by
    simp only [pyGet, hxs, List.length_set, hj, List.getElem?_set_self hjlt]
  rw [indexAsScalar_own, hget]
  simp only [hq]

/-- an index outside the array never yields a Scalar -/
theorem indexAsScalar_bad_index (db : Db) (o : Obj) (i : Int) (quantity : Option Qty)
    (hi : normIndex o.st.vals.xs.length i = none) (s : Scalar) : indexAsScalar db o i quantity ≠ .ok s := by
  intro h
  obtain ⟨_, j, _, hj, _⟩ := indexAsScalar_spec db o i quantity s h
  rw [hi] at hj
  cases hj

/-- `Curve(image, domain)` succeeds exactly for equal lengths (and then holds what it was given);
otherwise `ValueError` -/
theorem curve_new_spec (image domain : ArrRef) :
    Curve.new image domain = if image.len = domain.len then .ok ⟨image, domain⟩ else .error .value := by
  unfold Curve.new checkLen
  by_cases h : image.len = domain.len <;> simp [h]

/-- what is compared is the number of POINTS (`len` of the outer container), for every container shape:
a flat sequence counts its numbers, a list of tuples / 2-D array counts its rows — never its scalars -/
theorem curve_new_points (image domain : ArrRef) :
    (∃ c, Curve.new image domain = .ok c) ↔ image.shape.len = domain.shape.len := by
  rw [curve_new_spec]
  simp only [ArrRef.len]
  by_cases h : image.shape.len = domain.shape.len <;> simp [h]

/-- agreeing in the number of scalars is neither needed nor enough: for any width `w ≥ 2` and any
`n ≥ 1`, `n·w` flat values against `n` points of width `w` have equal `size` and are rejected, while
`n` flat values against `n` such points differ in `size` and are accepted -/
theorem curve_size_is_not_the_measure (n w : Nat) (hn : 1 ≤ n) (hw : 2 ≤ w) (i j : Nat) :
    Shape.size (.flat (n * w)) = Shape.size (.points n w) ∧
    Curve.new ⟨i, .flat (n * w)⟩ ⟨j, .points n w⟩ = .error .value ∧
    Shape.size (.flat n) ≠ Shape.size (.points n w) ∧
    Curve.new ⟨i, .flat n⟩ ⟨j, .points n w⟩ = .ok ⟨⟨i, .flat n⟩, ⟨j, .points n w⟩⟩ := by
  have h1 : n * w ≠ n := by
    intro h
    have : n * 2 ≤ n * w := Nat.mul_le_mul_left n hw
    omega
  refine ⟨rfl, ?_, ?_, ?_⟩
  · simp [curve_new_spec, ArrRef.len, Shape.len, h1]
  · simp only [Shape.size]
    exact fun h => h1 h.symm
  · simp [curve_new_spec, ArrRef.len, Shape.len]

/-- a rejected setter leaves the curve as it was -/
theorem curve_rejected_unchanged (c : Curve) (s : Setter) (e : ErrKind) (h : c.apply s = .error e) :
    c.after s = c ∧ e = .value := by
  refine ⟨by simp [Curve.after, h], ?_⟩
  rw [curve_setter_spec] at h
  cases s with
  | image a =>
    simp only at h
    split at h
    · cases h
    · cases h; rfl
  | domain a =>
    simp only at h
    split at h
    · cases h
    · cases h; rfl

/-- **a Curve never holds an image and a domain of different lengths** (numbers of points, whatever
the container shapes): from its construction on, after any sequence of `SetImage` / `SetDomain` calls,
accepted or rejected -/
theorem curve_inv (image domain : ArrRef) (c : Curve) (h : Curve.new image domain = .ok c)
    (ss : List Setter) : CInv (c.runSetters ss) := by
  have h0 : CInv c := by
    rw [curve_new_spec] at h
    split at h
    · cases h; assumption
    · cases h
  clear h
  induction ss generalizing c with
  | nil => exact h0
  | cons s ss ih => exact ih (c.after s) (curve_after_inv c s h0)

/-- the branch `if values is None: values = [0.0] * dimension` of the internal constructor is never
taken: a call without `values` and without `value` has already failed the `assert values is not None`,
on every class, with every keyword -/
theorem internalCreate_needs_values (cls : ClsAttr) (inst : Option Int) (q : Qty) (dimension : Option Int) :
    internalCreate cls inst q none dimension none = .error .assertion := rfl

/-- `FixedArray.FromScalars(...)` (inherited from `Array`) is no route to a FixedArray: for every list of
Scalars and every unit / category it raises — the classmethod calls the constructor without `dimension` -/
theorem fromScalars_never (db : Db) (cls : ClsAttr) (scalars : List Scalar) (unit category : Option Sym) :
    ∃ e, fromScalars db cls scalars unit category = .error e := by
  cases h : fromScalars db cls scalars unit category with
  | error e => exact ⟨e, rfl⟩
  | ok o => exact absurd h fromScalars_never_ok

/-- extra keywords of `CreateCopy`: `dimension=` and `value=` collide with the keywords the method adds
itself (`TypeError`, whatever else is passed); `unit_database=` changes nothing -/
theorem createCopyKw_spec (db : Db) (o : Obj) (values : Option ValArg) (unit category : Option Sym) :
    createCopyKw db o values unit category .dimension = .error .type ∧
    createCopyKw db o values unit category .value = .error .type ∧
    createCopyKw db o values unit category .unitDatabase = createCopy db o values unit category :=
  ⟨rfl, rfl, rfl⟩

/-- **`len(array) == array.dimension`, and iterating yields exactly that many numbers**, for every array
ever obtained by any chain of operations -/
theorem len_is_dimension (db : Db) (F : OpFunc) (cmds : List Cmd) (store : List Obj) :
    ∀ o ∈ run db F [] cmds,
      runOp db F store o .len = .ok (.int o.st.dim) ∧
      ∃ xs, runOp db F store o .iter = .ok (.vals ⟨.list, xs⟩) ∧ (xs.length : Int) = o.st.dim ∧
        xs = o.st.vals.xs := by
  intro o ho
  have hi := reachable_inv db F cmds o ho
  refine ⟨?_, o.st.vals.xs, rfl, hi.1, rfl⟩
  simp only [runOp]
  rw [hi.1]

/-- **`array[i]`** on an array that satisfies the invariant: the element at the normalised index for
`-dimension ≤ i < dimension`, `IndexError` for every other index -/
theorem getItem_spec (db : Db) (F : OpFunc) (store : List Obj) (o : Obj) (i : Int) (hi : Inv o.st) :
    (∀ j, normIndex o.st.dim.toNat i = some j →
        ∃ x, o.st.vals.xs[j]? = some x ∧ runOp db F store o (.getItem i) = .ok (.num x)) ∧
    (normIndex o.st.dim.toNat i = none → runOp db F store o (.getItem i) = .error .index) := by
  have hl : o.st.dim.toNat = o.st.vals.xs.length := by
    have := hi.1
    omega
  rw [hl]
  constructor
  · intro j hj
    obtain ⟨x, hx, hp⟩ := pyIndex_some hj
    exact ⟨x, hx, by simp only [runOp, hp]⟩
  · intro hn
    simp only [runOp, pyIndex_none hn]

/-- **`array[start:stop:step]`** is a plain container of the array's kind, NOT a FixedArray (so no length
is owed to the invariant): `ValueError` for a zero step, otherwise the elements at the positions `sliceIndices`
walks to (start and stop of `slice.indices(len)`, at most `len` steps), every one of them inside the array -/
theorem getSlice_spec (db : Db) (F : OpFunc) (store : List Obj) (o : Obj) (s : PySlice) :
    (s.step = some 0 → runOp db F store o (.getSlice s) = .error .value) ∧
    (s.step ≠ some 0 → ∃ idx ys, sliceIndices o.st.vals.xs.length s = .ok idx ∧
      runOp db F store o (.getSlice s) = .ok (.vals ⟨o.st.vals.kind, ys⟩) ∧ ys.length = idx.length ∧
      ∀ (k : Nat) i, idx[k]? = some i →
        0 ≤ i ∧ i < (o.st.vals.xs.length : Int) ∧ ys[k]? = o.st.vals.xs[i.toNat]?) := by
  obtain ⟨h0, h1⟩ := pySlice_spec o.st.vals.xs s
  constructor
  · intro h
    simp only [runOp, h0 h]
  · intro h
    obtain ⟨idx, ys, hidx, hys, hl, he⟩ := h1 h
    exact ⟨idx, ys, hidx, by simp only [runOp, hys], hl, he⟩

/-- the public **`CheckValues(values)`** of an array accepts exactly the containers of `dimension`
elements (`ValueError` for any other length, `TypeError` for an object without a length); with the
`dimension` keyword it is that number the length is compared with -/
theorem checkValues_spec (o : Obj) (values : ValArg) (dimension : Option Int) :
    checkValuesPublic o values dimension =
      (match values with
       | .unsized => .error .type
       | .sized v => if (v.xs.length : Int) = dimension.getD o.st.dim then .ok () else .error .value) := by
  unfold checkValuesPublic checkValues
  cases values with
  | unsized => rfl
  | sized v =>
    by_cases h : (v.xs.length : Int) = dimension.getD o.st.dim <;> simp [h]

/-- `a == b` between FixedArrays holds only for equal dimensions, equally many values and equal quantities;
an array equals itself -/
theorem fixedEq_spec (a b : FixedArr) :
    (fixedEq a b = true → a.dim = b.dim ∧ a.vals.xs.length = b.vals.xs.length ∧ a.q = b.q) ∧
    fixedEq a a = true := by
  constructor
  · intro h
    simp only [fixedEq, Bool.and_eq_true, beq_iff_eq] at h
    exact ⟨h.2, by rw [h.1.1], h.1.2⟩
  · simp [fixedEq]

/-- a pickle round trip and a `CreateCopy()` without arguments compare equal to their source -/
theorem copies_compare_equal (db : Db) (o r : Obj) :
    (reduce db o = .ok r → fixedEq o.st r.st = true) ∧
    (createCopy db o none none none = .ok r → fixedEq o.st r.st = true) := by
  constructor
  · intro h
    rw [(reduce_spec db o r h).1]
    exact (fixedEq_spec o.st o.st).2
  · intro h
    -- without arguments the copy is built from the source's own values, quantity and dimension
    have hc : createWithQuantity o.cls o.st.q none (some o.st.dim) (some (.sized o.st.vals)) = .ok r := h
    obtain ⟨vs, hm, _, hvs, hq, _⟩ := internalCreate_ok (createWithQuantity_ok hc).2
    simp only [mergeValue] at hm
    cases hm
    have hv : o.st.vals = r.st.vals := by injection hvs
    have hd := (createCopy_keeps_dimension db o r none none none h).2.1
    simp [fixedEq, hv, hq, hd]

/-- **any sequence of calls** — `SetImage` / `SetDomain` (accepted or rejected), `curve[i]`, `curve[a:b:c]`,
`GetLength()`, `repr(curve)` — leaves image and domain the same length; only a setter can change the curve -/
theorem curve_ops_inv (image domain : ArrRef) (c : Curve) (h : Curve.new image domain = .ok c)
    (os : List CurveOp) : CInv (c.runOps os) := by
  have h0 : CInv c := curve_inv image domain c h []
  exact curve_runOps_inv os c h0

/-- a call that is not a setter returns the very same curve -/
theorem curve_reads_change_nothing (c : Curve) (o : CurveOp) (h : ∀ s, o ≠ .set s) : c.next o = c := by
  cases o with
  | set s => exact absurd rfl (h s)
  | getItem i => rfl
  | getSlice s => rfl
  | length => rfl
  | repr => rfl

/-- **`curve[i]`** on a curve whose image and domain have the same length `n` (every curve, by
`curve_ops_inv`): for `-n ≤ i < n` the pair `(domain[j], image[j])` at the normalised index `j` — the
domain element FIRST, as the code has it —, `IndexError` for every other index -/
theorem curve_getitem_spec (h : Content) (c : Curve) (i : Int) (hf : Faithful h) (hc : CInv c) :
    (∀ j, normIndex c.length i = some j →
        ∃ d im, (h c.domain).elems[j]? = some d ∧ (h c.image).elems[j]? = some im ∧
          c.getItem h i = .ok (d, im)) ∧
    (normIndex c.length i = none → c.getItem h i = .error .index) := by
  have hli : (h c.image).elems.length = c.length := hf c.image
  have hld : (h c.domain).elems.length = c.length := by
    rw [hf c.domain]
    exact hc.symm
  constructor
  · intro j hj
    obtain ⟨d, hd, hpd⟩ := pyIndex_some (xs := (h c.domain).elems) (i := i) (j := j) (by rw [hld]; exact hj)
    obtain ⟨im, him, hpi⟩ := pyIndex_some (xs := (h c.image).elems) (i := i) (j := j) (by rw [hli]; exact hj)
    exact ⟨d, im, hd, him, by simp only [Curve.getItem, hpd, hpi]⟩
  · intro hn
    have : pyIndex (h c.domain).elems i = .error .index := pyIndex_none (by rw [hld]; exact hn)
    simp only [Curve.getItem, this]

/-- **`curve[start:stop:step]`** builds no Curve: it is the pair of the two containers sliced on their own
(domain first, each keeping its container kind).  On a curve whose image and domain have the same length the
two slices visit the same positions: equally long, and the `k`-th elements are `domain[p]` and `image[p]` for
one and the same position `p`.  A zero step is `ValueError`. -/
theorem curve_slice_spec (h : Content) (c : Curve) (s : PySlice) (hf : Faithful h) (hc : CInv c) :
    (s.step = some 0 → c.getSlice h s = .error .value) ∧
    (s.step ≠ some 0 → ∃ idx d im, sliceIndices c.length s = .ok idx ∧
      c.getSlice h s = .ok (((h c.domain).kind, d), ((h c.image).kind, im)) ∧
      d.length = idx.length ∧ im.length = idx.length ∧
      ∀ (k : Nat) p, idx[k]? = some p → 0 ≤ p ∧ p < (c.length : Int) ∧
        d[k]? = (h c.domain).elems[p.toNat]? ∧ im[k]? = (h c.image).elems[p.toNat]?) := by
  have hli : (h c.image).elems.length = c.length := hf c.image
  have hld : (h c.domain).elems.length = c.length := by
    rw [hf c.domain]
    exact hc.symm
  obtain ⟨d0, d1⟩ := pySlice_spec (h c.domain).elems s
  obtain ⟨i0, i1⟩ := pySlice_spec (h c.image).elems s
  constructor
  · intro hs
    simp only [Curve.getSlice, d0 hs]
  · intro hs
    obtain ⟨idx, d, hidx, hd, hdl, hde⟩ := d1 hs
    obtain ⟨idx', im, hidx', him, hil, hie⟩ := i1 hs
    rw [hld] at hidx
    rw [hli] at hidx'
    rw [hidx] at hidx'
    cases hidx'
    refine ⟨idx, d, im, hidx, by simp only [Curve.getSlice, hd, him], hdl, hil, ?_⟩
    intro k p hk
    obtain ⟨h0, h1, h2⟩ := hde k p hk
    obtain ⟨_, _, h3⟩ := hie k p hk
    rw [hld] at h1
    exact ⟨h0, h1, h2, h3⟩

/-- **`repr(curve)`** shows the units of image and domain (in this order) and the pairs
`(image[k], domain[k])` for `k < 21`, followed by the ellipsis exactly when there are more than 21 points -/
theorem curve_repr_spec (h : Content) (c : Curve) (hf : Faithful h) (hc : CInv c) :
    (c.repr h).imageUnit = (h c.image).unit ∧ (c.repr h).domainUnit = (h c.domain).unit ∧
    (c.repr h).items = ((h c.image).elems.zip (h c.domain).elems).take 21 ∧
    (c.repr h).items.length = min c.length 21 ∧
    ((c.repr h).ellipsis = true ↔ 21 < c.length) := by
  have hli : (h c.image).elems.length = c.length := hf c.image
  have hld : (h c.domain).elems.length = c.length := by
    rw [hf c.domain]
    exact hc.symm
  have hz : ((h c.image).elems.zip (h c.domain).elems).length = c.length := by
    simp [List.length_zip, hli, hld]
  have hr := reprLoop_spec ((h c.image).elems.zip (h c.domain).elems) 0 (by omega)
  refine ⟨rfl, rfl, ?_, ?_, ?_⟩
  · simp only [Curve.repr, hr]
  · simp only [Curve.repr, hr, List.length_take, hz]
    omega
  · simp only [Curve.repr, hr, hz]
    simp

/-- element access **after any history**: on the curve a constructor call and any sequence of setter calls
(accepted or rejected) and reads have led to, `curve[i]` is `(domain[j], image[j])` for every index of the
curve — `n = GetLength()` is the length of BOTH — and `IndexError` for every other `i` -/
theorem curve_getitem_after_any_history (h : Content) (hf : Faithful h) (image domain : ArrRef) (c : Curve)
    (hnew : Curve.new image domain = .ok c) (os : List CurveOp) (i : Int) :
    (c.runOps os).length = (c.runOps os).domain.len ∧
    (∀ j, normIndex (c.runOps os).length i = some j →
        ∃ d im, (h (c.runOps os).domain).elems[j]? = some d ∧ (h (c.runOps os).image).elems[j]? = some im ∧
          (c.runOps os).getItem h i = .ok (d, im)) ∧
    (normIndex (c.runOps os).length i = none → (c.runOps os).getItem h i = .error .index) := by
  have hc := curve_ops_inv image domain c hnew os
  exact ⟨hc, curve_getitem_spec h (c.runOps os) i hf hc⟩

/-- `GetLength()` is the common length of image and domain -/
theorem curve_length_spec (c : Curve) (hc : CInv c) : c.length = c.image.len ∧ c.length = c.domain.len :=
  ⟨rfl, hc⟩

section Examples

private def uM : Sym := Sym.ofBytes [109]
private def uCm : Sym := Sym.ofBytes [99, 109]
private def cLength : Sym := Sym.ofBytes [108, 101, 110, 103, 116, 104]
private def cDepth : Sym := Sym.ofBytes [100, 101, 112, 116, 104]
private def db0 : Db := ⟨[], [], []⟩

end Examples

end Barril.Fixed
