/-
C08 — comparisons are coherent: order follows the physical amount, equality is total.
-/
import Barril.Proofs.CmpLemmas
import Barril.Props.C01

namespace Barril
open Barril.Gen

/-! ## equality of any two objects -/

/-- `a == b` never raises, for any two objects of the nine classes and the unrelated builtins -/
theorem eq_never_raises (small : Rat) (a b : Obj) (same : Bool) : ∃ r, pyEq small a b same = .ok r :=
  ⟨_, pyEq_eq small a b same⟩

/-- `==` is symmetric -/
theorem eq_symm (small : Rat) (a b : Obj) (same : Bool) : pyEq small a b same = pyEq small b a same := by
  rw [pyEq_eq, pyEq_eq, eqVal_comm]

/-- `==` is reflexive (on the same object and on an equal copy) -/
theorem eq_refl (small : Rat) (a : Obj) (same : Bool) : pyEq small a a same = .ok true := by
  rw [pyEq_eq, eqVal_self]

/-- `a != b` is `not (a == b)`; in particular it never raises either -/
theorem ne_is_not_eq (small : Rat) (a b : Obj) (same : Bool) :
    pyNe small a b same = (pyEq small a b same).map (fun r => !r) := by
  rw [pyNe_eq, pyEq_eq]
  rfl

/-- `a != b` never raises -/
theorem ne_never_raises (small : Rat) (a b : Obj) (same : Bool) : ∃ r, pyNe small a b same = .ok r :=
  ⟨_, pyNe_eq small a b same⟩

/-- `!=` is symmetric -/
theorem ne_symm (small : Rat) (a b : Obj) (same : Bool) : pyNe small a b same = pyNe small b a same := by
  rw [ne_is_not_eq, ne_is_not_eq, eq_symm]

/-- equal hashable objects have equal hashes (`same` may only be claimed for one and the same object) -/
theorem eq_hash (small : Rat) (a b : Obj) (same : Bool) (hs : same = true → a = b)
    (h : pyEq small a b same = .ok true) {ka kb : HKey} (ha : pyHash a = .ok ka) (hb : pyHash b = .ok kb) :
    ka = kb := by
  rw [pyEq_eq, Except.ok.injEq] at h
  -- `True` came from one of the two methods, or from `a is b`
  have : ansEq small a b = .val true ∨ ansEq small b a = .val true ∨ same = true := by
    unfold eqVal at h
    split at h <;> rcases Ans.pick_true h with h | h | h <;> simp [h]
  rcases this with h | h | h
  · exact ansEq_hash h ha hb
  · exact (ansEq_hash h hb ha).symm
  · rw [hs h, hb] at ha
    exact (Except.ok.inj ha).symm

/-! ## order of Scalars -/

/-- **order follows the physical amount**: for two Scalars of one quantity type every operator
succeeds and returns the comparison of the two base amounts -/
theorem scalar_order_iff_base {db : Db} (hdb : db.AllWF) {a b : Sc} (ha : a.q.Built db) (hb : b.q.Built db)
    (hq : a.q.qtype = b.q.qtype) (op : Op) :
    a.order db op b = .ok (op.apply (a.q.baseAmount a.v) (b.q.baseAmount b.v)) := by
  obtain ⟨y, hy, ey⟩ := convert_base hdb ha hb hq b.v
  unfold Sc.order Sc.valuesToCompare
  simp only [hq, bne_self_eq_false, Bool.false_eq_true, ↓reduceIte, hy]
  rw [Op.apply_base (ha.wf hdb) op a.v y]
  unfold SimpleQ.baseAmount at *
  rw [ey]

/-- `<` is exactly "less base amount" -/
theorem scalar_lt_iff_base {db : Db} (hdb : db.AllWF) {a b : Sc} (ha : a.q.Built db) (hb : b.q.Built db)
    (hq : a.q.qtype = b.q.qtype) :
    a.order db .lt b = .ok true ↔ a.q.baseAmount a.v < b.q.baseAmount b.v := by
  rw [scalar_order_iff_base hdb ha hb hq]; simp [Op.apply]

/-- `a <= b or b <= a` always holds -/
theorem scalar_le_total {db : Db} (hdb : db.AllWF) {a b : Sc} (ha : a.q.Built db) (hb : b.q.Built db)
    (hq : a.q.qtype = b.q.qtype) :
    a.order db .le b = .ok true ∨ b.order db .le a = .ok true := by
  rw [scalar_order_iff_base hdb ha hb hq, scalar_order_iff_base hdb hb ha hq.symm]
  simp only [Op.apply, Except.ok.injEq, decide_eq_true_eq]
  exact le_total _ _

/-- `a > b` and `b > a` are never both true (nor `a < b` and `b < a`) -/
theorem scalar_gt_asymm {db : Db} (hdb : db.AllWF) {a b : Sc} (ha : a.q.Built db) (hb : b.q.Built db)
    (hq : a.q.qtype = b.q.qtype) :
    ¬ (a.order db .gt b = .ok true ∧ b.order db .gt a = .ok true)
    ∧ ¬ (a.order db .lt b = .ok true ∧ b.order db .lt a = .ok true) := by
  rw [scalar_order_iff_base hdb ha hb hq, scalar_order_iff_base hdb hb ha hq.symm,
    scalar_order_iff_base hdb ha hb hq, scalar_order_iff_base hdb hb ha hq.symm]
  simp only [Op.apply, Except.ok.injEq, decide_eq_true_eq]
  exact ⟨fun h => lt_asymm h.1 h.2, fun h => lt_asymm h.1 h.2⟩

/-- `a <= b` is `not (a > b)` and `a >= b` is `not (a < b)`, whatever the operands (errors included) -/
theorem scalar_le_iff_not_gt (db : Db) (a b : Sc) :
    a.order db .le b = (a.order db .gt b).map (fun r => !r)
    ∧ a.order db .ge b = (a.order db .lt b).map (fun r => !r) := by
  unfold Sc.order
  cases a.valuesToCompare db b with
  | error e => simp [Except.map]
  | ok v => simp [Except.map, Op.apply, ← not_lt]

/-- the two directions agree: `a < b` iff `b > a`, `a <= b` iff `b >= a` -/
theorem scalar_swap {db : Db} (hdb : db.AllWF) {a b : Sc} (ha : a.q.Built db) (hb : b.q.Built db)
    (hq : a.q.qtype = b.q.qtype) :
    a.order db .lt b = b.order db .gt a ∧ a.order db .le b = b.order db .ge a := by
  rw [scalar_order_iff_base hdb ha hb hq, scalar_order_iff_base hdb hb ha hq.symm,
    scalar_order_iff_base hdb ha hb hq, scalar_order_iff_base hdb hb ha hq.symm]
  simp [Op.apply]

/-- ordering values of different quantity types raises `TypeError`, for every operator -/
theorem scalar_order_cross_type_error (db : Db) (op : Op) (a b : Sc) (h : a.q.qtype ≠ b.q.qtype) :
    a.order db op b = .error .type := by
  unfold Sc.order Sc.valuesToCompare
  simp [h]

/-! ## order of FractionScalars -/

/- The full statement
     fscalar_order_iff_base : db.AllWF → a.q.Built db → b.q.Built db → a.q.qtype = b.q.qtype →
       a.order db small op b = .ok (op.apply (a.q.baseAmount a.v.toFloat) (b.q.baseAmount b.v.toFloat))
   is FALSE for the code as it is: `ConvertFractionValue` passes the converted numerator through
   `Fraction(number)`, which keeps it only up to `SMALL = 1e-8` (see `fscalar_order_counterexample`).
   Proved: the statement for operands whose converted numerator survives (`FSc.NumeratorKept`). -/
theorem fscalar_order_iff_base_partial {db : Db} (hdb : db.AllWF) {small : Rat} {a b : FSc}
    (ha : a.q.Built db) (hb : b.q.Built db) (hq : a.q.qtype = b.q.qtype)
    (hk : b.NumeratorKept db small a.q.unit) (op : Op) :
    a.order db small op b = .ok (op.apply (a.q.baseAmount a.v.toFloat) (b.q.baseAmount b.v.toFloat)) := by
  obtain ⟨y, hy, ey⟩ := convertFractionValue_base hdb ha hb hq hk
  unfold FSc.order FSc.valuesToCompare
  simp only [hq, bne_self_eq_false, Bool.false_eq_true, ↓reduceIte, hy]
  rw [Op.apply_base (ha.wf hdb) op a.v.toFloat y.toFloat]
  unfold SimpleQ.baseAmount at *
  rw [ey]

/-- full strength when both operands are written in the same unit (whatever their categories): no
numerator is converted -/
theorem fscalar_same_unit_order_iff_base {db : Db} (hdb : db.AllWF) {small : Rat} (hs : 0 ≤ small)
    {a b : FSc} (ha : a.q.Built db) (hb : b.q.Built db) (hq : a.q.qtype = b.q.qtype)
    (hu : a.q.unit = b.q.unit) (op : Op) :
    a.order db small op b = .ok (op.apply (a.q.baseAmount a.v.toFloat) (b.q.baseAmount b.v.toFloat)) :=
  fscalar_order_iff_base_partial hdb ha hb hq (hu ▸ numeratorKept_same_unit hs b) op

theorem fscalar_le_total_partial {db : Db} (hdb : db.AllWF) {small : Rat} {a b : FSc}
    (ha : a.q.Built db) (hb : b.q.Built db) (hq : a.q.qtype = b.q.qtype)
    (hkb : b.NumeratorKept db small a.q.unit) (hka : a.NumeratorKept db small b.q.unit) :
    a.order db small .le b = .ok true ∨ b.order db small .le a = .ok true := by
  rw [fscalar_order_iff_base_partial hdb ha hb hq hkb, fscalar_order_iff_base_partial hdb hb ha hq.symm hka]
  simp only [Op.apply, Except.ok.injEq, decide_eq_true_eq]
  exact le_total _ _

theorem fscalar_gt_asymm_partial {db : Db} (hdb : db.AllWF) {small : Rat} {a b : FSc}
    (ha : a.q.Built db) (hb : b.q.Built db) (hq : a.q.qtype = b.q.qtype)
    (hkb : b.NumeratorKept db small a.q.unit) (hka : a.NumeratorKept db small b.q.unit) :
    ¬ (a.order db small .gt b = .ok true ∧ b.order db small .gt a = .ok true)
    ∧ ¬ (a.order db small .lt b = .ok true ∧ b.order db small .lt a = .ok true) := by
  rw [fscalar_order_iff_base_partial hdb ha hb hq hkb, fscalar_order_iff_base_partial hdb hb ha hq.symm hka,
    fscalar_order_iff_base_partial hdb ha hb hq hkb, fscalar_order_iff_base_partial hdb hb ha hq.symm hka]
  simp only [Op.apply, Except.ok.injEq, decide_eq_true_eq]
  exact ⟨fun h => lt_asymm h.1 h.2, fun h => lt_asymm h.1 h.2⟩

/-- `a <= b` is `not (a > b)` and `a >= b` is `not (a < b)`, whatever the operands -/
theorem fscalar_le_iff_not_gt (db : Db) (small : Rat) (a b : FSc) :
    a.order db small .le b = (a.order db small .gt b).map (fun r => !r)
    ∧ a.order db small .ge b = (a.order db small .lt b).map (fun r => !r) := by
  unfold FSc.order
  cases a.valuesToCompare db small b with
  | error e => simp [Except.map]
  | ok v => simp [Except.map, Op.apply, ← not_lt]

theorem fscalar_order_cross_type_error (db : Db) (small : Rat) (op : Op) (a b : FSc)
    (h : a.q.qtype ≠ b.q.qtype) : a.order db small op b = .error .type := by
  unfold FSc.order FSc.valuesToCompare
  simp [h]

/-! ## the shipped database (its rows are well-formed by the generated table theorems of C01) -/

theorem posc_scalar_order_iff_base {a b : Sc} (ha : a.q.Built poscDb) (hb : b.q.Built poscDb)
    (hq : a.q.qtype = b.q.qtype) (op : Op) :
    a.order poscDb op b = .ok (op.apply (a.q.baseAmount a.v) (b.q.baseAmount b.v)) :=
  scalar_order_iff_base posc_allWF ha hb hq op

theorem posc_scalar_le_total {a b : Sc} (ha : a.q.Built poscDb) (hb : b.q.Built poscDb)
    (hq : a.q.qtype = b.q.qtype) : a.order poscDb .le b = .ok true ∨ b.order poscDb .le a = .ok true :=
  scalar_le_total posc_allWF ha hb hq

theorem posc_scalar_gt_asymm {a b : Sc} (ha : a.q.Built poscDb) (hb : b.q.Built poscDb)
    (hq : a.q.qtype = b.q.qtype) :
    ¬ (a.order poscDb .gt b = .ok true ∧ b.order poscDb .gt a = .ok true)
    ∧ ¬ (a.order poscDb .lt b = .ok true ∧ b.order poscDb .lt a = .ok true) :=
  scalar_gt_asymm posc_allWF ha hb hq

theorem posc_fscalar_order_iff_base_partial {small : Rat} {a b : FSc} (ha : a.q.Built poscDb)
    (hb : b.q.Built poscDb) (hq : a.q.qtype = b.q.qtype) (hk : b.NumeratorKept poscDb small a.q.unit) (op : Op) :
    a.order poscDb small op b = .ok (op.apply (a.q.baseAmount a.v.toFloat) (b.q.baseAmount b.v.toFloat)) :=
  fscalar_order_iff_base_partial posc_allWF ha hb hq hk op

section examples
open Barril.Gen

private def sq (c u : String) : Except ErrKind SimpleQ := poscDb.simpleQuantity (Sym.ofString c) (Sym.ofString u)

private def qM : Qty := ⟨[⟨Sym.ofString "length", Sym.ofString "m", 1, false⟩], 0, Sym.ofString "m"⟩
private def qMtuple : Qty := ⟨[⟨Sym.ofString "length", Sym.ofString "m", 1, true⟩], 0, Sym.ofString "m"⟩

end examples

/-! ## any two operands: Scalar or FractionScalar, table unit / `<unknown>` / empty quantity -/

/-- ordering values of different quantity types raises `TypeError`: every operator, both classes and
their mixtures, the quantity type `Unknown` and the empty quantity included (the guard comes before
any conversion, so the `fix_unknown` identity conversion of `<unknown>` is never reached) -/
theorem operand_order_cross_type_error (db : Db) (small : Rat) (op : Op) (a b : Operand)
    (h : a.q.qtype ≠ b.q.qtype) : a.order db small op b = .error .type := by
  unfold Operand.order
  simp [h]

/-- on two Scalars with table units the general operator is `Sc.order` -/
theorem operand_order_scalar (db : Db) (small : Rat) (op : Op) (a b : Sc) :
    Operand.order db small op (.sc a.v (.simple a.q)) (.sc b.v (.simple b.q)) = a.order db op b := by
  unfold Operand.order Sc.order Sc.valuesToCompare
  simp only [Operand.q, OrdQ.qtype, OrdQ.unit, Operand.valueIn, Operand.own]
  by_cases h : a.q.qtype = b.q.qtype
  · cases hc : b.q.convertScalarValue db b.v a.q.unit <;> simp [h]
  · simp [h]

/-- on two FractionScalars with table units the general operator is `FSc.order` -/
theorem operand_order_fscalar (db : Db) (small : Rat) (op : Op) (a b : FSc) :
    Operand.order db small op (.fsc a.v (.simple a.q)) (.fsc b.v (.simple b.q)) = a.order db small op b := by
  unfold Operand.order FSc.order FSc.valuesToCompare
  simp only [Operand.q, OrdQ.qtype, OrdQ.unit, Operand.valueIn, Operand.own]
  by_cases h : a.q.qtype = b.q.qtype
  · cases hc : convertFractionValue db small b.v b.q a.q.unit <;> simp [h]
  · simp [h]

/-- against a Scalar on the empty quantity, an operand on the empty quantity compares its own number with the
Scalar's (a FractionScalar on the right raises instead: `ObtainQuantity('', ())`, see `Operand.valueIn` and the
examples) -/
theorem operand_order_empty (db : Db) (small : Rat) (op : Op) (a : Operand) (ha : a.q = .empty) (v : Rat) :
    a.order db small op (.sc v .empty) = .ok (op.apply a.own v) := by
  unfold Operand.order
  rw [ha]
  simp [Operand.q, OrdQ.qtype, Operand.valueIn]

/-! ## comparisons asked after other operations: pooled objects that were hashed, used as operands of
`+ - * /`, compared, converted, copied and pickled first -/

/-- no operation performed with pooled objects alters a descriptor: after any history the pool is the pool -/
theorem stir_keeps_pool (s : Session) (ops : List StirOp) : (s.run ops).pool = s.pool :=
  Session.run_pool s ops

/-- `==` and `!=` after any history are `==` and `!=` asked before it -/
theorem stir_invisible_eq (s : Session) (ops : List StirOp) (small : Rat) (i j : Nat) :
    (s.run ops).eq small i j = s.eq small i j ∧ (s.run ops).ne small i j = s.ne small i j := by
  simp [Session.eq, Session.ne, Session.run_pool]

/-- `hash` after any history, the memoised `Quantity._hash` included, is the hash of the descriptor
(from any state whose memo is consistent with a well-formed pool) -/
theorem stir_invisible_hash_inv {s : Session} (h : s.Inv) (ops : List StirOp) (i : Nat) :
    ((s.run ops).hash i).1 = s.pureHash i := by
  rw [(Session.hash_spec (Session.run_inv h ops) i).1]
  unfold Session.pureHash
  rw [Session.run_pool]

/-- the same from the freshly built pool: nothing is memoised yet -/
theorem stir_invisible_hash {pool : List PObj} (hwf : poolWF pool = true) (ops : List StirOp) (i : Nat) :
    (((Session.fresh pool).run ops).hash i).1 = (Session.fresh pool).pureHash i :=
  stir_invisible_hash_inv (Session.fresh_inv hwf) ops i

/-- the verdicts after any history are a function of the two descriptors and of `a is b` only -/
theorem stirred_verdicts_of_descriptors {pool : List PObj} (hwf : poolWF pool = true) (ops : List StirOp)
    (small : Rat) {i j : Nat} {a b : PObj} (ha : pool[i]? = some a) (hb : pool[j]? = some b) :
    ((Session.fresh pool).run ops).eq small i j = pyEq small a.obj b.obj (a.oid == b.oid)
    ∧ ((Session.fresh pool).run ops).ne small i j = pyNe small a.obj b.obj (a.oid == b.oid)
    ∧ (((Session.fresh pool).run ops).hash i).1 = pyHash a.obj
    ∧ (((Session.fresh pool).run ops).hash j).1 = pyHash b.obj := by
  refine ⟨?_, ?_, ?_, ?_⟩
  · rw [(stir_invisible_eq _ ops small i j).1]; simp [Session.eq, Session.fresh, ha, hb]
  · rw [(stir_invisible_eq _ ops small i j).2]; simp [Session.ne, Session.fresh, ha, hb]
  · rw [stir_invisible_hash hwf]; simp [Session.pureHash, Session.fresh, ha]
  · rw [stir_invisible_hash hwf]; simp [Session.pureHash, Session.fresh, hb]

/-- after any history `==` of two pooled objects never raises -/
theorem stirred_eq_never_raises (s : Session) (ops : List StirOp) (small : Rat) {i j : Nat}
    (hi : i < s.pool.length) (hj : j < s.pool.length) : ∃ r, (s.run ops).eq small i j = .ok r := by
  rw [(stir_invisible_eq s ops small i j).1]
  unfold Session.eq
  rw [List.getElem?_eq_getElem hi, List.getElem?_eq_getElem hj]
  exact eq_never_raises small _ _ _

/-- after any history `==` is symmetric -/
theorem stirred_eq_symm (s : Session) (ops : List StirOp) (small : Rat) (i j : Nat) :
    (s.run ops).eq small i j = (s.run ops).eq small j i := by
  rw [(stir_invisible_eq s ops small i j).1, (stir_invisible_eq s ops small j i).1]
  unfold Session.eq
  cases s.pool[i]? <;> cases s.pool[j]? <;> try rfl
  rename_i a b
  show pyEq small a.obj b.obj (a.oid == b.oid) = pyEq small b.obj a.obj (b.oid == a.oid)
  rw [eq_symm, BEq.comm]

/-- after any history `==` is reflexive -/
theorem stirred_eq_refl (s : Session) (ops : List StirOp) (small : Rat) {i : Nat} (hi : i < s.pool.length) :
    (s.run ops).eq small i i = .ok true := by
  rw [(stir_invisible_eq s ops small i i).1]
  unfold Session.eq
  rw [List.getElem?_eq_getElem hi]
  exact eq_refl small _ _

/-- after any history `!=` is `not ==` -/
theorem stirred_ne_is_not_eq (s : Session) (ops : List StirOp) (small : Rat) (i j : Nat) :
    (s.run ops).ne small i j = ((s.run ops).eq small i j).map (fun r => !r) := by
  rw [(stir_invisible_eq s ops small i j).1, (stir_invisible_eq s ops small i j).2]
  unfold Session.eq Session.ne
  cases s.pool[i]? <;> cases s.pool[j]? <;> try rfl
  exact ne_is_not_eq small _ _ _

/-- after any history equal hashable pooled objects have equal hashes: a memoised `_hash` never
disagrees with what `==` looks at -/
theorem stirred_eq_hash {pool : List PObj} (hwf : poolWF pool = true) (ops : List StirOp) (small : Rat)
    (i j : Nat) (h : ((Session.fresh pool).run ops).eq small i j = .ok true) {ka kb : HKey}
    (ha : (((Session.fresh pool).run ops).hash i).1 = .ok ka)
    (hb : (((Session.fresh pool).run ops).hash j).1 = .ok kb) : ka = kb := by
  rw [stir_invisible_hash hwf] at ha hb
  rw [(stir_invisible_eq _ ops small i j).1] at h
  unfold Session.eq at h
  unfold Session.pureHash at ha hb
  simp only [Session.fresh] at h ha hb
  cases hi : pool[i]? with
  | none => rw [hi] at ha; cases ha
  | some a =>
    cases hj : pool[j]? with
    | none => rw [hj] at hb; cases hb
    | some b =>
      rw [hi, hj] at h
      rw [hi] at ha
      rw [hj] at hb
      refine eq_hash small a.obj b.obj (a.oid == b.oid) ?_ h ha hb
      intro hs
      exact PObj.compatible_obj (poolWF_compatible hwf (List.mem_of_getElem? hi) (List.mem_of_getElem? hj))
        (by simpa using hs)

/-- `hash(o)` never reaches `AbstractValueWithQuantityObject.__hash__` (NotImplementedError) for an object
of the nine classes: Scalar defines `__hash__`; Array, FixedArray and FractionScalar define `__eq__`
without `__hash__` and are unhashable (TypeError) -/
theorem hash_never_the_abstract_base (o : Obj) : o.cls.hashSlot ≠ .raises := by
  generalize o.cls = c
  cases c <;> decide

/-! ## order asked after other operations: pooled Scalars and FractionScalars whose `float()`, `str()`, `repr()`,
`GetValue(unit)` were taken, that were compared in either operand order, hashed, used in arithmetic and copied first -/

/-- whatever is done, a pooled operand keeps the descriptor it was created with -/
theorem ostir_keeps_pool (s : OSession) (ops : List OStirOp) {i : Nat} (hi : i < s.pool.length) :
    (s.run ops).pool[i]? = s.pool[i]? :=
  OSession.run_getElem? s ops hi

/-- every operand of the pool after a history is (a copy of) an operand of the pool before it -/
theorem ostir_only_copies (s : OSession) (ops : List OStirOp) {o : Operand} (h : o ∈ (s.run ops).pool) : o ∈ s.pool :=
  OSession.run_mem s ops h

/-- after ANY history the verdict (or error) of every order operator is the one on the fresh objects -/
theorem stir_invisible_order (s : OSession) (ops : List OStirOp) (db : Db) (small : Rat) (op : Op) {i j : Nat}
    (hi : i < s.pool.length) (hj : j < s.pool.length) :
    (s.run ops).order db small op i j = s.order db small op i j := by
  unfold OSession.order
  rw [OSession.run_getElem? s ops hi, OSession.run_getElem? s ops hj]

/-- after any history `GetValue(unit)` of a pooled operand is the value converted from its descriptor -/
theorem stir_invisible_value (s : OSession) (ops : List OStirOp) (db : Db) (small : Rat) {i : Nat} (u : Sym)
    (hi : i < s.pool.length) : (s.run ops).valueIn db small i u = s.valueIn db small i u := by
  unfold OSession.valueIn
  rw [OSession.run_getElem? s ops hi]

/-- the order verdicts after any history are a function of the two descriptors only -/
theorem stirred_order_of_descriptors {pool : List Operand} (ops : List OStirOp) (db : Db) (small : Rat) (op : Op)
    {i j : Nat} {a b : Operand} (ha : pool[i]? = some a) (hb : pool[j]? = some b) :
    ((OSession.mk pool).run ops).order db small op i j = a.order db small op b := by
  rw [stir_invisible_order _ ops db small op (List.getElem?_eq_some_iff.mp ha).1 (List.getElem?_eq_some_iff.mp hb).1]
  simp [OSession.order, ha, hb]

/-- a copy made at any moment orders as its original does, on either side, after any further history -/
theorem stirred_copy_orders_as_original (s : OSession) (ops : List OStirOp) (db : Db) (small : Rat) (op : Op)
    {k : Nat} (hk : k < s.pool.length) (j : Nat) :
    ((s.step (.copy k)).run ops).order db small op s.pool.length j = ((s.step (.copy k)).run ops).order db small op k j
    ∧ ((s.step (.copy k)).run ops).order db small op j s.pool.length = ((s.step (.copy k)).run ops).order db small op j k := by
  have hp : (s.step (.copy k)).pool = s.pool ++ [s.pool[k]] := by
    simp [OSession.step, List.getElem?_eq_getElem hk]
  have hl : (s.step (.copy k)).pool.length = s.pool.length + 1 := by rw [hp]; simp
  have e : ((s.step (.copy k)).run ops).pool[s.pool.length]? = ((s.step (.copy k)).run ops).pool[k]? := by
    rw [OSession.run_getElem? _ ops (by omega), OSession.run_getElem? _ ops (by omega), hp]
    simp [List.getElem?_append_left hk, List.getElem?_eq_getElem hk]
  unfold OSession.order
  rw [e]
  exact ⟨rfl, rfl⟩

/-- **order follows the physical amount after any history**: two pooled Scalars of one quantity type -/
theorem stirred_scalar_order_iff_base {db : Db} (hdb : db.AllWF) {pool : List Operand} (ops : List OStirOp)
    (small : Rat) {i j : Nat} {a b : Sc} (hi : pool[i]? = some a.toOperand) (hj : pool[j]? = some b.toOperand)
    (ha : a.q.Built db) (hb : b.q.Built db) (hq : a.q.qtype = b.q.qtype) (op : Op) :
    ((OSession.mk pool).run ops).order db small op i j
      = .ok (op.apply (a.q.baseAmount a.v) (b.q.baseAmount b.v)) := by
  rw [stirred_order_of_descriptors ops db small op hi hj]
  exact (operand_order_scalar db small op a b).trans (scalar_order_iff_base hdb ha hb hq op)

/-- after any history `a > b` and `b > a` (`a < b` and `b < a`) are never both true, and `a <= b` or `b <= a` holds -/
theorem stirred_scalar_coherent {db : Db} (hdb : db.AllWF) {pool : List Operand} (ops : List OStirOp)
    (small : Rat) {i j : Nat} {a b : Sc} (hi : pool[i]? = some a.toOperand) (hj : pool[j]? = some b.toOperand)
    (ha : a.q.Built db) (hb : b.q.Built db) (hq : a.q.qtype = b.q.qtype) :
    let s := (OSession.mk pool).run ops
    ¬ (s.order db small .gt i j = .ok true ∧ s.order db small .gt j i = .ok true)
    ∧ ¬ (s.order db small .lt i j = .ok true ∧ s.order db small .lt j i = .ok true)
    ∧ (s.order db small .le i j = .ok true ∨ s.order db small .le j i = .ok true) := by
  intro s
  simp only [s]
  rw [stirred_scalar_order_iff_base hdb ops small hi hj ha hb hq, stirred_scalar_order_iff_base hdb ops small hj hi hb ha hq.symm,
    stirred_scalar_order_iff_base hdb ops small hi hj ha hb hq, stirred_scalar_order_iff_base hdb ops small hj hi hb ha hq.symm,
    stirred_scalar_order_iff_base hdb ops small hi hj ha hb hq, stirred_scalar_order_iff_base hdb ops small hj hi hb ha hq.symm]
  simp only [Op.apply, Except.ok.injEq, decide_eq_true_eq]
  exact ⟨fun h => lt_asymm h.1 h.2, fun h => lt_asymm h.1 h.2, le_total _ _⟩

/-- the same for two pooled FractionScalars (with the hypothesis of `fscalar_order_iff_base_partial`: the converted
numerator survives `Fraction(number)`; for equal units it always does) -/
theorem stirred_fscalar_order_iff_base_partial {db : Db} (hdb : db.AllWF) {pool : List Operand} (ops : List OStirOp)
    {small : Rat} {i j : Nat} {a b : FSc} (hi : pool[i]? = some a.toOperand) (hj : pool[j]? = some b.toOperand)
    (ha : a.q.Built db) (hb : b.q.Built db) (hq : a.q.qtype = b.q.qtype)
    (hk : b.NumeratorKept db small a.q.unit) (op : Op) :
    ((OSession.mk pool).run ops).order db small op i j
      = .ok (op.apply (a.q.baseAmount a.v.toFloat) (b.q.baseAmount b.v.toFloat)) := by
  rw [stirred_order_of_descriptors ops db small op hi hj]
  exact (operand_order_fscalar db small op a b).trans (fscalar_order_iff_base_partial hdb ha hb hq hk op)

/-- after any history ordering two pooled operands of different quantity types raises `TypeError` -/
theorem stirred_order_cross_type_error {pool : List Operand} (ops : List OStirOp) (db : Db) (small : Rat) (op : Op)
    {i j : Nat} {a b : Operand} (ha : pool[i]? = some a) (hb : pool[j]? = some b) (h : a.q.qtype ≠ b.q.qtype) :
    ((OSession.mk pool).run ops).order db small op i j = .error .type := by
  rw [stirred_order_of_descriptors ops db small op ha hb]
  exact operand_order_cross_type_error db small op a b h

end Barril
