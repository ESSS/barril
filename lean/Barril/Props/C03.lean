/-
C03 — addition and subtraction are physically sound, also for derived units.

Property theorems about `Alg.opSame` (`_DoOperationWithSameQuantity`: Sum, Subtract) of
Barril/Model/Alg.lean, for EVERY database whose rows are well-formed (`Db.AllWF`, proved for the shipped
databases in Props/C01), operands with entry lists of any length and all rational values.
Helper lemmas: Barril/Proofs/AlgLemmas.lean (`matchOne_spec`: the invariant of the matching loop, `opSame_shape`).

Vocabulary (AlgLemmas): `Operand db q` = known table units, one unit per quantity type inside the operand
(what products, quotients and powers produce: `C04.opNew_closed`/`opNew_spec`; simple quantities are
operands), derived flag as `ObtainQuantity` sets it; `Known db q` = known table units only (the right operand
may hold several units of one quantity type); `dim`, `mag`, `baseMag`, `ScaleOnlyQ`, `Scales` as in C04:
`Scales db q1 q2` = the right operand is not of the simple shape (one entry with exponent 1), or neither
operand has a unit with an offset.  `_ConvertMatchingExp` scales every entry of a derived right operand by its
unit ratio ** exponent, offsets or not; only a SIMPLE right operand is converted with
its offset (that is the property's first sentence for simple operands, and the known finding for b+a).
-/
import Barril.Proofs.AlgLemmas
import Barril.Props.C01

namespace Barril.Alg
open Barril

/-! ### the result has the left operand's units and categories -/

/-- **a ± b has the left operand's units, categories and caption** (for a left operand that has units at all;
an empty left operand takes over the right one's quantity, see `Ops.opSame_empty`) -/
theorem add_sub_left_quantity {db : Db} (hdb : db.AllWF) {op : SameOp} {q1 q2 q : Quantity} {v1 v2 v : Rat}
    (h1 : Operand db q1) (h2 : Known db q2) (hne : q1.entries ≠ [])
    (h : opSame db op q1 q2 v1 v2 = .ok (q, v)) : q = q1 := by
  obtain ⟨used, e2', w2, _, _, _, _, hshape⟩ :=
    opSame_shape hdb (fun _ => True) v2 h1 h2 (fun _ _ => trivial) (fun _ _ => trivial)
  rw [hshape op v1] at h
  rcases pickSame_ok (withValue_eq_ok.mp h).1 with ⟨_, rfl⟩ | ⟨he, _⟩ | ⟨_, rfl⟩
  · rfl
  · exact absurd he hne
  · rfl

/-! ### the value: a.value ± b's value re-expressed in a's units -/

/-- **two simple quantities of one quantity type (units with offsets included): the value is
`a.value ± Convert(b.unit → a.unit)(b.value)`, exactly the table conversion** -/
theorem add_sub_value_simple {db : Db} (hdb : db.AllWF) (op : SameOp) {c1 u1 cap1 c2 u2 cap2 : Sym} {r1 r2 : UnitRow}
    (hu1 : UnitOK db u1 r1) (hu2 : UnitOK db u2 r2) (hc1 : catQType db c1 = .ok r1.qtype)
    (hc2 : catQType db c2 = .ok r1.qtype) (hq : r2.qtype = r1.qtype) (v1 v2 : Rat) :
    opSame db op ⟨[⟨c1, u1, 1⟩], cap1, false⟩ ⟨[⟨c2, u2, 1⟩], cap2, false⟩ v1 v2
      = .ok (⟨[⟨c1, u1, 1⟩], cap1, false⟩, applySame op v1 (convVal r2 r1 v2)) := by
  have k1 : ∀ e ∈ [(⟨c1, u1, 1⟩ : Entry)], EntryOK db e := List.forall_mem_singleton.mpr ⟨r1, hu1, hc1⟩
  have k2 : ∀ e ∈ [(⟨c2, u1, 1⟩ : Entry)], EntryOK db e := List.forall_mem_singleton.mpr ⟨r1, hu1, hc2⟩
  have hconv := convertMatchingExp_rows hdb hu2 hu1 hq.symm 1 v2 false
  rw [hq] at hconv
  simp only [and_self, or_true, ↓reduceIte] at hconv
  unfold opSame
  split
  · rename_i heq
    simp only [Quantity.eqv, Bool.and_eq_true, beq_iff_eq, List.cons.injEq, Entry.mk.injEq, and_true] at heq
    obtain ⟨⟨_, rfl⟩, _⟩ := heq
    rw [hu2.unique hu1, convVal_self (hdb _ (unitBySym_mem hu1.row))]
  · have hd : isDerivedDict [(⟨c2, u2, 1⟩ : Entry)] = false := by simp [isDerivedDict]
    simp only [matchQuantities, matchOne, hc1, hc2, lookupU, beq_self_eq_true, ↓reduceIte, hd, hconv]
    rw [obtainFromDict_known _ cap1 k1, obtainFromDict_known _ cap2 k2]
    simp [isSimpleShape, pickSame, joined, joinedFrom, addJoined, sameSet]

/-- **derived operands: the right value is re-expressed ONCE, by scaling with each unit ratio raised to that
unit's exponent.**  `e2'` is the right operand's dict with the same categories and exponents and, for every
quantity type, the unit the left operand uses; the value that is added/subtracted is
`b.value · Π slope(b's unit)^exp / Π slope(a's unit)^exp`. -/
theorem add_sub_value_reexpressed {db : Db} (hdb : db.AllWF) {q1 q2 : Quantity} (v2 : Rat)
    (h1 : Operand db q1) (h2 : Known db q2) (hs : Scales db q1 q2) (hneq : q1.eqv q2 = false) :
    ∃ e2' : List Entry, e2'.map catExp = q2.entries.map catExp
      ∧ (∀ e' ∈ e2', ∀ e ∈ q1.entries, ∀ qt, hasType db qt e = true → hasType db qt e' = true → e'.unit = e.unit)
      ∧ mag db e2' ≠ 0
      ∧ ∀ op v1 q v, opSame db op q1 q2 v1 v2 = .ok (q, v) →
          v = applySame op v1 (v2 * mag db q2.entries / mag db e2') := by
  obtain ⟨P, p1, p2, hc⟩ := hs.pred
  obtain ⟨used, e2', w2, hce, hgood, _, hmag, hshape⟩ := opSame_shape hdb P v2 h1 h2 p1 p2
  replace hmag := hmag hc
  have hm0 : mag db e2' ≠ 0 :=
    mag_ne_zero _ (fun e he => (hgood e (List.mem_append_right _ he)).slope_ne_zero hdb)
  refine ⟨e2', hce, fun e' he' e he qt ht ht' => ?_, hm0, fun op v1 q v h => ?_⟩
  · exact (unified_of_good hgood e (List.mem_append_left _ he) e' (List.mem_append_right _ he') qt ht).mp ht'
  · rw [hshape op v1] at h
    rw [(withValue_eq_ok.mp h).2, ← hmag, mul_div_cancel_right₀ _ hm0]

/-- **physical soundness: in base units, a ± b is the sum/difference of the two amounts** (matching
dimensions, units without offset; derived units of any exponent, several categories and units per type) -/
theorem add_sub_phys {db : Db} (hdb : db.AllWF) {op : SameOp} {q1 q2 q : Quantity} {v1 v2 v : Rat}
    (h1 : Operand db q1) (h2 : Known db q2) (hs : Scales db q1 q2)
    (hd : ∀ qt, dim db qt q1.entries = dim db qt q2.entries)
    (h : opSame db op q1 q2 v1 v2 = .ok (q, v)) :
    baseMag db q1 v = applySame op (baseMag db q1 v1) (baseMag db q2 v2) := by
  obtain ⟨P, p1, p2, hc⟩ := hs.pred
  obtain ⟨used, e2', w2, hce, hgood, _, hmag, hshape⟩ := opSame_shape hdb P v2 h1 h2 p1 p2
  replace hmag := hmag hc
  rw [hshape op v1] at h
  obtain ⟨_, rfl⟩ := withValue_eq_ok.mp h
  -- equal dimensions: the matched right operand has the left operand's accumulated exponents, hence its magnitude
  have hd' : ∀ qt, dim db qt q1.entries = dim db qt e2' := fun qt => by rw [hd qt, dim_of_catExp _ _ hce]
  have hm := mag_congr_totals q1.entries e2' (fun e he => (hgood e he).slope_ne_zero hdb)
    (fun u => (unitTotal_eq_of_dims hgood hd' u).symm)
  unfold baseMag
  rw [← hmag, hm]
  cases op <;> simp only [applySame] <;> ring

/-! ### matching dimensions: the operation succeeds -/

/-- **for matching dimensions a ± b succeeds**, with the left operand's quantity (operands in which every
quantity type that occurs has a non-zero exponent: `NonZeroDims`, what `C04.no_zero_dimension` proves of every
product, quotient and power).  The comparison of the joined composing units in the code is by unit symbol;
it agrees with the comparison of dimensions because after matching a quantity type has one unit. -/
theorem add_sub_succeeds {db : Db} (hdb : db.AllWF) (op : SameOp) {q1 q2 : Quantity} (v1 v2 : Rat)
    (h1 : Operand db q1) (h2 : Known db q2) (n1 : NonZeroDims db q1) (n2 : NonZeroDims db q2)
    (hd : ∀ qt, dim db qt q1.entries = dim db qt q2.entries) :
    ∃ v, opSame db op q1 q2 v1 v2 = .ok (q1, v) := by
  obtain ⟨used, e2', w2, hce, hgood, _, _, hshape⟩ :=
    opSame_shape hdb (fun _ => True) v2 h1 h2 (fun _ _ => trivial) (fun _ _ => trivial)
  have hs : sameSet (joined q1.entries) (joined e2') = true := sameSet_of_dims hgood hce hd n1 n2
  exact ⟨applySame op v1 w2, by simp only [hshape op v1, withValue, pickSame, hs, ↓reduceIte]⟩

/-- conversely, **different dimensions are rejected** (`InvalidOperationError`) whenever both operands have
units: if the operation succeeds on two non-empty operands of this kind, their dimensions are equal -/
theorem add_sub_ok_dims {db : Db} (hdb : db.AllWF) {op : SameOp} {q1 q2 q : Quantity} {v1 v2 v : Rat}
    (h1 : Operand db q1) (h2 : Known db q2) (ne1 : q1.entries ≠ []) (ne2 : q2.entries ≠ [])
    (h : opSame db op q1 q2 v1 v2 = .ok (q, v)) (qt : Sym) :
    dim db qt q1.entries = dim db qt q2.entries := by
  obtain ⟨used, e2', w2, hce, hgood, _, _, hshape⟩ :=
    opSame_shape hdb (fun _ => True) v2 h1 h2 (fun _ _ => trivial) (fun _ _ => trivial)
  rw [hshape op v1] at h
  rw [← dim_of_catExp _ _ hce]
  refine dim_eq_of_totals hgood (fun u => ?_) qt
  have hne2 : e2' ≠ [] := fun h0 => ne2 (by simpa [h0, eq_comm] using hce)
  rcases pickSame_ok (withValue_eq_ok.mp h).1 with ⟨hs, _⟩ | ⟨he, _⟩ | ⟨he, _⟩
  · -- the two joined lists have the same members
    simp only [sameSet, Bool.and_eq_true, List.all_eq_true, List.contains_iff_mem, Prod.forall, mem_joined] at hs
    by_cases hex : ∃ e ∈ q1.entries, e.unit = u
    · exact (hs.1 u _ ⟨hex, rfl⟩).2
    · by_cases hex2 : ∃ e ∈ e2', e.unit = u
      · exact absurd (hs.2 u _ ⟨hex2, rfl⟩).1 hex
      · rw [unitTotal_zero_of_notin u _ (fun e he h => hex ⟨e, he, h⟩),
          unitTotal_zero_of_notin u _ (fun e he h => hex2 ⟨e, he, h⟩)]
  · exact absurd he ne1
  · exact absurd he hne2

/-! ### hence: (a+b)-b denotes a, a+b and b+a denote the same amount -/

/-- **(a+b)-b is a, exactly** (also for units with offsets: the right operand is re-expressed the same way
both times) -/
theorem add_sub_cancel {db : Db} (hdb : db.AllWF) {q1 q2 q : Quantity} {v1 v2 v : Rat}
    (h1 : Operand db q1) (h2 : Known db q2) (hne : q1.entries ≠ [])
    (h : opSame db .add q1 q2 v1 v2 = .ok (q, v)) : opSame db .sub q q2 v v2 = .ok (q1, v1) := by
  obtain rfl := add_sub_left_quantity hdb h1 h2 hne h
  obtain ⟨used, e2', w2, _, _, _, _, hshape⟩ :=
    opSame_shape hdb (fun _ => True) v2 h1 h2 (fun _ _ => trivial) (fun _ _ => trivial)
  rw [hshape .add v1] at h
  obtain ⟨hp, rfl⟩ := withValue_eq_ok.mp h
  simp only [hshape .sub, hp, withValue, applySame, add_sub_cancel_right]

/-
Full statement (FALSE, known finding C03-affine-offset-commutativity):
  theorem add_comm_phys : a+b and b+a denote the same physical amount for all dimension-compatible operands.
For two simple operands whose units have different offsets (degC + K) the first sentence of the property fixes
a+b = a.value + Convert(b → a's unit) in a's unit, which is not symmetric: see
`add_comm_affine_counterexample` in Props/C03Examples.lean.
Proved: the statement whenever both re-expressions scale (`Scales` in both directions: both operands derived -
offsets allowed - or no unit with an offset at all), and that counterexample.  Not covered besides the known
finding: one SIMPLE operand with an offset unit facing a derived operand of the same dimension (e.g. K against
degC2/degC): the simple side is converted with its offset, the derived side is scaled.
-/
/-- **a+b and b+a denote the same amount** (both operands derived, or no unit with an offset) -/
theorem add_comm_phys_partial {db : Db} (hdb : db.AllWF) {q1 q2 q q' : Quantity} {v1 v2 v v' : Rat}
    (h1 : Operand db q1) (h2 : Operand db q2) (s12 : Scales db q1 q2) (s21 : Scales db q2 q1)
    (n1 : q1.entries ≠ []) (n2 : q2.entries ≠ [])
    (hd : ∀ qt, dim db qt q1.entries = dim db qt q2.entries)
    (hab : opSame db .add q1 q2 v1 v2 = .ok (q, v)) (hba : opSame db .add q2 q1 v2 v1 = .ok (q', v')) :
    baseMag db q v = baseMag db q' v' := by
  obtain rfl := add_sub_left_quantity hdb h1 h2.known n1 hab
  obtain rfl := add_sub_left_quantity hdb h2 h1.known n2 hba
  rw [add_sub_phys hdb h1 h2.known s12 hd hab, add_sub_phys hdb h2 h1.known s21 (fun qt => (hd qt).symm) hba]
  simp only [applySame]; ring

section examples
private def S (s : String) : Sym := Sym.ofString s
private def qDegC : Quantity := ⟨[⟨S "temperature", S "degC", 1⟩], 0, false⟩
private def qK : Quantity := ⟨[⟨S "temperature", S "K", 1⟩], 0, false⟩
private def qM : Quantity := ⟨[⟨S "length", S "m", 1⟩], 0, false⟩
private def qM2 : Quantity := ⟨[⟨S "length", S "m", 2⟩], 0, true⟩
private def qCm2 : Quantity := ⟨[⟨S "length", S "cm", 2⟩], 0, true⟩
private def qPerS : Quantity := ⟨[⟨S "time", S "s", -1⟩], 0, true⟩
private def qPerMin : Quantity := ⟨[⟨S "time", S "min", -1⟩], 0, true⟩
private def qDegCm : Quantity := ⟨[⟨S "temperature", S "degC", 1⟩, ⟨S "length", S "m", 1⟩], 0, true⟩
private def qmK : Quantity := ⟨[⟨S "length", S "m", 1⟩, ⟨S "temperature", S "K", 1⟩], 0, true⟩

end examples

end Barril.Alg
