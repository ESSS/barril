/-
C09 — plain numbers act as dimensionless operands and never strip the unit.

Model: `Barril/Model/Ops.lean` (`Scalar._DoOperation`, `Array._DoOperation`, `_ValueGenerator`,
`IsNumber`, the database operations, Python's operator dispatch).  Lemmas: `Barril/Proofs/OpsLemmas.lean`.

All statements are for every database `env` that satisfies the one law `Env.Lawful` ("Convert to the
same unit returns the value", true of `Env.ofDb db` for every table `db`), every operand value, every
container of every length.  The `Array` statements and the `k / x`, `k // x` statements go through the
database operations with `Quantity.CreateEmpty()`; they hold for quantities in normal form
(`Normal`: the form every operation result has).  A hand-built dict with two units of one quantity
type is converted by `_MatchQuantities` first (engine `Alg`, C03/C04); see
`array_mul_num_unmatched_counterexample`.

`d` is `numpyDefers`: whether numpy hands `numpy_scalar op x` / `ndarray op x` over to x's reflected
operator.  With a Python number on the left it is irrelevant; with a numpy operand on the left the
statements need `d = true` (observed on the real code by the correspondence), and
`numpy_left_not_deferring_strips_unit` shows what the repaired defect was.
-/
import Barril.Proofs.OpsLemmas

namespace Barril.Ops
open Barril

/-! ### Scalar: `x*k x/k x//k x+k x-k` and `k*x k+x k-x` keep the quantity -/

/-- `x op k` for all five operators: the Scalar's own quantity, the operation applied to the value
(a zero divisor is the `ZeroDivisionError` of `vop`) -/
theorem scalar_op_num (env : Env) (d : Bool) (op : Op) (q : Quantity) (v : Rat) (np : Bool) (k : Rat) :
    binop env d op (.scalar q v) (.num np k) = (vop op v k).map (Out.scalar q) := by
  -- a number on the right is combined directly, whatever the operator
  simp only [binop, scalarDoOp, isNumber]
  cases vop op v k <;> rfl

/-- `k op x` for `+ - *`, any kind of number on the left -/
theorem num_op_scalar (env : Env) (d : Bool) (op : Op) (q : Quantity) (v : Rat) (np : Bool) (k : Rat)
    (hop : isDivision op = false) (hd : np = true → d = true) :
    binop env d op (.num np k) (.scalar q v) = .ok (.scalar q (vval op k v)) := by
  have hb : (np && !d) = false := by cases np <;> cases d <;> simp_all
  -- a number on the left is combined directly unless the operator is a division, and `+ - *` cannot fail
  simp only [binop, hb, Bool.false_eq_true, ↓reduceIte, scalarDoOp, isNumber, hop,
    vop_ok (op := op) (a := k) (b := v) (by simp [hop])]

/-! ### Scalar: `k / x` and `k // x` have the reciprocal quantity and the value `k / v` -/

theorem num_div_scalar {env : Env} (hl : env.Lawful) (d : Bool) (op : Op) {q : Quantity} (hq : Normal env q)
    (v : Rat) (np : Bool) (k : Rat) (hop : isDivision op = true) (hd : np = true → d = true) :
    binop env d op (.num np k) (.scalar q v) = (vop op k v).map (Out.scalar (recipQ q)) := by
  have hb : (np && !d) = false := by cases np <;> cases d <;> simp_all
  have hf := (opFunc_empty hl op hq).2
  simp only [hop, ↓reduceIte] at hf
  simp only [binop, hb, Bool.false_eq_true, ↓reduceIte, scalarDoOp, isNumber, hop, quantityOf, valueOf, hf,
    applyOp_ident]
  cases vop op k v <;> rfl

/-- in particular `k / x = Scalar(k / v)` with every exponent negated when `v ≠ 0` -/
theorem num_truediv_scalar {env : Env} (hl : env.Lawful) {q : Quantity} (hq : Normal env q) (v k : Rat) (hv : v ≠ 0) :
    binop env true .div (.num false k) (.scalar q v) = .ok (.scalar (recipQ q) (k / v)) := by
  rw [num_div_scalar hl true .div hq v false k rfl (by simp)]
  simp [vop, hv, Except.map]

/-! ### Array: the same, for every container kind and every length -/

/-- `x op k` on an Array over a list, a tuple or an ndarray of ANY length: the Array's quantity, the
same container kind, the operation applied to every value -/
theorem array_op_num {env : Env} (hl : env.Lawful) (d : Bool) (op : Op) {q : Quantity} (hq : Normal env q)
    (kind : Kind) (vs : List Rat) (np : Bool) (k : Rat) :
    binop env d op (.array q kind vs) (.num np k) =
      (mapE (fun x => vop op x k) vs).map (Out.array q kind) := by
  simp only [binop, arrayDoOp, rawOf, valuesOf, quantityOf]
  rw [arrayCompute_ident _ _ (opFunc_empty hl op hq).1]
  cases kind <;> simp [genIsNumpy, Raw.isNumpy, broadcastPairs, genPairs, genIsTuple, Raw.iterates, Raw.isTuple, mapE_map]

/-- with a non-zero divisor: the values are exactly `vs.map (· op k)` -/
theorem array_op_num_values {env : Env} (hl : env.Lawful) (d : Bool) (op : Op) {q : Quantity} (hq : Normal env q)
    (kind : Kind) (vs : List Rat) (np : Bool) (k : Rat) (hk : isDivision op = true → k ≠ 0) :
    binop env d op (.array q kind vs) (.num np k) = .ok (.array q kind (vs.map (fun x => vval op x k))) := by
  rw [array_op_num hl d op hq]
  have : (fun x => vop op x k) = (fun x => .ok (vval op x k)) := by funext x; exact vop_ok hk
  rw [this, mapE_total]; rfl

/-- `k op x` for `+ - *` -/
theorem num_op_array {env : Env} (hl : env.Lawful) (d : Bool) (op : Op) {q : Quantity} (hq : Normal env q)
    (kind : Kind) (vs : List Rat) (np : Bool) (k : Rat) (hop : isDivision op = false) (hd : np = true → d = true) :
    binop env d op (.num np k) (.array q kind vs) = .ok (.array q kind (vs.map (fun x => vval op k x))) := by
  have hb : (np && !d) = false := by cases np <;> cases d <;> simp_all
  have hf := (opFunc_empty hl op hq).2
  simp only [hop, Bool.false_eq_true, ↓reduceIte] at hf
  simp only [binop, hb, arrayDoOp, rawOf, valuesOf, quantityOf]
  rw [arrayCompute_ident _ _ hf]
  have : (fun x => vop op k x) = (fun x => .ok (vval op k x)) := by funext x; exact vop_ok (by simp [hop])
  cases kind <;> simp [genIsNumpy, Raw.isNumpy, broadcastPairs, genPairs, genIsTuple, Raw.iterates, Raw.isTuple,
    mapE_map, this, mapE_total, Except.map]

/-- `k / x`, `k // x` on an Array: the reciprocal quantity, the container kind of x, `k / v` for every value -/
theorem num_div_array {env : Env} (hl : env.Lawful) (d : Bool) (op : Op) {q : Quantity} (hq : Normal env q)
    (kind : Kind) (vs : List Rat) (np : Bool) (k : Rat) (hop : isDivision op = true) (hd : np = true → d = true) :
    binop env d op (.num np k) (.array q kind vs) =
      (mapE (fun x => vop op k x) vs).map (Out.array (recipQ q) kind) := by
  have hb : (np && !d) = false := by cases np <;> cases d <;> simp_all
  have hf := (opFunc_empty hl op hq).2
  simp only [hop, ↓reduceIte] at hf
  simp only [binop, hb, arrayDoOp, rawOf, valuesOf, quantityOf]
  rw [arrayCompute_ident _ _ hf]
  cases kind <;> simp [genIsNumpy, Raw.isNumpy, broadcastPairs, genPairs, genIsTuple, Raw.iterates, Raw.isTuple, mapE_map]

/-- `x op ndarray` with an ndarray of x's length: x's quantity, an ndarray of the elementwise results -/
theorem array_op_ndarray {env : Env} (hl : env.Lawful) (d : Bool) (op : Op) {q : Quantity} (hq : Normal env q)
    (kind : Kind) (vs ks : List Rat) (hlen : vs.length = ks.length) :
    binop env d op (.array q kind vs) (.ndarr ks) =
      (mapE (fun p => vop op p.1 p.2) (vs.zip ks)).map (Out.array q .nd) := by
  simp only [binop, arrayDoOp, rawOf, valuesOf, quantityOf]
  rw [arrayCompute_ident _ _ (opFunc_empty hl op hq).1]
  cases kind <;> simp [genIsNumpy, Raw.isNumpy, broadcastPairs, hlen]

/-- `ndarray op x` (numpy defers): the same, with the reciprocal quantity for `ndarray / x`, `ndarray // x` -/
theorem ndarray_op_array {env : Env} (hl : env.Lawful) (op : Op) {q : Quantity} (hq : Normal env q)
    (kind : Kind) (vs ks : List Rat) (hlen : ks.length = vs.length) :
    binop env true op (.ndarr ks) (.array q kind vs) =
      (mapE (fun p => vop op p.1 p.2) (ks.zip vs)).map
        (Out.array (if isDivision op then recipQ q else q) .nd) := by
  simp only [binop, arrayDoOp, rawOf, valuesOf, quantityOf, Bool.not_true, Bool.and_false, Bool.false_eq_true, ↓reduceIte]
  rw [arrayCompute_ident _ _ (opFunc_empty hl op hq).2]
  cases kind <;> simp [genIsNumpy, Raw.isNumpy, broadcastPairs, hlen]

/-! ### the legacy operator `Array.__rdiv__` and Arrays whose `values` is a bare number -/

/-- `x.__rdiv__(k)` is `k / x` (the body of `__rtruediv__`), for every kind of `k` that is not itself a barril
object on the left: numbers, ndarrays, malformed operands -/
theorem array_rdiv_eq_rtruediv (env : Env) (q : Quantity) (kind : Kind) (vs : List Rat) (k : Operand)
    (hk : k.isBarril = false) :
    arrayRDiv env (.array q kind vs) k = binop env true .div k (.array q kind vs) := by
  cases k <;> simp_all [arrayRDiv, binop, Operand.isBarril]

/-- hence `x.__rdiv__(k)` has the reciprocal quantity, x's container kind and `k / v` for every value -/
theorem array_rdiv_num {env : Env} (hl : env.Lawful) {q : Quantity} (hq : Normal env q)
    (kind : Kind) (vs : List Rat) (np : Bool) (k : Rat) :
    arrayRDiv env (.array q kind vs) (.num np k) =
      (mapE (fun x => vop .div k x) vs).map (Out.array (recipQ q) kind) := by
  rw [array_rdiv_eq_rtruediv env q kind vs (.num np k) rfl]
  exact num_div_array hl true .div hq kind vs np k rfl (by simp)

/-- an Array whose `values` is a bare number `v` (`_ValueGenerator` iterates neither side): `x op k` is a list
Array of the one value `v op k`, with x's quantity -/
theorem array0_op_num {env : Env} (hl : env.Lawful) (d : Bool) (op : Op) {q : Quantity} (hq : Normal env q)
    (v : Rat) (np : Bool) (k : Rat) :
    binop env d op (.array0 q v) (.num np k) = (vop op v k).map (fun z => Out.array q .list [z]) := by
  simp only [binop, arrayDoOp, rawOf, valuesOf, quantityOf]
  rw [arrayCompute_ident _ _ (opFunc_empty hl op hq).1]
  simp only [genIsNumpy, Raw.isNumpy, Bool.or_self, Bool.false_eq_true, ↓reduceIte, genPairs, genIsTuple,
    Raw.iterates, Bool.and_self, mapE]
  cases vop op v k <;> rfl

/-- `k op x` for `+ - *` on such an Array, and `k / x`, `k // x` with the reciprocal quantity -/
theorem num_op_array0 {env : Env} (hl : env.Lawful) (d : Bool) (op : Op) {q : Quantity} (hq : Normal env q)
    (v : Rat) (np : Bool) (k : Rat) (hd : np = true → d = true) :
    binop env d op (.num np k) (.array0 q v) =
      (vop op k v).map (fun z => Out.array (if isDivision op then recipQ q else q) .list [z]) := by
  have hb : (np && !d) = false := by cases np <;> cases d <;> simp_all
  simp only [binop, hb, arrayDoOp, rawOf, valuesOf, quantityOf]
  rw [arrayCompute_ident _ _ (opFunc_empty hl op hq).2]
  simp only [genIsNumpy, Raw.isNumpy, Bool.or_self, Bool.false_eq_true, ↓reduceIte, genPairs, genIsTuple,
    Raw.iterates, Bool.and_self, mapE]
  cases vop op k v <;> rfl

/-- two barril operands one of which holds a bare number as its `values`: `len()` of a number is a `TypeError`,
whatever the other Array holds -/
theorem array0_op_array_type_error (env : Env) (d : Bool) (op : Op) (q1 q2 : Quantity) (v : Rat) (kind : Kind)
    (vs : List Rat) :
    binop env d op (.array0 q1 v) (.array q2 kind vs) = .error .type ∧
    binop env d op (.array q2 kind vs) (.array0 q1 v) = .error .type := by
  simp [binop, arrayDoOp, rawOf, valuesOf, rawLen]

/-! ### the result is always a barril object carrying a quantity -/

/-- **whichever operand stands on the left**, when one operand is a Scalar or an Array and numpy
defers, a successful operation returns a Scalar or an Array, i.e. an object that carries a quantity;
never a bare number or ndarray -/
theorem result_is_barril_object (env : Env) (op : Op) (lhs rhs : Operand) (o : Out)
    (hb : lhs.isBarril = true ∨ rhs.isBarril = true) (h : binop env true op lhs rhs = .ok o) :
    ∃ q, o.quantity? = some q := by
  have key : (∃ q' v', o = .scalar q' v') ∨ (∃ q' k' vs', o = .array q' k' vs') := by
    unfold binop at h
    cases lhs <;> cases rhs <;> simp [Operand.isBarril] at hb <;> simp at h <;>
      first
        | exact Or.inl (scalarDoOp_quantity h)
        | exact Or.inr (arrayDoOp_quantity h)
  rcases key with ⟨q', v', rfl⟩ | ⟨q', k', vs', rfl⟩ <;> exact ⟨q', rfl⟩

/-- the defect repaired by 82f5449, as a statement about the parameter: a numpy operand on the left
that does not defer yields a bare result, whatever the Array holds -/
theorem numpy_left_not_deferring_strips_unit (env : Env) (op : Op) (ks : List Rat) (q : Quantity) (kind : Kind)
    (vs : List Rat) (k : Rat) :
    binop env false op (.ndarr ks) (.array q kind vs) = .ok .bare ∧
    binop env false op (.num true k) (.array q kind vs) = .ok .bare := by
  simp [binop]

/-! ### non-vacuity: concrete instances over the example database of `OpsLemmas` -/

/-- why `Normal` is needed for Arrays: a hand-built dict with two units (12 = 1/100 of 11) of one
quantity type is converted by `_MatchQuantities` even when the other operand is a number.
This is the model-side witness of the KNOWN FINDING `C09-array-number-mixed-units-of-one-type`
(known_findings.json; real-code witness: `Array.CreateWithQuantity(ObtainQuantity(OrderedDict([('length',
['m',1]),('depth',['cm',1])])), [1.0, 2.0]) * 2` is `[0.02, 0.04] m2`): the full-strength statement
"`array_op_num` for every quantity" is false for the code as it is, so the proved theorems keep the
hypothesis `Normal`, and `harness/props/C09.py` excuses exactly this input class (`CLASS_MIXED`). -/
theorem array_mul_num_unmatched_counterexample :
    binop exEnv true .mul (.array [⟨101, 11, 1⟩, ⟨102, 12, 1⟩] .list [1, 2]) (.num false 2)
      = .ok (.array [⟨101, 11, 1⟩, ⟨102, 11, 1⟩] .list [1 / 50, 1 / 25]) := by
  decide +kernel

/-- the same known finding for `+` (the replay case of the entry): `x + 1` neither keeps x's quantity
(unit 12 of the second item became 11) nor adds 1 to the values `[1, 2]` — 1 is added after the
conversion, in the other unit -/
theorem array_add_num_unmatched_counterexample :
    binop exEnv true .sum (.array [⟨101, 11, 1⟩, ⟨102, 12, 1⟩] .list [1, 2]) (.num false 1)
      = .ok (.array [⟨101, 11, 1⟩, ⟨102, 11, 1⟩] .list [101 / 100, 51 / 50]) ∧
    ¬ Normal exEnv [⟨101, 11, 1⟩, ⟨102, 12, 1⟩] := by
  refine ⟨by decide +kernel, fun h => ?_⟩
  have := h.same ⟨101, 11, 1⟩ (by simp) ⟨102, 12, 1⟩ (by simp) (by decide +kernel)
  simp at this

/-! ### the caption of an unknown unit (`ObtainQuantity('<unknown>', None, 'furlongs')`) -/

/-- a plain number never strips the only name an unknown unit has: in the eight forms that keep x's quantity the
result of `Scalar._DoOperation` carries x's caption (it is x's quantity object itself) -/
theorem scalar_num_keeps_caption (cap : Sym) (q : Quantity) (v : Rat) (np : Bool) (k : Rat) (op : Op) :
    scalarNumCaption cap (.scalar q v) (.num np k) op = cap ∧
    (isDivision op = false → scalarNumCaption cap (.num np k) (.scalar q v) op = cap) := by
  constructor
  · cases op <;> rfl
  · intro h
    cases op <;> first | rfl | simp [isDivision] at h

/-- `k / x`, `k // x` build the reciprocal quantity from the dict: no caption -/
theorem num_div_scalar_caption (cap : Sym) (q : Quantity) (v : Rat) (np : Bool) (k : Rat) (op : Op)
    (h : isDivision op = true) : scalarNumCaption cap (.num np k) (.scalar q v) op = 0 := by
  cases op <;> first | rfl | simp [isDivision] at h

end Barril.Ops
