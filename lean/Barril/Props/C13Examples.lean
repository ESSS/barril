/- Non-vacuity examples of C13 (moved out of Props/C13.lean by tools/split_examples.py: they evaluate
concrete instances, many over the regenerated tables, and must not be able to stop the theorem module from
building).  Not property theorems: the check builds this module separately and only records the outcome. -/
import Barril.Props.C13
import Barril.Proofs.HeapEval
import Barril.Gen.Dbs

namespace Barril.Heap
open Barril

/-- `2 m + 3 cm`: `_MatchQuantities` rewrites the copied `[cm, 1]` list to `[m, 1]` in place; the operand
`3 cm` (pool member 1) still has its `[cm, 1]` list and its value, and the sum is `2.03 m` -/
example :
    let s := run exDb St.empty [.mkScalar 2 exM exLength, .mkScalar 3 exCm exLength, .arith .add (.obj 0) (.obj 1)]
    snap s 1 = some (.scalar ⟨[(exLength, exCm, 1)], 0, false, [(exLength, exCm, 1)]⟩ 3) ∧
    snap s 2 = some (.scalar ⟨[(exLength, exM, 1)], 0, false, [(exLength, exM, 1)]⟩ (203 / 100)) := by
  decide +kernel

/-- `FractionScalar(5 3/4 m).GetValue('cm')`: the numerator of a COPY of the fraction is written
(result `500 75/1`), the operand keeps `5 3/4` -/
example :
    let ops := [Op.mkFScalar 5 3 4 exM exLength, .getValue 0 (some exCm)]
    let s := run exDb St.empty ops
    snap s 0 = some (.fscalar ⟨[(exLength, exM, 1)], 0, false, [(exLength, exM, 1)]⟩ 1 5 0 (3 / 4)) ∧
    s.heap[4]? = some (.fv 500 5) ∧ s.heap[5]? = some (.frac 75) := by
  decide +kernel

/-- two Arrays over ONE list (the caller's container is kept by reference), arithmetic on them, a
`ChangingIndex` on a FixedArray: the shared container cell 0 is still `[1, 2]` -/
example :
    let ops := [Op.mkArray .list [1, 2] exM exLength, .mkArrayFrom 0 exCm exLength, .arith .mul (.obj 0) (.obj 1),
                .mkFixed 2 .list [1, 2] exM exLength, .changingIndex 3 (-1) (.num 7) true]
    let s := run exDb St.empty ops
    s.heap[0]? = some (.seq .list [1, 2]) ∧ s.objs[0]? = some (.array 0 0) ∧ s.objs[1]? = some (.array 1 0) ∧
    (snap s 4).isSome := by
  decide +kernel

/-- validation in a category WITH limits (0 ≤ x ≤ 100 m): `IsValid()` / `CheckValidity()` scan the unsorted
container `[3, 1, 2]` (valid) and `[300, 1] cm`, `[3, 200]` (the second one invalid), cache the verdict on the
object (the memo table) and leave container 0 exactly as it was; the second `CheckValidity()` answers from the
memo -/
example :
    let ops := [Op.mkArray .ndarray [3, 1, 2] exM exLim, .isValid 0, .checkValidity 0, .mkArray .list [3, 200] exM exLim,
                .isValid 1, .checkValidity 1, .checkValidity 1, .mkArray .tuple [300, 1] exCm exLim, .isValid 2]
    let s := run exDbLim St.empty ops
    let outs := outputs exDbLim St.empty ops
    s.heap[0]? = some (.seq .ndarray [3, 1, 2]) ∧ outIs outs[1]? (.bool true) ∧ outIs outs[2]? .unit ∧
    outIs outs[4]? (.bool false) ∧ outIs outs[5]? (.raised .value) ∧ outIs outs[6]? (.raised .value) ∧
    outIs outs[8]? (.bool true) ∧ s.valid = [(2, none), (1, some .value), (0, none)] := by
  decide +kernel

/-- the caller writes into the list it got from `GetValues('cm')`: that list is a new cell (2), the Array's
own container (cell 0) and a later `GetValues('cm')` (cell 3) are unaffected -/
example :
    let ops := [Op.mkArray .list [1, 2] exM exLength, .scribble 0 (some exCm) .clear, .getValue 0 (some exCm)]
    let s := run exDb St.empty ops
    s.heap[0]? = some (.seq .list [1, 2]) ∧ s.heap[2]? = some (.seq .list []) ∧
    s.heap[3]? = some (.seq .list [100, 200]) := by
  decide +kernel

/-- derived `m/s` Scalar: pickle, CreateCopy and copy are `==` to the original -/
example :
    let ops := [Op.mkScalar 2 exM exLength, .mkScalar 3 exS exTime, .arith .div (.obj 0) (.obj 1), .pickle 2,
                .eq 2 3, .createCopy 2 none none, .eq 2 4, .copy 2]
    let outs := outputs exDb St.empty ops
    outIs outs[4]? (.bool true) ∧ outIs outs[6]? (.bool true) ∧ outIs outs[7]? (.obj 2 false) := by
  decide +kernel

/-- empty quantity and unknown-caption quantity -/
example :
    let ops := [Op.mkEmptyScalar 2, .pickle 0, .eq 0 1, .mkCaptionScalar 3 exM exCap, .pickle 2, .eq 2 3,
                .createCopy 2 none none, .eq 2 4]
    let outs := outputs exDb St.empty ops
    outIs outs[2]? (.bool true) ∧ outIs outs[5]? (.bool true) ∧ outIs outs[7]? (.bool true) := by
  decide +kernel

/-- FixedArray over a tuple with a derived quantity (`m2`): pickle and CreateCopy -/
example :
    let ops := [Op.mkFixed 2 .tuple [1, 2] exM exLength, .arith .mul (.obj 0) (.obj 0), .pickle 1, .eq 1 2,
                .createCopy 1 none none, .eq 1 3]
    let outs := outputs exDb St.empty ops
    outIs outs[3]? (.bool true) ∧ outIs outs[5]? (.bool true) := by
  decide +kernel

/-- `x.ValidateValues(foreign values, foreign quantity)`: Array 0 (`[3, 1, 2] m`, category with limits) is asked
to validate the container of Array 1 in Array 1's quantity (passes), caches "valid" and is unchanged: container
cell 0, its quantity and its class are as before; `IsValid()` then answers from the memo -/
example :
    let ops := [Op.mkArray .ndarray [3, 1, 2] exM exLim, .mkArray .list [50, 60, 70, 80] exCm exLength,
                .validateWith 0 (.member 1) (some 1), .isValid 0, .validateWith 1 (.literal .tuple [500]) (some 0)]
    let s := run exDbLim St.empty ops
    let outs := outputs exDbLim St.empty ops
    s.heap[0]? = some (.seq .ndarray [3, 1, 2]) ∧ s.objs[0]? = some (.array 0 0) ∧ outIs outs[2]? .unit ∧
    outIs outs[3]? (.bool true) ∧ outIs outs[4]? (.raised .value) ∧ s.valid = [(1, some .value), (0, none)] := by
  decide +kernel

/-- the hypothesis `hz` of the full-strength pickle theorems (no category is named `''`) holds for the shipped POSC
table and for the example database -/
example : Barril.Gen.poscDb.catByName 0 = none := by decide +kernel
example : exDb.catByName 0 = none := by decide +kernel

/-- the hypotheses of `pickle_scalar_eq_reachable` / `pickle_fixedarray_eq_reachable` are met by real histories:
after building `2 m / 3 s` the pool member 2 has a snapshot on a DERIVED quantity and its pickle succeeds; the same
for a FixedArray on `m2`, for the empty quantity and for an unknown-unit caption -/
example :
    let s := run exDb St.empty [Op.mkScalar 2 exM exLength, .mkScalar 3 exS exTime, .arith .div (.obj 0) (.obj 1),
                                .mkFixed 2 .tuple [1, 2] exM exLength, .arith .mul (.obj 3) (.obj 3),
                                .mkEmptyScalar 2, .mkCaptionScalar 3 exM exCap]
    (snap s 2).isSome ∧ (exec exDb (.pickle 2) s).toOption.isSome ∧
    (snap s 4).isSome ∧ (exec exDb (.pickle 4) s).toOption.isSome ∧
    (snap s 5).isSome ∧ (exec exDb (.pickle 5) s).toOption.isSome ∧
    (snap s 6).isSome ∧ (exec exDb (.pickle 6) s).toOption.isSome := by
  decide +kernel

/-- `x ** 3` (Scalar.__pow__): two `Multiply` steps on copies (`8 m3`), `x` still `2 m`; `x ** 1` and `x ** 0` ARE
`x` (no new pool member); an Array has no `__pow__` -/
example :
    let ops := [Op.mkScalar 2 exM exLength, .pow 0 3, .pow 0 1, .pow 0 0, .mkArray .list [1, 2] exM exLength, .pow 2 2]
    let s := run exDb St.empty ops
    let outs := outputs exDb St.empty ops
    snap s 0 = some (.scalar ⟨[(exLength, exM, 1)], 0, false, [(exLength, exM, 1)]⟩ 2) ∧
    snap s 1 = some (.scalar ⟨[(exLength, exM, 3)], 0, true, [(exLength, exM, 3)]⟩ 8) ∧
    outIs outs[2]? (.obj 0 false) ∧ outIs outs[3]? (.obj 0 false) ∧ errIs outs[5]? .type ∧ s.objs.length = 3 := by
  decide +kernel

end Barril.Heap
