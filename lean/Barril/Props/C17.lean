/-
C17 — the unit-system manager is a registry with exactly one current system.

Model: `Barril/Model/Mgr.lean` (`UnitSystemManager` + `UnitSystem` as the state machine `step` with the
callback log of every call).  Helper lemmas: `Barril/Proofs/MgrLemmas.lean`.

Reading guide (property text → theorem):
* "after any sequence of … : ids are unique" and each system is registered under its own id, exactly
  the current system is listened to → `MgrWf`, `step_preserves_MgrWf`, `run_preserves_MgrWf`,
  `reachable_MgrWf`, `reachable_ids_unique` (ALL histories, invalid calls included);
* "the current system is a registered system or the null system" → `MgrInv`;
  `step_preserves_MgrInv_partial` / `run_preserves_MgrInv_partial` (every `SetCurrent` argument is
  `None` or registered) — the unrestricted statement is FALSE for the code as it is
  (`setCurrent_unregistered_counterexample`, known finding C17-setcurrent-unregistered);
* "a system added while none is current becomes current" → `add_first_becomes_current`,
  `add_keeps_current`;  "removing the current one selects another or none" →
  `remove_current_selects_next_or_none`, `remove_other_keeps_current`;
* "a system is accepted only if it covers the template's categories" → `add_accepted_iff`,
  `template_accepted_iff` (acceptance-time conditions, not invariants), `template_accepted_effect`,
  `remove_accepted_iff`;
* "listeners are notified exactly for …" → `notify_exact` (+ `current_change_is_notified`);
* "ConvertToCurrent returns …" → `convertToCurrent_spec`, `currentDefault_reads_current`;  "a rejected call changes nothing" →
  `rejected_step_id`;  `GetNewId` → `getNewId_fresh`;
* one system's default units never leak into another → `setDefaultUnit_frame`,
  `removeCategory_effect`, `removeCategory_absent`; mappings stay proper dicts → `DictsWf`,
  `step_preserves_DictsWf`, `reachable_DictsWf`;
* value objects (`Register`, `UpdateObjects`, `_IdentityWrap`): "registered objects are updated exactly when
  (and to what) the callbacks fire" → `objects_follow_on_current` (`specUnit` says to what);
  `register_spec`, `registerAgain_spec`, `updateObjects_spec`, `kill_spec`; what the code does on a
  default-unit change → `default_unit_change_keeps_objects`, `updateObjects_propagates_default`,
  `updateObjects_after_setCurrent_id`; "an object that died is dropped" → `ObjsWf`,
  `step_preserves_ObjsWf`, `reachable_ObjsWf`, `dead_object_is_never_touched`,
  `run_dead_object_is_never_touched`;
* observers and `ResetInstance` → `resetInstance_spec`, `seen_exact`, `seen_all_of_observed`,
  `seen_nil_of_unobserved`, `observers_frame`, `reset_silences`;
* `SetCaption` / `SetReadOnly` → `setCaption_frame`, `setReadOnly_frame`, `readOnly_is_not_enforced`;
* the module's error classes → `template_rejected_names_a_system` (+ `add_rejected_is_key_error`).
  `UnitSystemManager.__init__` takes no arguments in this code base: `Mgr.init` is the only construction.
-/
import Barril.Proofs.MgrLemmas

namespace Barril.Mgr

/-! ### the invariant, for every history -/

/-- every call — accepted or rejected, valid or not — keeps the manager well-formed: ids unique,
every system registered under its own id, `_current` an existing object, and the manager listening
to exactly the current system -/
theorem step_preserves_MgrWf (db : Db) {m : Mgr} (hw : MgrWf m) (op : Op) : MgrWf (step db m op).mgr := by
  rcases step_shape db m op with hq | ha | hs
  · rw [(step_query db m hq).1]; exact hw
  · exact step_aux_wf db hw ha
  · exact hs.wf hw

theorem run_preserves_MgrWf (db : Db) (ops : List Op) {m : Mgr} (hw : MgrWf m) : MgrWf (run db m ops) := by
  induction ops generalizing m with
  | nil => exact hw
  | cons op ops ih => exact ih (step_preserves_MgrWf db hw op)

theorem reachable_MgrWf (db : Db) (ops : List Op) : MgrWf (run db Mgr.init ops) :=
  run_preserves_MgrWf db ops init_wf

theorem reachable_ids_unique (db : Db) (ops : List Op) : ((run db Mgr.init ops).reg.map (·.1)).Nodup :=
  (reachable_MgrWf db ops).ids_nodup

/-
Full statement (FALSE for the code as it is, see `setCurrent_unregistered_counterexample`):
  theorem step_preserves_MgrInv (db : Db) {m : Mgr} (h : MgrInv m) (op : Op) : MgrInv (step db m op).mgr
Missing: `SetCurrent(system)` does not check that `system` is registered.  Proved: the same for every
call except a `SetCurrent` whose argument is an unregistered system.
Unlike the other invariants this one does not follow from the shape of a call (`step_shape`): it depends on WHICH
system a call selects or unregisters, so the six structural calls are taken one by one.
-/
theorem step_preserves_MgrInv_partial (db : Db) {m : Mgr} (h : MgrInv m) (op : Op) (hg : op.guarded m) :
    MgrInv (step db m op).mgr := by
  refine ⟨step_preserves_MgrWf db h.wf op, ?_⟩
  have hcr := h.cur_reg
  induction op using Op.byKind with
  | setTemplate mp =>
    simp only [step, setTemplate]
    split <;> exact hcr
  | add id cap mp ro =>
    simp only [step, addUnitSystem]
    split
    · exact hcr
    · split
      · exact hcr
      · split
        · intro c hc
          rw [setCurrent_cur] at hc
          cases hc
          exact ⟨id, by rw [setCurrent_reg]; simp [Mgr.register]⟩
        · intro c hc
          obtain ⟨id', hm⟩ := hcr c hc
          exact ⟨id', by simp [Mgr.register, hm]⟩
  | remove id =>
    simp only [step, removeUnitSystem]
    split
    · exact hcr
    · split
      · intro c hc
        rw [setCurrent_cur] at hc
        rw [setCurrent_reg]
        exact nextCurrent_mem hc
      · rename_i hne
        intro c hc
        obtain ⟨id', hm⟩ := hcr c hc
        refine ⟨id', mem_regErase.mpr ⟨hm, ?_⟩⟩
        intro e
        subst e
        apply hne
        obtain ⟨o, ho, hoid⟩ := h.wf.reg_own id' c hm
        have hc' : m.cur = some c := hc
        simp [Mgr.currentId, hc', ho, hoid]
  | setCurrent a =>
    cases a with
    | none =>
      intro c hc
      cases (setCurrent_cur m none).symm.trans hc
    | some a =>
      simp only [step]
      split
      · intro c hc
        cases (setCurrent_cur m (some a)).symm.trans hc
        rw [setCurrent_reg]
        exact hg
      · exact hcr
  | setDefaultUnit a c u =>
    simp only [step, setDefaultUnit]
    split <;> exact hcr
  | removeCategory a c =>
    simp only [step, removeCategory]
    (repeat' split) <;> exact hcr
  | query op hq => rw [(step_query db m hq).1]; exact hcr
  | aux op ha => exact curRegistered_of_eq (step_aux_cur db m ha) (step_aux_reg db m ha) hcr

/-- a history in which every `SetCurrent` argument is `None` or a system registered at that moment -/
def Guarded (db : Db) : Mgr → List Op → Prop
  | _, [] => True
  | m, op :: ops => op.guarded m ∧ Guarded db (step db m op).mgr ops

/-- the invariant of the property text holds after every such history, of any length -/
theorem run_preserves_MgrInv_partial (db : Db) (ops : List Op) {m : Mgr} (h : MgrInv m) (hg : Guarded db m ops) :
    MgrInv (run db m ops) := by
  induction ops generalizing m with
  | nil => exact h
  | cons op ops ih => exact ih (step_preserves_MgrInv_partial db h op hg.1) hg.2

/-- the witness of the known finding: add "a"; remove "a"; SetCurrent(the removed object) — the
current system is then neither registered nor none -/
theorem setCurrent_unregistered_counterexample (db : Db) :
    ¬ CurRegistered (run db Mgr.init [.add 97 65 none false, .remove 97, .setCurrent (some 1)]) := by
  intro h
  obtain ⟨id, hm⟩ := h 1 rfl
  have : (run db Mgr.init [.add 97 65 none false, .remove 97, .setCurrent (some 1)]).reg = [] := rfl
  rw [this] at hm
  cases hm

/-! ### a rejected call changes nothing -/

/-- whatever the call and the state: an error leaves the manager, every unit system, the template
and the listeners exactly as they were, and notifies nobody -/
theorem rejected_step_id (db : Db) (m : Mgr) (op : Op) {e : ErrKind} (h : (step db m op).out = .error e) :
    (step db m op).mgr = m ∧ (step db m op).log = [] := by
  rcases step_shape db m op with hq | ha | hs
  · exact step_query db m hq
  · exact ⟨step_aux_rejected db m ha h, step_aux_log db m ha⟩
  · exact hs.rejected h

/-! ### acceptance decisions -/

/-- `AddUnitSystem(id, caption, mapping, read_only)` is accepted exactly when the id is unused and —
if a template is set and a mapping is given — the mapping covers the template's categories -/
theorem add_accepted_iff (db : Db) (m : Mgr) (id cap : Sym) (mp : Option (List (Sym × Sym))) (ro : Bool) :
    (∃ o, (step db m (.add id cap mp ro)).out = .ok o) ↔
      id ∉ m.reg.map (·.1) ∧
      (∀ t d, m.tmpl = some t → mp = some d → ∀ k ∈ dkeys t.mapping, k ∈ dkeys d) := by
  simp only [step, addUnitSystem_out]
  rw [← resolveMapping_ok_iff, ← regHas_false_iff]
  by_cases h1 : regHas m.reg id = true
  · simp [h1]
  · have h1' : regHas m.reg id = false := by simpa using h1
    simp only [h1', Bool.false_eq_true, ↓reduceIte, true_and]
    cases resolveMapping m.tmpl mp with
    | error e => simp
    | ok d => simp

/-- a rejected `AddUnitSystem` raises a `KeyError` (`UnitSystemIDError` / `UnitSystemCategoriesError`) -/
theorem add_rejected_is_key_error (db : Db) (m : Mgr) (id cap : Sym) (mp : Option (List (Sym × Sym))) (ro : Bool)
    {e : ErrKind} (h : (step db m (.add id cap mp ro)).out = .error e) : e = .key := by
  simp only [step, addUnitSystem_out] at h
  split at h
  · cases h; rfl
  · split at h
    · rename_i e' he
      cases h
      exact resolveMapping_error_kind he
    · cases h

/-- `SetTemplateUnitSystemByUnitsMapping(mapping)` is accepted exactly when every registered system
covers the mapping's categories (an acceptance-time condition: a later `RemoveCategory` may
legitimately break the covering, so it is not part of `MgrInv`) -/
theorem template_accepted_iff (db : Db) (m : Mgr) (mp : List (Sym × Sym)) :
    (∃ o, (step db m (.setTemplate mp)).out = .ok o) ↔
      ∀ id a o, (id, a) ∈ m.reg → m.heap[a]? = some o → ∀ k ∈ dkeys mp, k ∈ dkeys o.mapping := by
  simp only [step, setTemplate]
  have key : (invalidSystems m (dkeys mp)).isEmpty = true ↔
      ∀ id a o, (id, a) ∈ m.reg → m.heap[a]? = some o → ∀ k ∈ dkeys mp, k ∈ dkeys o.mapping := by
    unfold invalidSystems
    rw [List.isEmpty_iff, List.filterMap_eq_nil_iff]
    constructor
    · intro h id a o hm ho
      have := h (id, a) hm
      simp only [ho] at this
      by_cases hc : covers o.mapping (dkeys mp) = true
      · exact (covers_iff _ _).mp hc
      · simp [hc] at this
    · intro h p hp
      cases ho : m.heap[p.2]? with
      | none => rfl
      | some o =>
        have := (covers_iff _ _).mpr (h p.1 p.2 o hp ho)
        simp [this]
  rw [← key]
  by_cases hc : (invalidSystems m (dkeys mp)).isEmpty = true
  · simp [hc]
  · simp [hc, Res.reject]

/-- when it is accepted, the template becomes a read-only COPY of the given mapping and nothing else
changes -/
theorem template_accepted_effect (db : Db) (m : Mgr) (mp : List (Sym × Sym)) {o : Out}
    (h : (step db m (.setTemplate mp)).out = .ok o) :
    (step db m (.setTemplate mp)).mgr =
      { m with tmpl := some ⟨some symTemplate, symTemplateCaption, dofList mp, true, false⟩ } := by
  simp only [step, setTemplate] at h ⊢
  split
  · rfl
  · rename_i hc; simp [hc, Res.reject] at h

/-- `RemoveUnitSystem(id)` is accepted exactly when `id` is registered (otherwise `KeyError`) -/
theorem remove_accepted_iff (db : Db) (m : Mgr) (id : Sym) :
    (step db m (.remove id)).out = .ok .none ↔ id ∈ m.reg.map (·.1) := by
  simp only [step, removeUnitSystem_out]
  rw [← regHas_iff]
  by_cases h : regHas m.reg id = true <;> simp [h]

/-! ### which system is current -/

/-- **a system added while none is current becomes current**: the new object is returned, registered
under its id (and nothing else in the registry changes), it is the current system, the manager
listens to it, and `on_current` fires once with it -/
theorem add_first_becomes_current (db : Db) {m : Mgr} (hw : MgrWf m) (hc : m.cur = none) {id cap : Sym}
    {mp : Option (List (Sym × Sym))} {ro : Bool} {o : Out} (h : (step db m (.add id cap mp ro)).out = .ok o) :
    o = .sys m.heap.length ∧
    (step db m (.add id cap mp ro)).mgr.cur = some m.heap.length ∧
    (step db m (.add id cap mp ro)).mgr.reg = m.reg ++ [(id, m.heap.length)] ∧
    (step db m (.add id cap mp ro)).log = [.current m.heap.length] ∧
    ∃ s, (step db m (.add id cap mp ro)).mgr.heap[m.heap.length]? = some s ∧ s.id = some id ∧ s.listening = true := by
  have hacc := (add_accepted_iff db m id cap mp ro).mp ⟨o, h⟩
  have h1 : regHas m.reg id = false := (regHas_false_iff _ _).mpr hacc.1
  obtain ⟨d, h2⟩ := (resolveMapping_ok_iff m.tmpl mp).mpr hacc.2
  simp only [step] at h ⊢
  rw [addUnitSystem_accepted h1 h2] at h ⊢
  simp only [hc] at h ⊢
  have hwr := register_wf hw hacc.1 cap d ro
  refine ⟨by cases h; rfl, setCurrent_cur _ _, by rw [setCurrent_reg]; rfl, setCurrent_log_addr _ _, ?_⟩
  refine ⟨{ USys.new (some id) cap d ro with listening := true }, ?_, rfl, rfl⟩
  rw [getElem?_setCurrent hwr]
  simp [Mgr.register]

/-- an accepted `AddUnitSystem` while some system is current leaves the current system alone and
notifies nobody -/
theorem add_keeps_current (db : Db) {m : Mgr} {c : Nat} (hc : m.cur = some c) {id cap : Sym}
    {mp : Option (List (Sym × Sym))} {ro : Bool} {o : Out} (h : (step db m (.add id cap mp ro)).out = .ok o) :
    o = .sys m.heap.length ∧
    (step db m (.add id cap mp ro)).mgr.cur = some c ∧
    (step db m (.add id cap mp ro)).mgr.reg = m.reg ++ [(id, m.heap.length)] ∧
    (step db m (.add id cap mp ro)).log = [] := by
  have hacc := (add_accepted_iff db m id cap mp ro).mp ⟨o, h⟩
  have h1 : regHas m.reg id = false := (regHas_false_iff _ _).mpr hacc.1
  obtain ⟨d, h2⟩ := (resolveMapping_ok_iff m.tmpl mp).mpr hacc.2
  simp only [step] at h ⊢
  rw [addUnitSystem_accepted h1 h2] at h ⊢
  simp only [hc] at h ⊢
  refine ⟨by cases h; rfl, ?_⟩
  simp [Mgr.register, hc]

/-- **removing the current system selects another or none**: the first system left in the registry,
or none when the registry became empty; `on_current` fires once with it (the null system, address 0,
when none); the selected system is still registered, under another id -/
theorem remove_current_selects_next_or_none (db : Db) {m : Mgr} (hw : MgrWf m) {id : Sym} {c : Nat}
    (hc : m.cur = some c) (hreg : (id, c) ∈ m.reg) :
    (step db m (.remove id)).out = .ok .none ∧
    (step db m (.remove id)).mgr.reg = regErase m.reg id ∧
    (step db m (.remove id)).mgr.cur = nextCurrent (regErase m.reg id) ∧
    (step db m (.remove id)).log = [.current (step db m (.remove id)).mgr.currentAddr] ∧
    (∀ a, (step db m (.remove id)).mgr.cur = some a →
      ∃ id', id' ≠ id ∧ (id', a) ∈ (step db m (.remove id)).mgr.reg) := by
  have hin : id ∈ m.reg.map (·.1) := List.mem_map.mpr ⟨(id, c), hreg, rfl⟩
  have hout := (remove_accepted_iff db m id).mpr hin
  have h1 : regHas m.reg id = true := (regHas_iff _ _).mpr hin
  have hcid : m.currentId = some id := (currentId_eq_iff hw hc ⟨id, hreg⟩).mpr hreg
  refine ⟨hout, ?_⟩
  simp only [step, removeUnitSystem, h1, hc, hcid, Bool.not_true, Bool.false_eq_true, ↓reduceIte, Option.isSome_some,
    beq_self_eq_true, Bool.and_self]
  refine ⟨by rw [setCurrent_reg]; rfl, by rw [setCurrent_cur]; rfl, ?_, ?_⟩
  · exact setCurrent_log_addr _ _
  · intro a ha
    rw [setCurrent_cur] at ha
    obtain ⟨id', hm⟩ := nextCurrent_mem ha
    rw [setCurrent_reg]
    exact ⟨id', (mem_regErase.mp hm).2, hm⟩

/-- removing a system that is not the current one leaves the current system alone and notifies nobody -/
theorem remove_other_keeps_current (db : Db) {m : Mgr} (h : MgrInv m) {id : Sym}
    (hin : id ∈ m.reg.map (·.1)) (hne : ∀ c, m.cur = some c → (id, c) ∉ m.reg) :
    (step db m (.remove id)).mgr = m.unregister id ∧ (step db m (.remove id)).log = [] := by
  have h1 : regHas m.reg id = true := (regHas_iff _ _).mpr hin
  have hcid : ¬ (m.cur.isSome && m.currentId == some id) = true := by
    intro hb
    simp only [Bool.and_eq_true, beq_iff_eq] at hb
    cases hc : m.cur with
    | none => rw [hc] at hb; simp at hb
    | some c => exact hne c hc ((currentId_eq_iff h.wf hc (h.cur_reg c hc)).mp hb.2)
  simp only [step, removeUnitSystem, h1, Bool.not_true, Bool.false_eq_true, ↓reduceIte, hcid]
  simp

/-! ### notifications -/

/-- **listeners are notified exactly for what the property text prescribes**: the callbacks invoked during a call
are `specLog` of the call when it is accepted, and none when it is rejected -/
theorem notify_exact (db : Db) {m : Mgr} (hw : MgrWf m) (op : Op) :
    (step db m op).log =
      match (step db m op).out with
      | .ok _ => specLog m (step db m op).mgr op
      | .error _ => [] := by
  induction op using Op.byKind with
  | setTemplate mp =>
    simp only [step, setTemplate]
    split <;> rfl
  | add id cap mp ro =>
    simp only [step, addUnitSystem, specLog]
    split
    · rfl
    · split
      · rfl
      · split
        · rename_i hc
          simp only [hc, ↓reduceIte]
          exact setCurrent_log_addr _ _
        · rename_i c hc
          simp [hc]
  | remove id =>
    simp only [step, removeUnitSystem, specLog]
    split
    · rfl
    · split
      · rename_i hc
        rw [Bool.and_eq_true, beq_iff_eq] at hc
        simp only [hc.2, ↓reduceIte]
        exact setCurrent_log_addr _ _
      · rename_i hc
        have hcid : ¬ m.currentId = some id := fun h =>
          hc (by rw [Bool.and_eq_true, beq_iff_eq]; exact ⟨currentId_some_cur h, h⟩)
        simp only [hcid, ↓reduceIte]
  | setCurrent a =>
    cases a with
    | none => exact setCurrent_log_addr _ _
    | some a =>
      simp only [step]
      split
      · exact setCurrent_log_addr _ _
      · rfl
  | setDefaultUnit a c u =>
    simp only [step, setDefaultUnit]
    split
    · rfl
    · rename_i o ho
      exact fire_of_wf hw ho c _
  | removeCategory a c =>
    simp only [step, removeCategory]
    split
    · rfl
    · rename_i o ho
      split
      · rename_i hd
        simp only [specLog, hasCategory, ho, hd, and_true]
        exact fire_of_wf hw ho c _
      · rename_i hd
        simp [specLog, Res.answer, hasCategory, ho, hd]
  | query op hq => rw [(step_query db m hq).2, specLog_nil (.inl hq)]; split <;> rfl
  | aux op ha => rw [step_aux_log db m ha, specLog_nil (.inr ha)]; split <;> rfl

/-- **every change of the current system is notified**: whenever a call leaves `_current` different
from what it was, `on_current` fired exactly once, with the system `GetCurrent()` now returns, and
nothing else was notified -/
theorem current_change_is_notified (db : Db) {m : Mgr} (hw : MgrWf m) (op : Op)
    (hne : (step db m op).mgr.cur ≠ m.cur) :
    (step db m op).log = [.current (step db m op).mgr.currentAddr] := by
  rcases step_shape db m op with hq | ha | hs
  · exact absurd (by rw [(step_query db m hq).1]) hne
  · exact absurd (step_aux_cur db m ha) hne
  · exact hs.notified hne

/-! ### default units, `ConvertToCurrent`, `GetNewId` -/

/-- `system.SetDefaultUnit(category, unit)` changes that one system and no other object (no two
systems share a mapping), keeps registry, current system and template, and makes `unit` the default
of `category` while every other category keeps its default -/
theorem setDefaultUnit_frame (db : Db) {m : Mgr} {a : Nat} {o : USys} (ho : m.heap[a]? = some o) (c u : Sym) :
    (step db m (.setDefaultUnit a c u)).out = .ok .none ∧
    (step db m (.setDefaultUnit a c u)).mgr.heap[a]? = some { o with mapping := dset o.mapping c u } ∧
    (∀ b, b ≠ a → (step db m (.setDefaultUnit a c u)).mgr.heap[b]? = m.heap[b]?) ∧
    (step db m (.setDefaultUnit a c u)).mgr.reg = m.reg ∧
    (step db m (.setDefaultUnit a c u)).mgr.cur = m.cur ∧
    (step db m (.setDefaultUnit a c u)).mgr.tmpl = m.tmpl ∧
    dget (dset o.mapping c u) c = some u ∧
    (∀ c2, c2 ≠ c → dget (dset o.mapping c u) c2 = dget o.mapping c2) := by
  have halt : a < m.heap.length := (List.getElem?_eq_some_iff.mp ho).1
  have hstep : step db m (.setDefaultUnit a c u) =
      ⟨{ m with heap := m.heap.set a { o with mapping := dset o.mapping c u } }, .ok .none, o.fire c (some u)⟩ := by
    simp only [step, setDefaultUnit, ho]
  rw [hstep]
  refine ⟨rfl, ?_, ?_, rfl, rfl, rfl, dget_dset_self _ _ _, fun c2 h => dget_dset_ne _ _ h⟩
  · simp [halt]
  · intro b hb
    have : ¬ a = b := fun e => hb e.symm
    simp [this]

/-- **ConvertToCurrent returns the amount re-expressed in the current default unit of the category,
or the input unchanged when there is none**; it never changes anything.  `db.convert` is the model of
`UnitDatabase.Convert` (C01/C02 say what it computes); the default is read from the object
`GetCurrent()` returns (`currentDefault_reads_current`). -/
theorem convertToCurrent_spec (db : Db) (m : Mgr) (c u : Sym) (x : Rat) :
    (step db m (.convertToCurrent c u x)).mgr = m ∧
    (step db m (.convertToCurrent c u x)).log = [] ∧
    (step db m (.convertToCurrent c u x)).out =
      match m.currentDefault c with
      | none => .ok (.value x u)
      | some t =>
        match db.convert c u t x with
        | .ok y => .ok (.value y t)
        | .error e => .error e := by
  refine ⟨(step_query db m (op := .convertToCurrent c u x) rfl).1,
    (step_query db m (op := .convertToCurrent c u x) rfl).2, ?_⟩
  simp only [step, convertToCurrent]
  cases m.currentDefault c with
  | none => rfl
  | some t => simp only; cases db.convert c u t x <;> rfl

/-- in a well-formed state the default unit is looked up in the mapping of the current system — the
null system (address 0, id `None`) when none is current — and a falsy category has none -/
theorem currentDefault_reads_current {m : Mgr} (hw : MgrWf m) (c : Sym) :
    ∃ o, m.heap[m.currentAddr]? = some o ∧ (m.cur = none → m.currentAddr = 0 ∧ o.id = none) ∧
      m.currentDefault c = if c = 0 then none else dget o.mapping c := by
  have hex : ∃ o, m.heap[m.currentAddr]? = some o := by
    cases hc : m.cur with
    | none =>
      obtain ⟨o, ho, _⟩ := hw.null
      exact ⟨o, by simp [Mgr.currentAddr, hc, ho]⟩
    | some a =>
      have := hw.cur_valid a hc
      exact ⟨m.heap[a], by simp [Mgr.currentAddr, hc, this]⟩
  obtain ⟨o, ho⟩ := hex
  refine ⟨o, ho, ?_, ?_⟩
  · intro hc
    obtain ⟨o0, ho0, hid0⟩ := hw.null
    have h0 : m.currentAddr = 0 := by simp [Mgr.currentAddr, hc]
    rw [h0, ho0] at ho
    cases ho
    exact ⟨h0, hid0⟩
  · simp only [Mgr.currentDefault, ho, USys.getDefaultUnit]
    by_cases h : c = 0 <;> simp [h]

/-- **`GetNewId` always returns an id that is not in use** — the first `"system N"`, N = 1, 2, …,
that is free — and changes nothing (the loop ends within `len(ids) + 1` candidates: pigeonhole over
the pairwise distinct candidates) -/
theorem getNewId_fresh (db : Db) (m : Mgr) :
    ∃ s n, (step db m .getNewId).out = .ok (.newId s) ∧ s ∉ m.reg.map (·.1) ∧
      1 ≤ n ∧ s = newIdCandidate n ∧ (∀ k, 1 ≤ k → k < n → newIdCandidate k ∈ m.reg.map (·.1)) ∧
      (step db m .getNewId).mgr = m ∧ (step db m .getNewId).log = [] := by
  obtain ⟨s, hs⟩ : ∃ s, getNewId m = some s := by
    unfold getNewId
    have := findNewId_total 1 (m.reg.map (·.1))
    simpa using this
  obtain ⟨hfresh, n, hn, hsn, hall⟩ := findNewId_some (by unfold getNewId at hs; exact hs)
  refine ⟨s, n, ?_, hfresh, hn, hsn, hall, (step_query db m (op := .getNewId) rfl).1,
    (step_query db m (op := .getNewId) rfl).2⟩
  simp [step, hs, Res.answer]

/-! ### unit systems are proper dicts; `RemoveCategory` -/

/-- every call keeps every unit system's mapping (and the template's) a proper dict: no category
occurs twice, whatever mappings the callers pass in -/
theorem step_preserves_DictsWf (db : Db) {m : Mgr} (hd : DictsWf m) (op : Op) : DictsWf (step db m op).mgr := by
  rcases step_shape db m op with hq | ha | hs
  · rw [(step_query db m hq).1]; exact hd
  · exact step_aux_dictsWf db hd ha
  · exact hs.dictsWf hd

theorem reachable_DictsWf (db : Db) (ops : List Op) : DictsWf (run db Mgr.init ops) := by
  have : ∀ (ops : List Op) (m : Mgr), DictsWf m → DictsWf (run db m ops) := by
    intro ops
    induction ops with
    | nil => intro m h; exact h
    | cons op ops ih => intro m h; exact ih _ (step_preserves_DictsWf db h op)
  exact this ops _ init_dictsWf

/-- `system.RemoveCategory(category)` for a category the system has: afterwards the system has no
default unit for it, every other category keeps its default, and no other object changes -/
theorem removeCategory_effect (db : Db) {m : Mgr} (hd : DictsWf m) {a : Nat} {o : USys}
    (ho : m.heap[a]? = some o) {c : Sym} (hc : c ∈ dkeys o.mapping) :
    ∃ o', (step db m (.removeCategory a c)).mgr.heap[a]? = some o' ∧
      o'.getDefaultUnit c = none ∧
      (∀ c2, c2 ≠ c → o'.getDefaultUnit c2 = o.getDefaultUnit c2) ∧
      (∀ b, b ≠ a → (step db m (.removeCategory a c)).mgr.heap[b]? = m.heap[b]?) := by
  have halt : a < m.heap.length := (List.getElem?_eq_some_iff.mp ho).1
  have hh : dhas o.mapping c = true := (dhas_iff _ _).mpr hc
  have hstep : step db m (.removeCategory a c) =
      ⟨{ m with heap := m.heap.set a { o with mapping := derase o.mapping c } }, .ok .none, o.fire c none⟩ := by
    simp only [step, removeCategory, ho, hh, ↓reduceIte]
  rw [hstep]
  refine ⟨{ o with mapping := derase o.mapping c }, by simp [halt], ?_, ?_, ?_⟩
  · simp only [USys.getDefaultUnit]
    split
    · rfl
    · exact dget_derase_self (hd.heap a o ho) c
  · intro c2 h2
    simp only [USys.getDefaultUnit]
    split
    · rfl
    · exact dget_derase_ne _ h2
  · intro b hb
    have : ¬ a = b := fun e => hb e.symm
    simp [this]

/-- `RemoveCategory` of a category the system does not have does nothing (the `KeyError` is swallowed) -/
theorem removeCategory_absent (db : Db) {m : Mgr} {a : Nat} {o : USys} (ho : m.heap[a]? = some o) {c : Sym}
    (hc : c ∉ dkeys o.mapping) :
    (step db m (.removeCategory a c)).mgr = m ∧ (step db m (.removeCategory a c)).log = [] ∧
    (step db m (.removeCategory a c)).out = .ok .none := by
  have hh : dhas o.mapping c = false := by
    cases h : dhas o.mapping c with
    | false => rfl
    | true => exact absurd ((dhas_iff _ _).mp h) hc
  have hstep : step db m (.removeCategory a c) = Res.answer m .none := by
    simp only [step, removeCategory, ho, hh, Bool.false_eq_true, ↓reduceIte]
  rw [hstep]
  exact ⟨rfl, rfl, rfl⟩

/-! ### value objects registered with the manager (`Register`, `UpdateObjects`, weak references) -/

/-- every call keeps `_object_refs` clean: a live registered object has at least one wrap, an object
that died has none left (its `_OnRefKilled` callbacks removed them all) -/
theorem step_preserves_ObjsWf (db : Db) {m : Mgr} (h : ObjsWf m) (op : Op) : ObjsWf (step db m op).mgr := by
  rcases step_shape db m op with hq | ha | hs
  · rw [(step_query db m hq).1]; exact h
  · exact step_aux_objsWf db h ha
  · exact hs.objsWf h

/-- after ANY history from a fresh manager no wrap of a dead object is left -/
theorem reachable_ObjsWf (db : Db) (ops : List Op) : ObjsWf (run db Mgr.init ops) := by
  have : ∀ (ops : List Op) (m : Mgr), ObjsWf m → ObjsWf (run db m ops) := by
    intro ops
    induction ops with
    | nil => intro m h; exact h
    | cons op ops ih => intro m h; exact ih _ (step_preserves_ObjsWf db h op)
  exact this ops _ init_objsWf

/-- **registered objects are updated exactly when `on_current` fires, and to what the new current system
says**: for every call that is not itself about a value object — accepted or rejected — the objects
afterwards are the objects before, each brought to the NEW current system if `on_current` was invoked
during the call (nothing changes when that is the null system), and untouched otherwise.  In particular
an `on_unit_changed` notification (`SetDefaultUnit` / `RemoveCategory` on the current system) does NOT
reach the objects: the code calls `UpdateObjects` from `SetCurrent` only. -/
theorem objects_follow_on_current (db : Db) {m : Mgr} (hw : MgrWf m) (op : Op) (hop : op.isObjectOp = false) :
    (step db m op).mgr.objs =
      if (step db m op).log.any Event.isCurrent then
        m.objs.map (fun o => { o with unit := specUnit (step db m op).mgr o })
      else m.objs := by
  rcases step_shape db m op with hq | ha | hs
  · exact follow_of_silent (by rw [(step_query db m hq).1]) (by rw [(step_query db m hq).2]; rfl)
  · exact follow_of_silent (step_aux_objs db m ha hop) (by rw [step_aux_log db m ha]; rfl)
  · exact hs.follow (step_preserves_MgrWf db hw op)

/-- `Register(obj)` with an object the manager has not seen: it is remembered (one wrap) and brought to
the current system at once; nothing else changes and no callback is invoked -/
theorem register_spec (db : Db) {m : Mgr} (hw : MgrWf m) (c u : Sym) :
    step db m (.register c u) =
      ⟨{ m with objs := m.objs ++ [{ cat := c, unit := specUnit m ⟨c, u, 1, true⟩, wraps := 1, alive := true }] },
       .ok .none, []⟩ := by
  simp only [step, registerNew, refresh_curSys_spec hw]

/-- `Register(obj)` of a live object again: one MORE wrap (the wraps are never merged), the object is
brought to the current system, nothing else changes -/
theorem registerAgain_spec (db : Db) {m : Mgr} (hw : MgrWf m) {i : Nat} {o : VObj} (ho : m.objs[i]? = some o)
    (ha : o.alive = true) :
    step db m (.registerAgain i) =
      ⟨{ m with objs := m.objs.set i { o with unit := specUnit m o, wraps := o.wraps + 1 } }, .ok .none, []⟩ := by
  have hsp : specUnit m { cat := o.cat, unit := o.unit, wraps := o.wraps + 1, alive := true } = specUnit m o := by
    simp [specUnit, ha]
  simp only [step, registerAgain, ho, ha, ↓reduceIte, refresh_curSys_spec hw, hsp]

/-- a direct `UpdateObjects()` brings every object to the current system and does nothing else -/
theorem updateObjects_spec (db : Db) {m : Mgr} (hw : MgrWf m) :
    step db m .updateObjects =
      ⟨{ m with objs := m.objs.map (fun o => { o with unit := specUnit m o }) }, .ok .none, []⟩ := by
  have hfun : (fun o => ({ o with unit := specUnit m o } : VObj)) = VObj.refresh m.curSys := by
    funext o; exact (refresh_curSys_spec hw o).symm
  rw [hfun]
  rfl

/-- when the caller drops an object, all its wraps leave `_object_refs` and nothing else changes -/
theorem kill_spec (db : Db) {m : Mgr} {i : Nat} {o : VObj} (ho : m.objs[i]? = some o) :
    step db m (.kill i) = ⟨{ m with objs := m.objs.set i { o with wraps := 0, alive := false } }, .ok .none, []⟩ := by
  simp only [step, killObj, ho]

/-- **an object that died is dropped**: no call whatsoever changes anything about it afterwards -/
theorem dead_object_is_never_touched (db : Db) {m : Mgr} (hw : MgrWf m) (hobj : ObjsWf m) (op : Op) {i : Nat}
    {o : VObj} (hi : m.objs[i]? = some o) (hd : o.alive = false) : (step db m op).mgr.objs[i]? = some o := by
  have hrefresh : ∀ s, VObj.refresh s o = o := by
    intro s
    cases s with
    | none => rfl
    | some s => simp [VObj.refresh, VObj.update, hd]
  have hilt : i < m.objs.length := (List.getElem?_eq_some_iff.mp hi).1
  -- a call that rewrites the live object `j` leaves the dead object `i` alone
  have hset : ∀ {j : Nat} {o' : VObj} (x : VObj), m.objs[j]? = some o' → o'.alive = true →
      (m.objs.set j x)[i]? = some o := by
    intro j o' x hj ha
    have hne : j ≠ i := by
      rintro rfl
      rw [hi] at hj; cases hj; rw [hd] at ha; cases ha
    rw [List.getElem?_set_ne hne]; exact hi
  by_cases hop : op.isObjectOp = false
  · rw [objects_follow_on_current db hw op hop]
    split
    · rw [List.getElem?_map, hi, Option.map_some, ← refresh_curSys_spec (step_preserves_MgrWf db hw op), hrefresh]
    · exact hi
  · cases op <;> simp only [Op.isObjectOp, not_true_eq_false] at hop
    case register c u =>
      simp only [step, registerNew]
      rw [List.getElem?_append_left hilt]; exact hi
    case registerAgain j =>
      simp only [step, registerAgain]
      split
      · exact hi
      · rename_i o' ho'
        split
        · exact hset _ ho' ‹_›
        · exact hi
    case kill j =>
      simp only [step, killObj]
      split
      · exact hi
      · rename_i o' ho'
        by_cases hji : j = i
        · subst hji
          rw [hi] at ho'; cases ho'
          have hw0 : o.wraps = 0 := (hobj o (List.mem_of_getElem? hi)).2 hd
          rw [List.getElem?_set_self hilt, ← hw0, ← hd]
        · simp only [List.getElem?_set_ne hji]; exact hi
    case objSetUnit j u =>
      simp only [step, objSetUnit]
      split
      · exact hi
      · rename_i o' ho'
        split
        · exact hset _ ho' ‹_›
        · exact hi
    case updateObjects =>
      simp only [step, updateObjects_objs]
      rw [List.getElem?_map, hi, Option.map_some, hrefresh]

theorem run_dead_object_is_never_touched (db : Db) (ops : List Op) {m : Mgr} (hw : MgrWf m) (hobj : ObjsWf m)
    {i : Nat} {o : VObj} (hi : m.objs[i]? = some o) (hd : o.alive = false) : (run db m ops).objs[i]? = some o := by
  induction ops generalizing m with
  | nil => exact hi
  | cons op ops ih =>
    exact ih (step_preserves_MgrWf db hw op) (step_preserves_ObjsWf db hobj op)
      (dead_object_is_never_touched db hw hobj op hi hd)

/-- what the code does on a default-unit change: `SetDefaultUnit` / `RemoveCategory` — on the current
system or on any other — leave every registered object as it is (only `on_unit_changed` is invoked) -/
theorem default_unit_change_keeps_objects (db : Db) (m : Mgr) (a : Nat) (c u : Sym) :
    (step db m (.setDefaultUnit a c u)).mgr.objs = m.objs ∧ (step db m (.removeCategory a c)).mgr.objs = m.objs := by
  constructor
  · simp only [step, setDefaultUnit]; split <;> rfl
  · simp only [step, removeCategory]
    split
    · rfl
    · split <;> rfl

/-- … until the next `UpdateObjects()`: after `current.SetDefaultUnit(c, u)` for a non-empty category, a
following `UpdateObjects()` gives `u` to every live object of category `c` -/
theorem updateObjects_propagates_default (db : Db) {m : Mgr} (hw : MgrWf m) {a : Nat} (hc : m.cur = some a)
    {c : Sym} (hc0 : c ≠ 0) (u : Sym) {i : Nat} {o : VObj} (hi : m.objs[i]? = some o) (hal : o.alive = true)
    (hcat : o.cat = c) :
    (run db m [.setDefaultUnit a c u, .updateObjects]).objs[i]? = some { o with unit := u } := by
  have halt := hw.cur_valid a hc
  have hs : m.heap[a]? = some m.heap[a] := List.getElem?_eq_getElem halt
  have h1 : (step db m (.setDefaultUnit a c u)).mgr =
      { m with heap := m.heap.set a { m.heap[a] with mapping := dset m.heap[a].mapping c u } } := by
    simp only [step, setDefaultUnit, hs]
  simp only [run]
  rw [h1]
  simp only [step, updateObjects_objs]
  rw [List.getElem?_map, hi]
  have hcur : ({ m with heap := m.heap.set a { m.heap[a] with mapping := dset m.heap[a].mapping c u } } : Mgr).curSys
      = some { m.heap[a] with mapping := dset m.heap[a].mapping c u } := by
    simp [Mgr.curSys, hc, halt]
  rw [hcur]
  have hc0' : (c == 0) = false := by simpa using hc0
  simp [VObj.refresh, VObj.update, hal, hcat, USys.getDefaultUnit, hc0', dget_dset_self]

/-- right after a `SetCurrent` the objects are up to date: a direct `UpdateObjects()` changes nothing -/
theorem updateObjects_after_setCurrent_id (m : Mgr) (x : Option Nat) :
    updateObjects (setCurrent m x).1 = (setCurrent m x).1 := by
  have h : (setCurrent m x).1.objs.map (VObj.refresh (setCurrent m x).1.curSys) = (setCurrent m x).1.objs := by
    rw [setCurrent_objs, List.map_map]
    apply List.map_congr_left
    intro o _
    exact refresh_idem _ o
  unfold updateObjects
  rw [h]

/-! ### observers: `ResetInstance` and what a listener receives -/

/-- `ResetInstance()` unregisters the listeners of both callbacks of the manager and nothing else: the
registry, the current system, the manager's own listener on the current system, the template and the
registered objects stay -/
theorem resetInstance_spec (db : Db) (m : Mgr) :
    step db m .resetInstance = ⟨{ m with obsCur := false, obsUnit := false }, .ok .none, []⟩ := rfl

/-- **what an observer receives** of a call is the part of the prescribed notifications (`specLog`, see
`notify_exact`) whose callback it is registered on; nothing for a rejected call -/
theorem seen_exact (db : Db) {m : Mgr} (hw : MgrWf m) (op : Op) :
    seen m (step db m op).log =
      match (step db m op).out with
      | .ok _ => seen m (specLog m (step db m op).mgr op)
      | .error _ => [] := by
  rw [notify_exact db hw op]
  split <;> rfl

theorem seen_all_of_observed {m : Mgr} (h1 : m.obsCur = true) (h2 : m.obsUnit = true) (l : List Event) :
    seen m l = l := by
  unfold seen
  rw [List.filter_eq_self]
  intro e _
  cases e <;> simp [Event.seenBy, h1, h2]

theorem seen_nil_of_unobserved {m : Mgr} (h1 : m.obsCur = false) (h2 : m.obsUnit = false) (l : List Event) :
    seen m l = [] := by
  unfold seen
  rw [List.filter_eq_nil_iff]
  intro e _
  cases e <;> simp [Event.seenBy, h1, h2]

/-- no other call registers or unregisters a listener of the manager's callbacks -/
theorem observers_frame (db : Db) (m : Mgr) (op : Op) (hop : op.isObserverOp = false) :
    (step db m op).mgr.obsCur = m.obsCur ∧ (step db m op).mgr.obsUnit = m.obsUnit := by
  rcases step_shape db m op with hq | ha | hs
  · rw [(step_query db m hq).1]; exact ⟨rfl, rfl⟩
  · exact step_aux_obs db m ha hop
  · exact hs.obs

/-- **after `ResetInstance()` an observer receives nothing** — whatever happens to the manager — until
it registers again -/
theorem reset_silences (db : Db) (m : Mgr) (ops : List Op)
    (hno : ∀ op ∈ ops, op.isObserverOp = false) : runSeen db (step db m .resetInstance).mgr ops = [] := by
  have : ∀ (ops : List Op) (m' : Mgr), m'.obsCur = false → m'.obsUnit = false →
      (∀ op ∈ ops, op.isObserverOp = false) → runSeen db m' ops = [] := by
    intro ops
    induction ops with
    | nil => intro _ _ _ _; rfl
    | cons op ops ih =>
      intro m' h1 h2 hn
      have hf := observers_frame db m' op (hn op (by simp))
      simp only [runSeen, seen_nil_of_unobserved h1 h2, List.nil_append]
      exact ih _ (hf.1.trans h1) (hf.2.trans h2) (fun o ho => hn o (by simp [ho]))
  exact this ops _ rfl rfl hno

/-! ### caption and read-only flag of a unit system -/

/-- `system.SetCaption(caption)` changes that one field of that one object; nobody is notified -/
theorem setCaption_frame (db : Db) {m : Mgr} {a : Nat} {o : USys} (ho : m.heap[a]? = some o) (cap : Sym) :
    step db m (.setCaption a cap) = ⟨{ m with heap := m.heap.set a { o with caption := cap } }, .ok .none, []⟩ := by
  simp only [step, setCaption, ho]

/-- `system.SetReadOnly(flag)` changes that one field of that one object; nobody is notified -/
theorem setReadOnly_frame (db : Db) {m : Mgr} {a : Nat} {o : USys} (ho : m.heap[a]? = some o) (b : Bool) :
    step db m (.setReadOnly a b) = ⟨{ m with heap := m.heap.set a { o with readOnly := b } }, .ok .none, []⟩ := by
  simp only [step, setReadOnly, ho]

/-- what the code does with the flag: nothing.  A read-only system (the null system included) accepts
`SetDefaultUnit` and `RemoveCategory` like any other, and its mapping changes -/
theorem readOnly_is_not_enforced (db : Db) {m : Mgr} {a : Nat} {o : USys} (ho : m.heap[a]? = some o)
    (_hro : o.readOnly = true) (c u : Sym) :
    (step db m (.setDefaultUnit a c u)).out = .ok .none ∧
    (step db m (.setDefaultUnit a c u)).mgr.heap[a]? = some { o with mapping := dset o.mapping c u } ∧
    (step db m (.removeCategory a c)).out = .ok .none ∧
    (step db m (.removeCategory a c)).mgr.heap[a]? =
      some (if dhas o.mapping c then { o with mapping := derase o.mapping c } else o) := by
  have halt : a < m.heap.length := (List.getElem?_eq_some_iff.mp ho).1
  have h := setDefaultUnit_frame db ho c u
  refine ⟨h.1, h.2.1, ?_, ?_⟩
  · simp only [step, removeCategory, ho]; split <;> rfl
  · simp only [step, removeCategory, ho]
    split
    · simp [halt]
    · simpa [Res.answer] using ho

/-! ### the error classes of the module -/

/-- a rejected `SetTemplateUnitSystemByUnitsMapping` is an `InvalidTemplateError` (a `RuntimeError`) that
lists at least one registered system by its id (`MgrWf.reg_own` makes that id a name, not `None`): the message
branch for an empty list (unit_system_manager.py line 56) cannot be reached through the manager; and no call raises `NoTemplateError`
(`add_rejected_is_key_error`: a missing template is not an error, lines 36-37) -/
theorem template_rejected_names_a_system (db : Db) (m : Mgr) (mp : List (Sym × Sym)) {e : ErrKind}
    (h : (step db m (.setTemplate mp)).out = .error e) : e = .runtime ∧ invalidSystems m (dkeys mp) ≠ [] := by
  simp only [step, setTemplate] at h
  split at h
  · cases h
  · rename_i hc
    simp only [Res.reject] at h
    cases h
    refine ⟨rfl, ?_⟩
    intro hnil
    rw [hnil] at hc
    exact hc rfl

/-! ### the states the examples of `C17Examples.lean` start from

ids: 97 = "a", 98 = "b"; captions 65 = "A", 66 = "B"; categories/units are spelled with `Sym.ofString`
only where the shipped table is consulted. -/

/-- a database with nothing in it (the manager calls below never consult it) -/
def db0 : Db := ⟨[], [], []⟩

/-- add "a", add "b": "a" became current when it was added, "b" did not -/
def twoSystems : Mgr := run db0 Mgr.init [.add 97 65 (some [(1, 2)]) false, .add 98 66 none true]

end Barril.Mgr
