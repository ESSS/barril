/- Non-vacuity examples of C20, in a module of their own (tools/split_examples.py): they evaluate
concrete instances and must not be able to stop the theorem module from building.  Not property theorems: the
check builds this module separately and only records the outcome.

Strings are byte lists: 109 = 'm', 115 = 's', 107 103 = "kg", 46 = '.', 47 = '/', 49 = '1', 32 = ' ',
42 = '*', 40/41 = '(' ')'. -/
import Barril.Props.C20

namespace Barril.Str

-- two and three factors after the slash:
-- (m/s)/kg  →  "m/s.kg"  →  [(m,1),(s,-1),(kg,-1)]
example : renderUnit [([109], 1), ([115], -1), ([107, 103], -1)] = [109, 47, 115, 46, 107, 103] := by decide
example : parseUnit [109, 47, 115, 46, 107, 103] = some [([109], 1), ([115], -1), ([107, 103], -1)] := by decide
example : ∀ p ∈ [(([109] : Str), (1 : Int)), ([115], -1), ([107, 103], -1)], atomic p.1 = true := by decide
-- kg2.m/s12.K3 : exponents with two digits
example : renderUnit [([115], -12), ([107, 103], 2), ([109], 1), ([75], -3)]
    = [107, 103, 50, 46, 109, 47, 115, 49, 50, 46, 75, 51] := by decide
example : parseUnit (renderUnit [([115], -12), ([107, 103], 2), ([109], 1), ([75], -3)])
    = some [([107, 103], 2), ([109], 1), ([115], -12), ([75], -3)] := by decide
-- 1/s2.m
example : renderUnit [([115], -2), ([109], -1)] = [49, 47, 115, 50, 46, 109] := by decide
-- "length / time * mass"  and  "1 / (a) ** 2"
example : makeStr [([108], 1), ([116], -1), ([109], -1)] = [108, 32, 47, 32, 116, 32, 42, 32, 109] := by decide
example : makeStr [([97], -2)] = [49, 32, 47, 32, 40, 97, 41, 32, 42, 42, 32, 50] := by decide
-- m * m (two categories, one unit) joins to m2; m / m cancels and is not written
example : joinExps [([109], 1), ([115], -1), ([109], 1)] = [([109], 2), ([115], -1)] := by decide
example : renderUnit (joinExps [([109], 1), ([109], -1)]) = [] := by decide
-- a derived and a simple quantity from entry lists
example : (obtainFromDict ⟨[([108], [76]), ([116], [84])], []⟩ [⟨[108], [109], 1⟩, ⟨[116], [115], -2⟩]).map (·.unit)
    = .ok [109, 47, 115, 50] := by rfl
example : (obtainFromDict ⟨[([108], [76])], []⟩ [⟨[108], [109], 1⟩]).map (fun q => (q.derived, q.unit, q.category, q.qtype))
    = .ok (false, [109], [108], [76]) := by rfl
-- the grammar refuses what is not in it
example : parseUnit [109, 47, 115, 47, 107] = none := by decide      -- "m/s/k"
example : parseUnit [109, 46, 46, 115] = none := by decide           -- "m..s"
example : parseUnit [109, 48] = none := by decide                    -- "m0"

-- products, quotients, powers from the operands.  Registry: category l -> type L, d -> type L, t -> type T
-- s * m lists the second first; m * s the metre first (no earlier result takes part)
example : (opQ ⟨[([108], [76]), ([116], [84])], []⟩ .mul
      ⟨[⟨[116], [115], 1⟩], false, [116], [84], [115]⟩ ⟨[⟨[108], [109], 1⟩], false, [108], [76], [109]⟩).map
        (fun q => (q.unit, q.category)) = .ok ([115, 46, 109], [116, 32, 42, 32, 108]) := by rfl
example : (opQ ⟨[([108], [76]), ([116], [84])], []⟩ .mul
      ⟨[⟨[108], [109], 1⟩], false, [108], [76], [109]⟩ ⟨[⟨[116], [115], 1⟩], false, [116], [84], [115]⟩).map
        (fun q => (q.unit, q.category)) = .ok ([109, 46, 115], [108, 32, 42, 32, 116]) := by rfl
-- (m/s) ** 4 = "m4/s4"; the hypotheses of `pow_unit_string` hold for m/s
example : (qpow ⟨[([108], [76]), ([116], [84])], []⟩
      ⟨[⟨[108], [109], 1⟩, ⟨[116], [115], -1⟩], true, [], [], [109, 47, 115]⟩ 4).map (·.unit)
        = .ok [109, 52, 47, 115, 52] := by rfl
example : matchOne ⟨[([108], [76]), ([116], [84])], []⟩ [] [⟨[108], [109], 1⟩, ⟨[116], [115], -1⟩]
    = .ok ([([84], [115]), ([76], [109])], [⟨[108], [109], 1⟩, ⟨[116], [115], -1⟩]) := by rfl
example : ∀ e ∈ [(⟨[108], [109], 1⟩ : Entry), ⟨[116], [115], -1⟩],
    e.exp ≠ 0 ∧ unitTotal e.unit [⟨[108], [109], 1⟩, ⟨[116], [115], -1⟩] ≠ 0 := by decide
-- q ** 1, q ** 0, q ** -2 are q itself (`range(exponent - 1)` is empty)
example : qpow ⟨[([108], [76])], []⟩ ⟨[⟨[108], [109], 1⟩], false, [108], [76], [109]⟩ 0
    = .ok ⟨[⟨[108], [109], 1⟩], false, [108], [76], [109]⟩ := by rfl
-- two categories of one quantity type with different units: the first unit seen is kept (m.ft -> m2)
example : (opQ ⟨[([108], [76]), ([100], [76])], []⟩ .mul
      ⟨[⟨[108], [109], 1⟩], false, [108], [76], [109]⟩ ⟨[⟨[100], [102, 116], 1⟩], false, [100], [76], [102, 116]⟩).map
        (fun q => (q.unit, q.entries)) = .ok ([109, 50], [⟨[108], [109], 1⟩, ⟨[100], [109], 1⟩]) := by rfl
-- m / m (one category) cancels: the empty quantity
example : (opQ ⟨[([108], [76])], []⟩ .div
      ⟨[⟨[108], [109], 1⟩], false, [108], [76], [109]⟩ ⟨[⟨[108], [109], 1⟩], false, [108], [76], [109]⟩).map (·.entries)
        = .ok [] := by rfl

/-! the caller edits the mapping it passed: spec = {length: [m, 1], time: [s, -1]};
velocity = ObtainQuantity(spec); spec['time'][1] = -2; acceleration = ObtainQuantity(spec); velocity ** 2 -/
def exReg : Reg := ⟨[([108], [108]), ([116], [116])], [(([108], [109]), [77]), (([116], [115]), [83])]⟩
def exSpec : Req := .dict [⟨[108], [109], 1⟩, ⟨[116], [115], -1⟩]
def exRun : Caller := Caller.run exReg ⟨[], []⟩
  [.request exSpec, .edit 0 (.setExp 1 (-2)), .again 0, .arith 0 (fun q => qpow exReg q 2)]
-- velocity still is m/s, with unit name "M / S"; acceleration is m/s2; velocity ** 2 is m2/s2
example : (exRun.made.map (fun r => r.toOption.map (·.unit)))
    = [some [109, 47, 115], some [109, 47, 115, 50], some [109, 50, 47, 115, 50]] := by decide +kernel
example : (exRun.made[0]?.bind (fun r => r.toOption.map (fun q => (q.unitName exReg).toOption)))
    = some (some [77, 32, 47, 32, 83]) := by decide +kernel
example : exRun.held = [.dict [⟨[108], [109], 1⟩, ⟨[116], [115], -2⟩]] := by decide +kernel
example : (Edit.del 0).apply (.list [([109], 1), ([115], -1)] [[108], [116]]) = .list [([115], -1)] [[116]] := by decide
example : (Edit.add ⟨[116], [104], 3⟩).apply exSpec = .dict [⟨[108], [109], 1⟩, ⟨[116], [104], 3⟩] := by decide

end Barril.Str
