/-
C19 — equivalent construction forms build equal objects.

Property theorems, and the three table facts of the default database they rest on (lemmas:
`Barril/Proofs/CtorLemmas.lean`).  The model is
`Barril/Model/Ctor.lean`: the shared constructor with its positional-argument juggling, the
class-specific constructors, `CreateWithQuantity`, `ObtainQuantity`/`GetDefaultCategory`, `==` and
`Scalar.__repr__` read back.

Generic part (any database `db`): every documented form computes `create db cls q x` — FixedArray's
dimension check followed by `_InternalCreateWithQuantity(q, x)` — for the one quantity `q` that
`Quantity(category, unit)` builds; so the forms agree on *every* value argument, failures included,
and on numbers/containers they build the same object, which `==` accepts.  The no-category forms
need the unit's default category to resolve; the category-only form needs the category to accept
its own default unit; `eval(repr(s))` needs unit and category to be free of quotes, backslashes and
line breaks.  Table part: the generated `decide +kernel` theorems show these three hypotheses for
every row of the default (POSC) database that the translator read from /repo's current source.

Quantity-first forms: `Cls(q, x)` and `Cls.CreateWithQuantity(q, x)` compute `create db cls q x` for
EVERY quantity `q` — with an unknown-unit caption, derived, empty — and the object holds exactly `q`;
`==` compares the caption; `ObtainQuantity(u, c, caption)` / `GetUnknownQuantity(caption)` /
`Quantity(c, u, caption)` carry the caption.  Histories on a private database: questions and (failed)
constructions never change the state, every answer is a function of the registry the registrations
built, a category or a unit registered late is found, and the forms agree in every reachable state.
-/
import Barril.Proofs.CtorLemmas
import Barril.Proofs.RegLemmas
import Barril.Gen.ThmDefcatPosc
import Barril.Gen.ThmDefunitPosc
import Barril.Gen.ThmSymplainPosc
import Barril.Gen.ThmCatplainPosc

namespace Barril.Ctor
open Barril Barril.Gen

/-! ### the forms that name the category -/

/-- **`Cls(x, u, c)` = `Cls(c, x, u)` = `Cls(ObtainQuantity(u, c), x)` = create(q, x)** for every
class, every category `c` that accepts the unit `u` (`Quantity(c, u)` builds `q`) and every value
argument `x` — equal results, errors included (e.g. a FixedArray value of the wrong length is
rejected by all forms alike). -/
theorem forms_with_category_agree {db : Db} {c u : Sym} {q : Qty} (f g : Option Rat) (cls : Cls) (x : PyVal)
    (hq : newQuantity db (.str c none) u = .ok q) (hx : x.isValueFor cls = true) :
    construct db cls x (.atom (.str u g)) (.str c f) = create db cls q x
    ∧ construct db cls (.atom (.str c f)) x (.str u g) = create db cls q x
    ∧ obtainQuantity db (.atom (.str u g)) (.str c f) = .ok q
    ∧ construct db cls (.qty q) x .none = create db cls q x := by
  have hob : obtainQuantity db (.atom (.str u g)) (.str c f) = .ok q := hq
  have hn := isValueFor_notNone hx
  exact ⟨construct_value_first hx rfl hob, construct_category_first hn rfl hob, hob,
    construct_quantity_first db cls q hn⟩

/-! ### the forms that leave the category out -/

/-- **`Cls(x, u)` = create(q, x) where `q` is built from the unit's default category**: whenever
`GetDefaultCategory(u)` answers a non-empty name `c` and `Quantity(c, u)` builds `q`, the form without a
category computes exactly what the forms with `c` compute (previous theorem). -/
theorem form_without_category_agrees {db : Db} {c u : Sym} {q : Qty} (g : Option Rat) (cls : Cls) (x : PyVal)
    (hc : getDefaultCategory db u = .ok (some c)) (hc0 : c ≠ 0)
    (hq : newQuantity db (.str c none) u = .ok q) (hx : x.isValueFor cls = true) :
    construct db cls x (.atom (.str u g)) .none = create db cls q x
    ∧ obtainQuantity db (.atom (.str u g)) .none = .ok q := by
  have hob : obtainQuantity db (.atom (.str u g)) .none = .ok q := (obtainQuantity_default g hc hc0).trans hq
  exact ⟨construct_value_first hx rfl hob, hob⟩

/-- **`Scalar((v, u))` = `Scalar(v, u)`** for a number `v` (the tuple form exists for Scalar only) -/
theorem scalar_tuple_form_agrees (db : Db) (u : Sym) (g : Option Rat) (v : Rat) (i : Bool) :
    construct db .scalar (.seq .tuple [.num v i, .str u g]) .none .none
      = construct db .scalar (.atom (.num v i)) (.atom (.str u g)) .none := construct_tuple db _ u g

/-- a tuple that is not a pair is rejected, and so is a tuple followed by more arguments -/
theorem scalar_tuple_form_rejects (db : Db) (items : List Atom) (a2 : PyVal) (a3 : Atom) :
    (items.length ≠ 2 → a2.isNone = true → a3.isNone = true →
        construct db .scalar (.seq .tuple items) a2 a3 = .error .value)
    ∧ ((a2.isNone && a3.isNone) = false → construct db .scalar (.seq .tuple items) a2 a3 = .error .assertion) := by
  constructor
  · intro hl h2 h3
    simp only [construct, scalarInit, scalarTupleForm, h2, h3, Bool.and_self, Bool.not_true, Bool.false_eq_true,
      ↓reduceIte]
    match items, hl with
    | [], _ => rfl
    | [_], _ => rfl
    | [_, _], hl => simp at hl
    | _ :: _ :: _ :: _, _ => rfl
  · intro h
    simp [construct, scalarInit, scalarTupleForm, h]

/-! ### `CreateWithQuantity` -/

/-- **`Cls.CreateWithQuantity(q, x)` / `(q, value=x)` = create(q, x)**; for FixedArray with the
dimension given by keyword, or taken from `len(x)` -/
theorem createWithQuantity_agrees (db : Db) (q : Qty) (x : PyVal) (kw : Bool) (hx : x.isNone = false) :
    createWithQuantity db .scalar q x kw none = create db .scalar q x
    ∧ createWithQuantity db .fraction q x kw none = create db .fraction q x
    ∧ createWithQuantity db .array q x kw none = create db .array q x
    ∧ (∀ d d' : Int, createWithQuantity db (.fixed d') q x kw (some d) = create db (.fixed d) q x)
    ∧ (∀ d d' : Int, pyLen x = .ok d → createWithQuantity db (.fixed d') q x kw none = create db (.fixed d) q x) := by
  have h := createWithQuantity_eq_create db q kw hx
  exact ⟨h .scalar nofun, h .fraction nofun, h .array nofun,
    fun d d' => (createWithQuantity_fixed db q kw hx d d').1, fun d d' => (createWithQuantity_fixed db q kw hx d d').2⟩

/-! ### what is created, and that `==` accepts it -/

/-- **`o == o` is `True`** for every Scalar and FractionScalar, and for every Array/FixedArray whose
value is a list, tuple or 1-d array (of any length) -/
theorem eq_self (q : Qty) :
    (∀ v : Rat, Obj.eq ⟨q, .scalar v⟩ ⟨q, .scalar v⟩ = .ok true)
    ∧ (∀ n f : Rat, Obj.eq ⟨q, .fraction n f⟩ ⟨q, .fraction n f⟩ = .ok true)
    ∧ (∀ (k : SeqKind) (items : List Atom), Obj.eq ⟨q, .arr (.seq k items)⟩ ⟨q, .arr (.seq k items)⟩ = .ok true)
    ∧ (∀ (k : SeqKind) (items : List Atom) (d : Int),
        Obj.eq ⟨q, .fixed (.seq k items) d⟩ ⟨q, .fixed (.seq k items) d⟩ = .ok true) := 
  ⟨(eq_self_number q).1, (eq_self_number q).2, fun _ _ => (eq_self_of_tuple q rfl).1,
    fun _ _ => (eq_self_of_tuple q rfl).2⟩

/-- **`a == b` and `b == a` always give the same answer** (the same truth value, or a `TypeError`
from `tuple(values)` on either side), for any two value objects of any classes -/
theorem eq_symm (a b : Obj) : Obj.eq a b = Obj.eq b a := by
  obtain ⟨qa, va⟩ := a
  obtain ⟨qb, vb⟩ := b
  cases va <;> cases vb <;> simp only [Obj.eq]
  · rw [pyEq_symm qa qb]; rename_i x y; rw [@BEq.comm _ _ _ x y]
  · rename_i n f m g; rw [pyEq_symm qa qb, @BEq.comm _ _ _ n m, @BEq.comm _ _ _ f g]
  · exact arrayEq_symm ..
  · rename_i v d w e; rw [arrayEq_symm, @BEq.comm _ _ _ d e]

/-- **all FractionScalar forms build one object holding `FractionValue(float(a))`, for every kind of
number `a`** (what `scalar_forms` in `Proofs/CtorLemmas.lean` says of Scalar) -/
theorem fraction_forms_store_float {db : Db} {c u : Sym} {q : Qty} (f g : Option Rat) (a : Atom) (v : Rat) (kw : Bool)
    (ha : (PyVal.atom a).isValueFor .fraction = true) (hv : pyFloat (.atom a) = .ok v)
    (hc : getDefaultCategory db u = .ok (some c)) (hc0 : c ≠ 0)
    (hq : newQuantity db (.str c none) u = .ok q) :
    let o : Obj := ⟨q, .fraction v 0⟩
    construct db .fraction (.atom a) (.atom (.str u g)) .none = .ok o
    ∧ construct db .fraction (.atom a) (.atom (.str u g)) (.str c f) = .ok o
    ∧ construct db .fraction (.atom (.str c f)) (.atom a) (.str u g) = .ok o
    ∧ construct db .fraction (.qty q) (.atom a) .none = .ok o
    ∧ createWithQuantity db .fraction q (.atom a) kw none = .ok o
    ∧ Obj.eq o o = .ok true := by
  have hb := (create_stores_float db q _ v (isValueFor_notNone ha) hv).2 (fun _ _ h => by cases h)
  obtain ⟨h1, h2, h3, h4⟩ := forms_build f g hc hc0 hq ha hb
  exact ⟨h1, h2, h3, h4, hb, (eq_self_number q).2 v 0⟩

/-- **the FixedArray forms build one object** from a container of `d ≥ 2` elements, with the
dimension given positionally, by keyword to `CreateWithQuantity`, or left to `len(values)` -/
theorem fixed_forms_equal {db : Db} {c u : Sym} {q : Qty} (f g : Option Rat) (k : SeqKind) (items : List Atom)
    (kw : Bool) (d' : Int) (hd : 2 ≤ items.length)
    (hc : getDefaultCategory db u = .ok (some c)) (hc0 : c ≠ 0)
    (hq : newQuantity db (.str c none) u = .ok q) :
    let d : Int := items.length
    let x : PyVal := .seq k items
    let o : Obj := ⟨q, .fixed x d⟩
    construct db (.fixed d) x (.atom (.str u g)) .none = .ok o
    ∧ construct db (.fixed d) x (.atom (.str u g)) (.str c f) = .ok o
    ∧ construct db (.fixed d) (.atom (.str c f)) x (.str u g) = .ok o
    ∧ construct db (.fixed d) (.qty q) x .none = .ok o
    ∧ createWithQuantity db (.fixed d') q x kw none = .ok o
    ∧ createWithQuantity db (.fixed d') q x kw (some d) = .ok o
    ∧ Obj.eq o o = .ok true := by
  obtain ⟨h1, h2, h3, h4⟩ := forms_build f g hc hc0 hq (x := .seq k items) (by cases k <;> rfl)
    (create_fixed db q rfl (by omega) rfl)
  obtain ⟨h5, h6⟩ := createWithQuantity_fixed_builds db q (x := .seq k items) kw d' rfl (by omega) rfl
  exact ⟨h1, h2, h3, h4, h5, h6, (eq_self_of_tuple q rfl).2 _⟩

/-- `o == o` is `True` as well for every Array/FixedArray whose value is a list or tuple of lists, or
of lists and tuples mixed (`[[1.0, 2.0], [3.0, 4.5]]`, `([7.0],)`, `[[1.0], (2.0, 3.0)]`) -/
theorem eq_self_nested (q : Qty) (k : SeqKind) (rows : List (Bool × List Atom)) :
    Obj.eq ⟨q, .arr (.nest k rows)⟩ ⟨q, .arr (.nest k rows)⟩ = .ok true
    ∧ (∀ d : Int, Obj.eq ⟨q, .fixed (.nest k rows) d⟩ ⟨q, .fixed (.nest k rows) d⟩ = .ok true) := 
  eq_self_of_tuple q rfl

/-- **a row given as a list is not the row given as a tuple**: two Arrays on the same quantity whose
values differ only in the kind of one row (`[[1.0, 2.0]]` against `[(1.0, 2.0)]`) compare unequal — an
object that stored another container than the one it was given is another object -/
theorem list_row_differs_from_tuple_row (q : Qty) (k k' : SeqKind) (r : List Atom)
    (pre post : List (Bool × List Atom)) :
    Obj.eq ⟨q, .arr (.nest k (pre ++ (true, r) :: post))⟩ ⟨q, .arr (.nest k' (pre ++ (false, r) :: post))⟩ = .ok false := by
  have h : ∀ pre : List (Bool × List Atom),
      elemsEq ((pre ++ (true, r) :: post).map rowElem) ((pre ++ (false, r) :: post).map rowElem) = false := by
    intro pre
    induction pre with
    | nil => simp [elemsEq, rowElem, elemEq]
    | cons a as ih => simp only [List.cons_append, List.map_cons, elemsEq, ih, Bool.and_false]
  simp only [Obj.eq, arrayEq, pyTuple, h pre, Bool.false_and]

/-- **the Array and FixedArray forms hold exactly the container they were given, also a list (or
tuple) of LISTS or of lists and tuples mixed**: every `__init__` form and `CreateWithQuantity` build the
one object whose value is that very container (row kinds included), whatever the number of rows and
their sizes; the FixedArray dimension is the number of rows -/
theorem nested_forms_equal {db : Db} {c u : Sym} {q : Qty} (f g : Option Rat) (k : SeqKind)
    (rows : List (Bool × List Atom)) (kw : Bool) (d' : Int)
    (hc : getDefaultCategory db u = .ok (some c)) (hc0 : c ≠ 0)
    (hq : newQuantity db (.str c none) u = .ok q) :
    (construct db .array (.nest k rows) (.atom (.str u g)) .none = .ok ⟨q, .arr (.nest k rows)⟩
      ∧ construct db .array (.nest k rows) (.atom (.str u g)) (.str c f) = .ok ⟨q, .arr (.nest k rows)⟩
      ∧ construct db .array (.atom (.str c f)) (.nest k rows) (.str u g) = .ok ⟨q, .arr (.nest k rows)⟩
      ∧ construct db .array (.qty q) (.nest k rows) .none = .ok ⟨q, .arr (.nest k rows)⟩
      ∧ createWithQuantity db .array q (.nest k rows) kw none = .ok ⟨q, .arr (.nest k rows)⟩
      ∧ Obj.eq ⟨q, .arr (.nest k rows)⟩ ⟨q, .arr (.nest k rows)⟩ = .ok true)
    ∧ (2 ≤ rows.length →
      construct db (.fixed rows.length) (.nest k rows) (.atom (.str u g)) .none = .ok ⟨q, .fixed (.nest k rows) rows.length⟩
      ∧ construct db (.fixed rows.length) (.nest k rows) (.atom (.str u g)) (.str c f)
          = .ok ⟨q, .fixed (.nest k rows) rows.length⟩
      ∧ construct db (.fixed rows.length) (.atom (.str c f)) (.nest k rows) (.str u g)
          = .ok ⟨q, .fixed (.nest k rows) rows.length⟩
      ∧ construct db (.fixed rows.length) (.qty q) (.nest k rows) .none = .ok ⟨q, .fixed (.nest k rows) rows.length⟩
      ∧ createWithQuantity db (.fixed d') q (.nest k rows) kw none = .ok ⟨q, .fixed (.nest k rows) rows.length⟩
      ∧ createWithQuantity db (.fixed d') q (.nest k rows) kw (some rows.length)
          = .ok ⟨q, .fixed (.nest k rows) rows.length⟩
      ∧ Obj.eq ⟨q, .fixed (.nest k rows) rows.length⟩ ⟨q, .fixed (.nest k rows) rows.length⟩ = .ok true) := by
  have ha := create_array db q (x := .nest k rows) rfl
  refine ⟨?_, fun hd => ?_⟩
  · obtain ⟨h1, h2, h3, h4⟩ := forms_build f g hc hc0 hq (by cases k <;> rfl) ha
    exact ⟨h1, h2, h3, h4, (createWithQuantity_eq_create db q kw rfl .array nofun).trans ha, (eq_self_of_tuple q rfl).1⟩
  · obtain ⟨h1, h2, h3, h4⟩ := forms_build f g hc hc0 hq (x := .nest k rows) (by cases k <;> rfl)
      (create_fixed db q rfl (by omega) rfl)
    obtain ⟨h5, h6⟩ := createWithQuantity_fixed_builds db q (x := .nest k rows) kw d' rfl (by omega) rfl
    exact ⟨h1, h2, h3, h4, h5, h6, (eq_self_of_tuple q rfl).2 _⟩

/-! ### the category alone -/

/-- **`Cls(c)` = `Cls(default value, default unit, c)`** for every registered category `c` whose
default unit it accepts (`Quantity(c, default_unit)` = `q`): Scalar and FractionScalar carry the
default value, Array the empty list, FixedArray of dimension `d ≥ 2` a list of `d` zeros. -/
theorem category_only_eq_default {db : Db} {c : Sym} {ci : CatRow} {q : Qty} (f g : Option Rat)
    (hci : db.catByName c = some ci) (hq : newQuantity db (.str c none) ci.defaultUnit = .ok q) :
    (construct db .scalar (.atom (.str c f)) .none .none = .ok ⟨q, .scalar ci.defaultValue⟩
      ∧ construct db .scalar (.num ci.defaultValue) (.atom (.str ci.defaultUnit g)) (.str c f)
          = .ok ⟨q, .scalar ci.defaultValue⟩)
    ∧ (construct db .fraction (.atom (.str c f)) .none .none = .ok ⟨q, .fraction ci.defaultValue 0⟩
      ∧ construct db .fraction (.num ci.defaultValue) (.atom (.str ci.defaultUnit g)) (.str c f)
          = .ok ⟨q, .fraction ci.defaultValue 0⟩)
    ∧ (construct db .array (.atom (.str c f)) .none .none = .ok ⟨q, .arr (.seq .list [])⟩
      ∧ construct db .array (.seq .list []) (.atom (.str ci.defaultUnit g)) (.str c f)
          = .ok ⟨q, .arr (.seq .list [])⟩)
    ∧ (∀ d : Int, 2 ≤ d →
        construct db (.fixed d) (.atom (.str c f)) .none .none
          = .ok ⟨q, .fixed (.seq .list (List.replicate d.toNat (.num 0 false))) d⟩
        ∧ construct db (.fixed d) (.seq .list (List.replicate d.toNat (.num 0 false)))
            (.atom (.str ci.defaultUnit g)) (.str c f)
          = .ok ⟨q, .fixed (.seq .list (List.replicate d.toNat (.num 0 false))) d⟩) := by
  have hob : obtainQuantity db (.atom (.str ci.defaultUnit g)) (.str c f) = .ok q := hq
  refine ⟨⟨construct_category_only (cls := .scalar) (v := .num ci.defaultValue) f hci hq rfl,
      construct_value_first rfl rfl hob⟩,
    ⟨construct_category_only (cls := .fraction) (v := .num ci.defaultValue) f hci hq rfl,
      construct_value_first rfl rfl hob⟩,
    ⟨(construct_category_only f hci hq rfl).trans (create_array db q rfl),
      (construct_value_first rfl rfl hob).trans (create_array db q rfl)⟩, fun d hd => ?_⟩
  have hlen : pyLen (.seq .list (List.replicate d.toNat (Atom.num 0 false))) = .ok d := by
    simp only [pyLen, List.length_replicate]
    rw [Int.toNat_of_nonneg (by omega)]
  have hcr := create_fixed db q rfl hd hlen
  exact ⟨(construct_category_only f hci hq rfl).trans hcr, (construct_value_first rfl rfl hob).trans hcr⟩

/-! ### repr -/

/-- **`eval(repr(s)) == s`** for every Scalar whose quantity was built by `Quantity(c, u)`, when unit
and category contain no quote, backslash or line break: the text reads back as the same unit and
category, the constructor builds the same quantity again, and the value is the printed number. -/
theorem repr_roundtrip {db : Db} {c u : Sym} {f : Option Rat} {q : Qty} (v : Rat)
    (hq : newQuantity db (.str c f) u = .ok q) (hu : litOk q.unit = true) (hc : litOk q.cat = true) :
    reprBack db ⟨q, .scalar v⟩ = some (.ok ⟨q, .scalar v⟩)
    ∧ Obj.eq ⟨q, .scalar v⟩ ⟨q, .scalar v⟩ = .ok true := by
  refine ⟨?_, (eq_self q).1 v⟩
  have h1 := (parseLit_quoteLit_iff (Sym.bytes q.unit)).mpr hu
  have h2 := (parseLit_quoteLit_iff (Sym.bytes q.cat)).mpr hc
  have hq' : newQuantity db (.str q.cat none) q.unit = .ok q := newQuantity_idem hq
  have hf := (forms_with_category_agree (db := db) none none .scalar (.num v) hq' rfl).1
  have hs : q.isDerived = false := by rw [Qty.isDerived, (newQuantity_simple hq).1]; rfl
  simp only [reprBack, hs, Bool.false_eq_true, ↓reduceIte, evalScalarRepr, scalarRepr, h1, h2, ofBytes_bytes]
  exact congrArg some hf

/-- the hypothesis is needed: when the unit or the category does not survive the quoting, the text
is not read back as that Scalar -/
theorem repr_needs_plain_symbols (db : Db) (q : Qty) (v : Rat) (hs : q.isDerived = false)
    (h : litOk q.unit = false ∨ litOk q.cat = false) :
    reprBack db ⟨q, .scalar v⟩ = some (.error .other) := by
  simp only [reprBack, hs, Bool.false_eq_true, ↓reduceIte, evalScalarRepr, scalarRepr]
  rcases h with h | h
  · rw [parseLit_quoteLit_none h]
  · rw [parseLit_quoteLit_none h]; split <;> simp_all

/-! ### the default (POSC) database meets the hypotheses: generated `decide +kernel` table theorems -/

/-- **every unit row's default category is registered and has the row's quantity type**: the row's own
`default_category` entry, else its quantity type, is a non-empty name of a registered category whose
quantity type is the row's -/
theorem posc_default_category_registered : ∀ r ∈ poscDb.units,
    ∃ c ci, rowDefaultCategory poscDb r = some c ∧ c ≠ 0 ∧ poscDb.catByName c = some ci ∧ ci.qtype = r.qtype :=
  fun r hr => defaultCatOk_spec (List.all_eq_true.mp poscUnits_all_defcat r hr)

/-- **for every unit symbol of the table `GetDefaultCategory` resolves and `Quantity(category, unit)`
builds the quantity (category, unit)** -/
theorem posc_default_category_resolves : ∀ r ∈ poscDb.units,
    ∃ c, getDefaultCategory poscDb r.sym = .ok (some c) ∧ c ≠ 0
      ∧ newQuantity poscDb (.str c none) r.sym = .ok (Qty.simple c r.sym) := by
  intro r hr
  obtain ⟨r', hr'⟩ := unitBySym_of_mem hr
  have hm := (unitBySym_spec hr').1
  obtain ⟨c, _, hc, hc0, _, _, hq⟩ :=
    default_quantity_of_row hr' (List.all_eq_true.mp poscUnits_all_defcat r' hm)
  exact ⟨c, hc, hc0, hq⟩

/-- **every registered category accepts its own default unit**: `Quantity(c, default_unit)` builds
the quantity (c, default unit) -/
theorem posc_default_unit_accepted : ∀ c ci, poscDb.catByName c = some ci →
    newQuantity poscDb (.str c none) ci.defaultUnit = .ok (Qty.simple c ci.defaultUnit) :=
  fun _ ci hci => defaultUnitOk_spec hci (List.all_eq_true.mp poscCats_all_defunit ci (catByName_spec hci).1)

/-- **no unit symbol and no category name contains a quote, a backslash or a line break** -/
theorem posc_no_quote_chars :
    (∀ r ∈ poscDb.units, litOk r.sym = true) ∧ (∀ ci ∈ poscDb.cats, litOk ci.name = true) :=
  ⟨fun r hr => List.all_eq_true.mp poscUnits_all_symplain r hr,
   fun ci hci => List.all_eq_true.mp poscCats_all_catplain ci hci⟩

/-! ### C19 on the default database, for all units, all categories, all values -/

/-- for every unit: the six Scalar forms build the same object for every number -/
theorem posc_scalar_forms_equal : ∀ r ∈ poscDb.units, ∃ c, getDefaultCategory poscDb r.sym = .ok (some c) ∧
    ∀ (f g : Option Rat) (v : Rat) (i kw : Bool),
      let q : Qty := (Qty.simple c r.sym)
      let o : Obj := ⟨q, .scalar v⟩
      construct poscDb .scalar (.atom (.num v i)) (.atom (.str r.sym g)) .none = .ok o
      ∧ construct poscDb .scalar (.atom (.num v i)) (.atom (.str r.sym g)) (.str c f) = .ok o
      ∧ construct poscDb .scalar (.atom (.str c f)) (.atom (.num v i)) (.str r.sym g) = .ok o
      ∧ construct poscDb .scalar (.seq .tuple [.num v i, .str r.sym g]) .none .none = .ok o
      ∧ obtainQuantity poscDb (.atom (.str r.sym g)) (.str c f) = .ok q
      ∧ construct poscDb .scalar (.qty q) (.atom (.num v i)) .none = .ok o
      ∧ createWithQuantity poscDb .scalar q (.atom (.num v i)) kw none = .ok o
      ∧ Obj.eq o o = .ok true := by
  intro r hr
  obtain ⟨c, hc, hc0, hq⟩ := posc_default_category_resolves r hr
  exact ⟨c, hc, fun f g v i kw => scalar_forms f g (.num v i) v kw rfl rfl hc hc0 hq⟩

/-- for every unit and every kind of number (big ints, bools, numpy ints included): all Scalar forms,
`CreateWithQuantity` among them, hold `float(a)` and are one object -/
theorem posc_scalar_forms_store_float : ∀ r ∈ poscDb.units, ∃ c, getDefaultCategory poscDb r.sym = .ok (some c) ∧
    ∀ (f g : Option Rat) (a : Atom) (v : Rat) (kw : Bool),
      (PyVal.atom a).isValueFor .scalar = true → pyFloat (.atom a) = .ok v →
      let q : Qty := (Qty.simple c r.sym)
      let o : Obj := ⟨q, .scalar v⟩
      construct poscDb .scalar (.atom a) (.atom (.str r.sym g)) .none = .ok o
      ∧ construct poscDb .scalar (.atom a) (.atom (.str r.sym g)) (.str c f) = .ok o
      ∧ construct poscDb .scalar (.atom (.str c f)) (.atom a) (.str r.sym g) = .ok o
      ∧ construct poscDb .scalar (.seq .tuple [a, .str r.sym g]) .none .none = .ok o
      ∧ construct poscDb .scalar (.qty q) (.atom a) .none = .ok o
      ∧ createWithQuantity poscDb .scalar q (.atom a) kw none = .ok o
      ∧ Obj.eq o o = .ok true := by
  intro r hr
  obtain ⟨c, hc, hc0, hq⟩ := posc_default_category_resolves r hr
  refine ⟨c, hc, fun f g a v kw ha hv => ?_⟩
  have h := scalar_forms f g a v kw ha hv hc hc0 hq
  exact ⟨h.1, h.2.1, h.2.2.1, h.2.2.2.1, h.2.2.2.2.2⟩

/-- for every unit: the FractionScalar forms build the same object for every number -/
theorem posc_fraction_forms_equal : ∀ r ∈ poscDb.units, ∃ c, getDefaultCategory poscDb r.sym = .ok (some c) ∧
    ∀ (f g : Option Rat) (x : PyVal) (o : Obj) (kw : Bool),
      let q : Qty := (Qty.simple c r.sym)
      ((∃ v i, x = .atom (.num v i) ∧ o = ⟨q, .fraction v 0⟩) ∨ (∃ n fr, x = .fv n fr ∧ o = ⟨q, .fraction n fr⟩)) →
      construct poscDb .fraction x (.atom (.str r.sym g)) .none = .ok o
      ∧ construct poscDb .fraction x (.atom (.str r.sym g)) (.str c f) = .ok o
      ∧ construct poscDb .fraction (.atom (.str c f)) x (.str r.sym g) = .ok o
      ∧ construct poscDb .fraction (.qty q) x .none = .ok o
      ∧ createWithQuantity poscDb .fraction q x kw none = .ok o
      ∧ Obj.eq o o = .ok true := by
  intro r hr
  obtain ⟨c, hc, hc0, hq⟩ := posc_default_category_resolves r hr
  refine ⟨c, hc, fun f g x o kw hx => ?_⟩
  rcases hx with ⟨v, i, rfl, rfl⟩ | ⟨n, fr, rfl, rfl⟩
  · obtain ⟨h1, h2, h3, h4⟩ := forms_build f g hc hc0 hq (cls := .fraction) (x := .atom (.num v i)) rfl rfl
    exact ⟨h1, h2, h3, h4, rfl, (eq_self_number _).2 v 0⟩
  · obtain ⟨h1, h2, h3, h4⟩ := forms_build f g hc hc0 hq (cls := .fraction) (x := .fv n fr) rfl rfl
    exact ⟨h1, h2, h3, h4, rfl, (eq_self_number _).2 n fr⟩

/-- for every unit: the Array forms build the same object for every list/tuple/1-d array -/
theorem posc_array_forms_equal : ∀ r ∈ poscDb.units, ∃ c, getDefaultCategory poscDb r.sym = .ok (some c) ∧
    ∀ (f g : Option Rat) (k : SeqKind) (items : List Atom) (kw : Bool),
      let q : Qty := (Qty.simple c r.sym)
      let x : PyVal := .seq k items
      let o : Obj := ⟨q, .arr x⟩
      construct poscDb .array x (.atom (.str r.sym g)) .none = .ok o
      ∧ construct poscDb .array x (.atom (.str r.sym g)) (.str c f) = .ok o
      ∧ construct poscDb .array (.atom (.str c f)) x (.str r.sym g) = .ok o
      ∧ construct poscDb .array (.qty q) x .none = .ok o
      ∧ createWithQuantity poscDb .array q x kw none = .ok o
      ∧ Obj.eq o o = .ok true := by
  intro r hr
  obtain ⟨c, hc, hc0, hq⟩ := posc_default_category_resolves r hr
  refine ⟨c, hc, fun f g k items kw => ?_⟩
  have ha := create_array poscDb (Qty.simple c r.sym) (x := .seq k items) rfl
  obtain ⟨h1, h2, h3, h4⟩ := forms_build f g hc hc0 hq (by cases k <;> rfl) ha
  exact ⟨h1, h2, h3, h4, (createWithQuantity_eq_create _ _ kw rfl .array nofun).trans ha, (eq_self_of_tuple _ rfl).1⟩

/-- for every unit: the FixedArray forms build the same object for every container of ≥ 2 elements -/
theorem posc_fixed_forms_equal : ∀ r ∈ poscDb.units, ∃ c, getDefaultCategory poscDb r.sym = .ok (some c) ∧
    ∀ (f g : Option Rat) (k : SeqKind) (items : List Atom) (kw : Bool) (d' : Int), 2 ≤ items.length →
      let q : Qty := (Qty.simple c r.sym)
      let d : Int := items.length
      let x : PyVal := .seq k items
      let o : Obj := ⟨q, .fixed x d⟩
      construct poscDb (.fixed d) x (.atom (.str r.sym g)) .none = .ok o
      ∧ construct poscDb (.fixed d) x (.atom (.str r.sym g)) (.str c f) = .ok o
      ∧ construct poscDb (.fixed d) (.atom (.str c f)) x (.str r.sym g) = .ok o
      ∧ construct poscDb (.fixed d) (.qty q) x .none = .ok o
      ∧ createWithQuantity poscDb (.fixed d') q x kw none = .ok o
      ∧ createWithQuantity poscDb (.fixed d') q x kw (some d) = .ok o
      ∧ Obj.eq o o = .ok true := by
  intro r hr
  obtain ⟨c, hc, hc0, hq⟩ := posc_default_category_resolves r hr
  exact ⟨c, hc, fun f g k items kw d' hd => fixed_forms_equal f g k items kw d' hd hc hc0 hq⟩

/-- for every unit: Array and FixedArray forms on lists/tuples of tuples (any shape) build one object,
with the FixedArray dimension = number of tuples in every form -/
theorem posc_rows_forms_equal : ∀ r ∈ poscDb.units, ∃ c, getDefaultCategory poscDb r.sym = .ok (some c) ∧
    ∀ (f g : Option Rat) (k : SeqKind) (rows : List (List Atom)) (kw : Bool) (d' : Int),
      (construct poscDb .array (.rows k rows) (.atom (.str r.sym g)) .none = .ok ⟨(Qty.simple c r.sym), .arr (.rows k rows)⟩
        ∧ createWithQuantity poscDb .array (Qty.simple c r.sym) (.rows k rows) kw none = .ok ⟨(Qty.simple c r.sym), .arr (.rows k rows)⟩)
      ∧ (2 ≤ rows.length →
        construct poscDb (.fixed rows.length) (.rows k rows) (.atom (.str r.sym g)) .none
          = .ok ⟨(Qty.simple c r.sym), .fixed (.rows k rows) rows.length⟩
        ∧ construct poscDb (.fixed rows.length) (.atom (.str c f)) (.rows k rows) (.str r.sym g)
          = .ok ⟨(Qty.simple c r.sym), .fixed (.rows k rows) rows.length⟩
        ∧ createWithQuantity poscDb (.fixed d') (Qty.simple c r.sym) (.rows k rows) kw none
          = .ok ⟨(Qty.simple c r.sym), .fixed (.rows k rows) rows.length⟩
        ∧ createWithQuantity poscDb (.fixed d') (Qty.simple c r.sym) (.rows k rows) kw (some rows.length)
          = .ok ⟨(Qty.simple c r.sym), .fixed (.rows k rows) rows.length⟩) := by
  intro r hr
  obtain ⟨c, hc, hc0, hq⟩ := posc_default_category_resolves r hr
  refine ⟨c, hc, fun f g k rows kw d' => ⟨?_, fun hd => ?_⟩⟩
  · have ha := create_array poscDb (Qty.simple c r.sym) (x := .rows k rows) rfl
    exact ⟨(forms_build f g hc hc0 hq (by cases k <;> rfl) ha).1,
      (createWithQuantity_eq_create _ _ kw rfl .array nofun).trans ha⟩
  · have hb := create_fixed poscDb (Qty.simple c r.sym) (x := .rows k rows) (d := rows.length) rfl (by omega) rfl
    have hi := forms_build f g hc hc0 hq (by cases k <;> rfl) hb
    have hw := createWithQuantity_fixed_builds poscDb (Qty.simple c r.sym) (x := .rows k rows) (d := rows.length) kw d'
      rfl (by omega) rfl
    exact ⟨hi.1, hi.2.2.1, hw.1, hw.2⟩

/-- `forms_with_category_agree` read on the default database (no table fact is used): for every unit
and **every category that accepts the unit**, the forms naming the category agree on every value
argument, for all four classes -/
theorem posc_forms_with_any_category_agree (c u : Sym) (q : Qty) (f g : Option Rat) (cls : Cls) (x : PyVal)
    (hq : newQuantity poscDb (.str c none) u = .ok q) (hx : x.isValueFor cls = true) :
    construct poscDb cls x (.atom (.str u g)) (.str c f) = create poscDb cls q x
    ∧ construct poscDb cls (.atom (.str c f)) x (.str u g) = create poscDb cls q x
    ∧ construct poscDb cls (.qty q) x .none = create poscDb cls q x :=
  have h := forms_with_category_agree f g cls x hq hx
  ⟨h.1, h.2.1, h.2.2.2⟩

/-- for every registered category name: the object built from the category alone is the one built
from its default value and default unit, for all four classes and every FixedArray dimension (every
row of the category table is registered under its name: `catByName_of_mem`) -/
theorem posc_category_only_eq_default : ∀ c ci, poscDb.catByName c = some ci → ∀ (f g : Option Rat),
    let q : Qty := (Qty.simple c ci.defaultUnit)
    (construct poscDb .scalar (.atom (.str c f)) .none .none = .ok ⟨q, .scalar ci.defaultValue⟩
      ∧ construct poscDb .scalar (.num ci.defaultValue) (.atom (.str ci.defaultUnit g)) (.str c f)
          = .ok ⟨q, .scalar ci.defaultValue⟩)
    ∧ (construct poscDb .fraction (.atom (.str c f)) .none .none = .ok ⟨q, .fraction ci.defaultValue 0⟩
      ∧ construct poscDb .fraction (.num ci.defaultValue) (.atom (.str ci.defaultUnit g)) (.str c f)
          = .ok ⟨q, .fraction ci.defaultValue 0⟩)
    ∧ (construct poscDb .array (.atom (.str c f)) .none .none = .ok ⟨q, .arr (.seq .list [])⟩
      ∧ construct poscDb .array (.seq .list []) (.atom (.str ci.defaultUnit g)) (.str c f)
          = .ok ⟨q, .arr (.seq .list [])⟩)
    ∧ (∀ d : Int, 2 ≤ d →
        construct poscDb (.fixed d) (.atom (.str c f)) .none .none
          = .ok ⟨q, .fixed (.seq .list (List.replicate d.toNat (.num 0 false))) d⟩
        ∧ construct poscDb (.fixed d) (.seq .list (List.replicate d.toNat (.num 0 false)))
            (.atom (.str ci.defaultUnit g)) (.str c f)
          = .ok ⟨q, .fixed (.seq .list (List.replicate d.toNat (.num 0 false))) d⟩) := by
  intro c ci hci f g
  exact category_only_eq_default f g hci (posc_default_unit_accepted c ci hci)

/-- every row of the category table is reachable by its name (true of any database: `catByName_of_mem`),
so the previous theorem covers all 328 rows -/
theorem posc_every_category_registered : ∀ ci ∈ poscDb.cats, ∃ ci', poscDb.catByName ci.name = some ci' :=
  fun _ h => catByName_of_mem h

/-- `eval(repr(s)) == s` for every Scalar with a simple quantity that can be built on the default
database, whatever its value -/
theorem posc_repr_roundtrip (c u : Sym) (f : Option Rat) (q : Qty) (v : Rat)
    (hq : newQuantity poscDb (.str c f) u = .ok q) :
    reprBack poscDb ⟨q, .scalar v⟩ = some (.ok ⟨q, .scalar v⟩)
    ∧ Obj.eq ⟨q, .scalar v⟩ ⟨q, .scalar v⟩ = .ok true := by
  obtain ⟨⟨ci, hci, hcn⟩, ⟨r, hr, hrs⟩⟩ := newQuantity_rows hq
  exact repr_roundtrip v hq (hrs ▸ posc_no_quote_chars.1 r hr) (hcn ▸ posc_no_quote_chars.2 ci hci)

/-! ### the forms that are handed a Quantity: every quantity, caption included -/

/-- **`Cls(q, x)` = `Cls.CreateWithQuantity(q, x)` = `Cls.CreateWithQuantity(q, value=x)` = create(q, x)
for EVERY quantity `q`** — simple with or without unknown-unit caption, derived, empty — every class
and every value argument but `None` (equal results, errors included); for FixedArray with the
dimension given positionally, by keyword, or left to `len(x)` -/
theorem quantity_first_agrees (db : Db) (q : Qty) (x : PyVal) (kw : Bool) (hx : x.isNone = false) :
    (∀ cls : Cls, construct db cls (.qty q) x .none = create db cls q x)
    ∧ createWithQuantity db .scalar q x kw none = create db .scalar q x
    ∧ createWithQuantity db .fraction q x kw none = create db .fraction q x
    ∧ createWithQuantity db .array q x kw none = create db .array q x
    ∧ (∀ d d' : Int, createWithQuantity db (.fixed d') q x kw (some d) = create db (.fixed d) q x)
    ∧ (∀ d d' : Int, pyLen x = .ok d → createWithQuantity db (.fixed d') q x kw none = create db (.fixed d) q x) := 
  ⟨fun cls => construct_quantity_first db cls q hx, createWithQuantity_agrees db q x kw hx⟩

/-- **the object holds exactly the quantity it was built from** (category, unit, composing map and
caption): whatever `Cls(q, x)` or `Cls.CreateWithQuantity(q, x)` builds has `GetQuantity() = q` (for
`CreateWithQuantity` also when `x` is `None`: `createWithQuantity_q`) -/
theorem created_object_holds_quantity (db : Db) (cls : Cls) (q : Qty) (x : PyVal) (kw : Bool) (dimKw : Option Int)
    (o : Obj) :
    (create db cls q x = .ok o → o.q = q)
    ∧ (construct db cls (.qty q) x .none = .ok o → x.isNone = false → o.q = q)
    ∧ (createWithQuantity db cls q x kw dimKw = .ok o → x.isNone = false → o.q = q) := by
  have hc : create db cls q x = .ok o → o.q = q := fun h => internalCreate_q (dimGuard_ok (create_eq .. ▸ h))
  exact ⟨hc, fun h hx => hc (construct_quantity_first db cls q hx ▸ h), fun h _ => createWithQuantity_q h⟩

/-- **the caption is part of an object's identity**: `a == b` is `True` only when the two quantities
have the same composing map and the same unknown-unit caption -/
theorem eq_needs_same_caption (a b : Obj) (h : Obj.eq a b = .ok true) :
    a.q.caption = b.q.caption ∧ a.q.items = b.q.items := by
  have hp := objEq_pyEq h
  refine ⟨pyEq_caption hp, ?_⟩
  simp only [Qty.pyEq, Bool.and_eq_true, beq_iff_eq] at hp
  exact hp.1

/-- an object built on a quantity is never `==` to the object built on the same quantity with another
caption (Scalar shown; the other classes compare the quantities the same way) -/
theorem other_caption_other_object (q : Qty) (cap : Sym) (v w : Rat) (h : cap ≠ q.caption) :
    Obj.eq ⟨q, .scalar v⟩ ⟨q.withCaption cap, .scalar w⟩ = .ok false := by
  have : (q.caption == cap) = false := by simpa using fun e => h e.symm
  simp [Obj.eq, Qty.pyEq, Qty.withCaption, this]

/-- **`ObtainQuantity(unit, category, caption)`, `ObtainQuantity(OrderedDict(…), None, caption)` and
`units.GetUnknownQuantity(caption)` return a quantity carrying that caption** (`None` is stored as
`""`), so by the two theorems above `X(q, v)` and `X.CreateWithQuantity(q, v)` both carry it -/
theorem obtained_quantity_carries_caption (db : Db) (unit : PyVal) (category : Atom) (cap : Sym) (f : Option Rat)
    (items : List (Sym × Sym × Int)) (q : Qty) :
    (obtainQuantityC db unit category (.str cap f) = .ok q → q.caption = cap)
    ∧ (obtainQuantityC db unit category .none = .ok q → q.caption = 0)
    ∧ (obtainDict db items (.str cap f) = .ok q → q.caption = cap)
    ∧ (obtainDict db items .none = .ok q → q.caption = 0)
    ∧ (unknownQuantity db (.str cap f) = .ok q → q.caption = cap)
    ∧ (unknownQuantity db .none = .ok q → q.caption = 0) := 
  ⟨fun h => caption_of (obtainQuantityC_caption h) rfl, fun h => caption_of (obtainQuantityC_caption h) rfl,
    fun h => caption_of (obtainDict_caption h) rfl, fun h => caption_of (obtainDict_caption h) rfl,
    fun h => unknownQuantity_caption h rfl, fun h => unknownQuantity_caption h rfl⟩

/-- **all quantity-first forms build one object on a quantity with a caption (or a derived, or the empty
one), and it equals itself**: Scalar and FractionScalar from a number, Array and FixedArray from a
container -/
theorem quantity_first_forms_equal (db : Db) (q : Qty) (kw : Bool) :
    (∀ (v : Rat) (i : Bool),
        construct db .scalar (.qty q) (.atom (.num v i)) .none = .ok ⟨q, .scalar v⟩
        ∧ createWithQuantity db .scalar q (.atom (.num v i)) kw none = .ok ⟨q, .scalar v⟩
        ∧ construct db .fraction (.qty q) (.atom (.num v i)) .none = .ok ⟨q, .fraction v 0⟩
        ∧ createWithQuantity db .fraction q (.atom (.num v i)) kw none = .ok ⟨q, .fraction v 0⟩
        ∧ Obj.eq ⟨q, .scalar v⟩ ⟨q, .scalar v⟩ = .ok true
        ∧ Obj.eq ⟨q, .fraction v 0⟩ ⟨q, .fraction v 0⟩ = .ok true)
    ∧ (∀ (k : SeqKind) (items : List Atom),
        construct db .array (.qty q) (.seq k items) .none = .ok ⟨q, .arr (.seq k items)⟩
        ∧ createWithQuantity db .array q (.seq k items) kw none = .ok ⟨q, .arr (.seq k items)⟩
        ∧ Obj.eq ⟨q, .arr (.seq k items)⟩ ⟨q, .arr (.seq k items)⟩ = .ok true
        ∧ (2 ≤ items.length → ∀ d' : Int,
            construct db (.fixed items.length) (.qty q) (.seq k items) .none = .ok ⟨q, .fixed (.seq k items) items.length⟩
            ∧ createWithQuantity db (.fixed d') q (.seq k items) kw none = .ok ⟨q, .fixed (.seq k items) items.length⟩
            ∧ createWithQuantity db (.fixed d') q (.seq k items) kw (some items.length)
                = .ok ⟨q, .fixed (.seq k items) items.length⟩
            ∧ Obj.eq ⟨q, .fixed (.seq k items) items.length⟩ ⟨q, .fixed (.seq k items) items.length⟩ = .ok true)) := by
  constructor
  · intro v i
    have hq := quantity_first_agrees db q (.atom (.num v i)) kw rfl
    exact ⟨hq.1 .scalar, hq.2.1, hq.1 .fraction, hq.2.2.1, (eq_self q).1 v, (eq_self q).2.1 v 0⟩
  · intro k items
    have hq := quantity_first_agrees db q (.seq k items) kw rfl
    have ha := create_array db q (x := .seq k items) rfl
    refine ⟨(hq.1 .array).trans ha, hq.2.2.2.1.trans ha, (eq_self q).2.2.1 k items, fun hd d' => ?_⟩
    have hl : pyLen (.seq k items) = .ok (items.length : Int) := rfl
    have hf := create_fixed db q (x := .seq k items) rfl (by omega) hl
    exact ⟨(hq.1 _).trans hf, (hq.2.2.2.2.2 _ d' hl).trans hf, (hq.2.2.2.2.1 _ d').trans hf,
      (eq_self q).2.2.2 k items _⟩

/-- **`ObtainQuantity([(unit, exponent), …], [category, …], caption)` is the dict form of the zipped
lists**, except for one pair with exponent 1, which is the simple quantity of `category[0]`; either
way the quantity carries the caption -/
theorem pairs_form_agrees (db : Db) (pairs : List (Sym × Int)) (cats : List Sym) (cap : Atom) (q : Qty) :
    ((∀ u, pairs ≠ [(u, 1)]) → obtainPairs db pairs cats cap = obtainDict db (odictZip cats pairs) cap)
    ∧ (∀ u c rest, obtainPairs db [(u, 1)] (c :: rest) cap = newQuantityC db (.str c none) u cap)
    ∧ (obtainPairs db pairs cats cap = .ok q → capOf cap = .ok q.caption) := by
  refine ⟨fun h => ?_, fun u c rest => rfl, fun h => ?_⟩
  · unfold obtainPairs
    split
    · rename_i u e
      split
      · rename_i he
        have : e = 1 := by simpa using he
        exact absurd (this ▸ rfl) (h u)
      · rfl
    · rfl
  · unfold obtainPairs at h
    split at h
    · split at h
      · split at h
        · exact newQuantityC_caption h
        · cases h
      · exact obtainDict_caption h
    · exact obtainDict_caption h

/-- **the legacy constructor `Quantity(c, u, caption)` builds the quantity `ObtainQuantity(u, c, caption)`
returns** (for a string unit and a named category), and `Quantity(c, None, caption)` the one of the
category's default unit; both carry the caption.  (The condition on `capOf cap` is not needed: a caption
that is no string makes both sides fail with the same `AssertionError`.) -/
theorem legacy_constructor_agrees (db : Db) (c u : Sym) (f g : Option Rat) (cap : Atom) (ci : CatRow) (q : Qty) :
    quantityInit db (.str c f) (.str u g) cap = obtainQuantityC db (.atom (.str u g)) (.str c f) cap
    ∧ (db.catByName c = some ci → capOf cap ≠ .error .assertion →
        quantityInit db (.str c f) .none cap = obtainQuantityC db (.atom .none) (.str c f) cap)
    ∧ (quantityInit db (.str c f) (.str u g) cap = .ok q → capOf cap = .ok q.caption) := by
  refine ⟨rfl, fun hci _ => ?_, fun h => newQuantityC_caption (quantityInit_str .. ▸ h)⟩
  -- both sides look at the caption first and then take the default unit of the category
  cases hc : capOf cap <;>
    simp [quantityInit, obtainQuantityC, obtainAtomC, obtainNonStrC, getCategoryInfo, newQuantityC, hci, hc, Atom.isNone]

/-- **the value given twice** — positionally and as `value=` — is refused by `Array.CreateWithQuantity`
and `FixedArray.CreateWithQuantity` ("Duplicated values parameter given") and is a `TypeError` for
Scalar and FractionScalar; `value=None` next to the positional value is as if it was not given -/
theorem duplicated_values_rejected (db : Db) (q : Qty) (x : PyVal) (a : Atom) (dimKw : Option Int) (d : Int)
    (hx : x.isNone = false) :
    (a.isNone = false →
        createWithQuantityBoth .array q x a none = .error .value
        ∧ createWithQuantityBoth (.fixed d) q x a dimKw = .error .value)
    ∧ createWithQuantityBoth .array q x .none none = createWithQuantity db .array q x false none
    ∧ createWithQuantityBoth (.fixed d) q x .none dimKw = createWithQuantity db (.fixed d) q x false dimKw
    ∧ createWithQuantityBoth .scalar q x a dimKw = .error .type
    ∧ createWithQuantityBoth .fraction q x a dimKw = .error .type := by
  refine ⟨fun ha => ?_, rfl, rfl, rfl, rfl⟩
  have hn : (PyVal.atom a).isNone = false := by cases a <;> simp_all [PyVal.isNone, Atom.isNone]
  simp [createWithQuantityBoth, arrayInternal, fixedInternal, pickValues, hx, hn]

/-- **`eval(repr(s)) == s` does NOT hold for a Scalar whose simple quantity carries an unknown-unit
caption** (the code as it is): the printed text shows value, unit and category only, so the Scalar read
back has the caption `""` and `==` tells the two apart.  `repr_roundtrip` is about quantities
`Quantity(c, u)` builds, which have no caption. -/
theorem repr_forgets_caption {db : Db} {c u cap : Sym} {f g : Option Rat} {q : Qty} (v : Rat)
    (hq : newQuantityC db (.str c f) u (.str cap g) = .ok q) (hcap : cap ≠ 0)
    (hu : litOk q.unit = true) (hc : litOk q.cat = true) :
    reprBack db ⟨q, .scalar v⟩ = some (.ok ⟨q.withCaption 0, .scalar v⟩)
    ∧ Obj.eq ⟨q.withCaption 0, .scalar v⟩ ⟨q, .scalar v⟩ = .ok false := by
  rw [newQuantityC_eq db _ u _ cap rfl] at hq
  cases hq0 : newQuantity db (.str c f) u with
  | error e => rw [hq0] at hq; cases hq
  | ok q0 =>
    rw [hq0] at hq
    cases hq
    have hcap0 : q0.caption = 0 := (newQuantity_simple hq0).2
    have hw : (q0.withCaption cap).withCaption 0 = q0 := by
      obtain ⟨_, _, _, _⟩ := q0; cases hcap0; rfl
    rw [hw]
    refine ⟨(repr_roundtrip (db := db) v hq0 hu hc).1, ?_⟩
    simp [Obj.eq, Qty.pyEq, Qty.withCaption, Qty.items, hcap0, Ne.symm hcap]

/-! ### every reachable state of a private database -/

/-- **questions, failed constructions and constructions never change the database**: the state a
history reaches is the state its registrations alone reach -/
theorem history_state_is_its_registrations (lg : List (Sym × Sym)) (r : Reg.Registry) (ops : List HOp) :
    hrun lg r ops = Reg.run lg r (regsOf ops) := hrun_eq_run lg ops r

/-- **every answer is a function of the current registry only**: after any history, `GetDefaultCategory(u)`
and every construction call give what they give on the database built by the registrations of that
history alone — whatever was asked, tried or built before (no memory of earlier questions) -/
theorem history_answers_from_registry (lg : List (Sym × Sym)) (r : Reg.Registry) (ops : List HOp) (u : Sym)
    (cs : List Call) :
    houts lg r (ops ++ [.defcat u])
      = houts lg r ops ++ [.defcat (getDefaultCategory (dbOf lg (Reg.run lg r (regsOf ops))) u)]
    ∧ houts lg r (ops ++ [.calls cs])
      = houts lg r ops ++ [.calls (cs.map (runCall (dbOf lg (Reg.run lg r (regsOf ops)))))] := by
  constructor <;> rw [houts_append, hrun_eq_run] <;> rfl

/-- two histories with the same registrations (in the same order) reach the same database, so any
question or construction that follows gets the same answer in both -/
theorem same_registrations_same_answers (lg : List (Sym × Sym)) (r : Reg.Registry) (ops ops' : List HOp) (q : HOp)
    (h : regsOf ops = regsOf ops') :
    hrun lg r ops = hrun lg r ops' ∧ (hstep lg (hrun lg r ops) q).2 = (hstep lg (hrun lg r ops') q).2 := by
  have : hrun lg r ops = hrun lg r ops' := by rw [hrun_eq_run, hrun_eq_run, h]
  exact ⟨this, by rw [this]⟩

/-- **a category registered late is found**: once `AddCategory(c, …)` has been accepted, a registered
unit whose row has no `default_category` entry and whose quantity type is named `c` has default
category `c` — whatever the answer was before the registration -/
theorem default_category_after_registration (lg : List (Sym × Sym)) (r r' : Reg.Registry) (a : Reg.CatArgs)
    (ci : CatRow) (u : Sym) (w : UnitRow)
    (hreg : Reg.addCategory lg r a = (r', .ok ci))
    (hu : (dbOf lg r).unitBySym u = some w) (hd : w.defaultCat = 0) (hn : w.qtype = ci.name) :
    getDefaultCategory (dbOf lg r') u = .ok (some ci.name) := by
  rcases Reg.addCategory_spec lg r a with ⟨e, he⟩ | ⟨info, _, _, _, _, he⟩
  · rw [he] at hreg; cases hreg
  · rw [he] at hreg
    cases hreg
    exact getDefaultCategory_of_row (ci := ci) hu hd hn (catByName_catSet _ lg ci r.cats)

/-- **a unit registered late is found**: `AddUnit(qt, name, u, …)` (no `default_category`) accepted on a
database that did not know `u` and has a category named `qt`: from then on the default category of `u`
is `qt` — whatever `GetDefaultCategory(u)` answered before -/
theorem default_category_after_unit_registration (lg : List (Sym × Sym)) (r r' : Reg.Registry)
    (qt name u : Sym) (fb tb : Reg.Formula) (ci : CatRow)
    (hreg : Reg.addUnit r (.str qt) name (.str u) fb tb 0 = (r', .ok ()))
    (hnew : (dbOf lg r).unitBySym u = none) (hc : (dbOf lg r).catByName qt = some ci) :
    getDefaultCategory (dbOf lg r') u = .ok (some qt) := by
  simp only [Reg.addUnit, Reg.addInfo] at hreg
  split at hreg
  · cases hreg
  · rename_i info hmk
    have hinfo : info.qtype = qt ∧ info.sym = u ∧ info.defaultCat = 0 := by
      unfold Reg.mkInfo at hmk
      split at hmk
      · cases hmk
      · split at hmk
        · cases hmk
        · cases hmk; exact ⟨rfl, rfl, rfl⟩
    split at hreg
    · cases hreg
    · split at hreg
      · cases hreg
      · cases hreg
        exact getDefaultCategory_of_row (ci := ci)
          (find_after_append _ info qt (by simp [hinfo.2.1]) r.types hnew) hinfo.2.2 hinfo.1 hc

/-- **the object built from a category alone (or from a quantity alone) does not depend on the history**:
after ANY history — registrations, questions, constructions, and in-place operations (`append`, `extend`,
item assignment, in-place numpy arithmetic) on the containers that earlier objects handed out — every
construction call gives what it gives on the database built by the registrations of that history alone.
This holds by the shape of the model: the state of a history (`hstep`) is the registry alone and keeps
no object, which is the modelling decision that no default container is shared between objects; the
theorem records that `construct` and `runCall` read nothing else. -/
theorem categoryOnly_history_independent (lg : List (Sym × Sym)) (r : Reg.Registry) (ops : List HOp)
    (cls : Cls) (c : Atom) (q : Qty) (f : Call) :
    construct (dbOf lg (hrun lg r ops)) cls (.atom c) .none .none
      = construct (dbOf lg (Reg.run lg r (regsOf ops))) cls (.atom c) .none .none
    ∧ construct (dbOf lg (hrun lg r ops)) cls (.qty q) .none .none
      = construct (dbOf lg (Reg.run lg r (regsOf ops))) cls (.qty q) .none .none
    ∧ runCall (dbOf lg (hrun lg r ops)) f = runCall (dbOf lg (Reg.run lg r (regsOf ops))) f := by
  rw [hrun_eq_run]; exact ⟨rfl, rfl, rfl⟩

/-- **operating on a handed-out container changes that object only**: the step leaves the registry
alone, reports the object as built from the registry as it is, and two histories that differ only in
such steps (same registrations) answer every later step alike.  (Immediate from `hstep`, whose `.mut`
case returns the registry it was given.) -/
theorem mutation_touches_only_its_object (lg : List (Sym × Sym)) (r : Reg.Registry) (c : Call) (ms : List Mut)
    (ops : List HOp) (q : HOp) :
    (hstep lg r (.mut c ms)).1 = r
    ∧ (∃ after, (hstep lg r (.mut c ms)).2 = .mut (runCall (dbOf lg r) c) after)
    ∧ (hstep lg (hrun lg r (ops ++ [.mut c ms])) q).2 = (hstep lg (hrun lg r ops) q).2 := by
  refine ⟨rfl, ⟨_, rfl⟩, ?_⟩
  rw [hrun_append]; rfl

/-- **the category alone equals (default value, default unit, category) in every reachable state**:
after ANY history (mutations of handed-out containers included), for a category `c` the registry
knows and whose default unit it accepts, `Array(c)` is `Array([], default_unit, c)` — the EMPTY list —
and `FixedArray(d, c)` is `FixedArray(d, [0.0] * d, default_unit, c)`, and they compare equal -/
theorem category_only_eq_default_in_every_reachable_state (lg : List (Sym × Sym)) (r : Reg.Registry)
    (ops : List HOp) {c : Sym} {ci : CatRow} {q : Qty} (f g : Option Rat) (d : Int) :
    let db := dbOf lg (Reg.run lg r (regsOf ops))
    db.catByName c = some ci → newQuantity db (.str c none) ci.defaultUnit = .ok q →
    let dbh := dbOf lg (hrun lg r ops)
    construct dbh .array (.atom (.str c f)) .none .none = .ok ⟨q, .arr (.seq .list [])⟩
    ∧ construct dbh .array (.seq .list []) (.atom (.str ci.defaultUnit g)) (.str c f) = .ok ⟨q, .arr (.seq .list [])⟩
    ∧ (2 ≤ d →
        construct dbh (.fixed d) (.atom (.str c f)) .none .none
          = .ok ⟨q, .fixed (.seq .list (List.replicate d.toNat (.num 0 false))) d⟩
        ∧ construct dbh (.fixed d) (.seq .list (List.replicate d.toNat (.num 0 false)))
            (.atom (.str ci.defaultUnit g)) (.str c f)
          = .ok ⟨q, .fixed (.seq .list (List.replicate d.toNat (.num 0 false))) d⟩) := by
  intro db hci hq dbh
  have : dbh = db := by simp only [dbh, db, hrun_eq_run]
  rw [this]
  have h := category_only_eq_default (db := db) f g hci hq
  exact ⟨h.2.2.1.1, h.2.2.1.2, fun hd => ⟨(h.2.2.2 d hd).1, (h.2.2.2 d hd).2⟩⟩

/-- **the forms agree in every reachable state**: after ANY history of registrations, questions and
(failed) constructions on a private database, if the registry now gives the unit `u` the default
category `c` and `Quantity(c, u)` exists, all Scalar forms build one object for every number (the
same holds for the other classes: the theorems above are stated for every database) -/
theorem forms_equal_in_every_reachable_state (lg : List (Sym × Sym)) (r : Reg.Registry) (ops : List HOp)
    {c u : Sym} {q : Qty} (f g : Option Rat) (v : Rat) (i kw : Bool) :
    let db := dbOf lg (Reg.run lg r (regsOf ops))
    getDefaultCategory db u = .ok (some c) → c ≠ 0 → newQuantity db (.str c none) u = .ok q →
    let dbh := dbOf lg (hrun lg r ops)
    let o : Obj := ⟨q, .scalar v⟩
    construct dbh .scalar (.atom (.num v i)) (.atom (.str u g)) .none = .ok o
    ∧ construct dbh .scalar (.atom (.num v i)) (.atom (.str u g)) (.str c f) = .ok o
    ∧ construct dbh .scalar (.atom (.str c f)) (.atom (.num v i)) (.str u g) = .ok o
    ∧ construct dbh .scalar (.seq .tuple [.num v i, .str u g]) .none .none = .ok o
    ∧ obtainQuantity dbh (.atom (.str u g)) (.str c f) = .ok q
    ∧ construct dbh .scalar (.qty q) (.atom (.num v i)) .none = .ok o
    ∧ createWithQuantity dbh .scalar q (.atom (.num v i)) kw none = .ok o
    ∧ Obj.eq o o = .ok true := by
  intro db hc hc0 hq dbh o
  have : dbh = db := by simp only [dbh, db, hrun_eq_run]
  rw [this]
  exact scalar_forms f g (.num v i) v kw rfl rfl hc hc0 hq

end Barril.Ctor
