/- Non-vacuity examples of C19, in a module of their own (tools/split_examples.py): they evaluate concrete
instances, many over the regenerated tables, and must not be able to stop the theorem module from building.
Not property theorems: the check builds this module separately and only records the outcome. -/
import Barril.Props.C19
import Barril.Proofs.CtorPoscFacts

namespace Barril.Ctor
open Barril Barril.Gen

example : getDefaultCategory poscDb (Sym.ofString "m") = .ok (some (Sym.ofString "length")) := Posc.m_default
example : getDefaultCategory poscDb (Sym.ofString "1000ft3/d") = getDefaultCategory poscDb (Sym.ofString "Mcf/d") := by
  rw [poscDb_flat]; decide +kernel
example : newQuantity poscDb (.str (Sym.ofString "length") none) (Sym.ofString "m")
    = .ok (Qty.simple (Sym.ofString "length") (Sym.ofString "m")) := Posc.length_m
example : construct poscDb .scalar (.num (5/2)) (.str (Sym.ofString "m")) .none
    = .ok ⟨(Qty.simple (Sym.ofString "length") (Sym.ofString "m")), .scalar (5/2)⟩ :=
  (scalar_forms none none (.num (5/2) false) _ false rfl rfl Posc.m_default Posc.length_ne Posc.length_m).1
example : construct poscDb .scalar (.str (Sym.ofString "length")) (.num (5/2)) (.str (Sym.ofString "m") none)
    = construct poscDb .scalar (.seq .tuple [.num (5/2) false, .str (Sym.ofString "m") none]) .none .none :=
  have h := scalar_forms none none (.num (5/2) false) _ false rfl rfl Posc.m_default Posc.length_ne Posc.length_m
  h.2.2.1.trans h.2.2.2.1.symm
example : construct poscDb .scalar (.num 1) (.str (Sym.ofString "m")) (.str (Sym.ofString "depth") none)
    ≠ construct poscDb .scalar (.num 1) (.str (Sym.ofString "m")) .none :=
  fun h => absurd
    (((forms_with_category_agree none none .scalar _ Posc.depth_m rfl).1.symm.trans h).trans
      (scalar_forms none none (.num 1 false) _ false rfl rfl Posc.m_default Posc.length_ne Posc.length_m).1)
    (by decide +kernel)
example : construct poscDb .scalar (.str (Sym.ofString "length")) (.num 1) .none = .error .assertion := by
  decide +kernel
example : construct poscDb .scalar (.num 1) (.str (Sym.ofString "s")) (.str (Sym.ofString "length") none)
    = .error .units := by
  rw [poscDb_flat]; decide +kernel
example : construct poscDb (.fixed 1) (.seq .list [.num 1 true]) (.str (Sym.ofString "m")) .none = .error .value := by
  decide +kernel
example : construct poscDb (.fixed 2) (.seq .list [.num 1 true, .num 2 true]) (.str (Sym.ofString "m")) .none
    = createWithQuantity poscDb (.fixed 0) (Qty.simple (Sym.ofString "length") (Sym.ofString "m"))
        (.seq .list [.num 1 true, .num 2 true]) true none :=
  (form_without_category_agrees none (.fixed 2) _ Posc.m_default Posc.length_ne Posc.length_m rfl).1.trans
    ((createWithQuantity_agrees poscDb _ _ true rfl).2.2.2.2 2 0 rfl).symm
example : construct poscDb (.fixed 3) (.seq .list [.num 1 true, .num 2 true]) (.str (Sym.ofString "m")) .none
    = .error .value := (form_without_category_agrees none (.fixed 3) _ Posc.m_default Posc.length_ne Posc.length_m rfl).1
example : parseLit (quoteLit (Sym.bytes (Sym.ofString "m'"))) = none := by decide +kernel
example : reprBack poscDb ⟨(Qty.simple (Sym.ofString "length") (Sym.ofString "m")), .scalar (5/2)⟩
    = some (.ok ⟨(Qty.simple (Sym.ofString "length") (Sym.ofString "m")), .scalar (5/2)⟩) :=
  (posc_repr_roundtrip _ _ none _ _ Posc.length_m).1
example : Obj.eq ⟨(Qty.simple 1 2), .arr (.seq .list [.num 2 true])⟩ ⟨(Qty.simple 1 2), .arr (.seq .tuple [.num 2 false])⟩ = .ok true := by
  decide
example : Obj.eq ⟨(Qty.simple 1 2), .arr (.seq .list [.num 2 true, .num 3 true])⟩
    ⟨(Qty.simple 1 2), .fixed (.seq .list [.num 2 true, .num 3 true]) 2⟩ = .ok false := by decide
example : Obj.eq ⟨(Qty.simple 1 2), .arr (.num 5)⟩ ⟨(Qty.simple 1 2), .arr (.num 5)⟩ = .error .type := by decide

-- an int that no double holds: every form stores the float image, and the int itself is != to it
example : construct poscDb .scalar (.atom (.big (2^53 + 1) (2^53))) (.str (Sym.ofString "m")) .none
    = .ok ⟨(Qty.simple (Sym.ofString "length") (Sym.ofString "m")), .scalar (2^53)⟩ :=
  (scalar_forms none none (.big (2^53 + 1) (2^53)) _ false rfl rfl Posc.m_default Posc.length_ne Posc.length_m).1
example : createWithQuantity poscDb .scalar (Qty.simple (Sym.ofString "length") (Sym.ofString "m")) (.atom (.big (2^53 + 1) (2^53))) false none
    = construct poscDb .scalar (.atom (.big (2^53 + 1) (2^53))) (.str (Sym.ofString "m")) .none :=
  (createWithQuantity_agrees poscDb _ _ false rfl).1.trans
    (form_without_category_agrees none .scalar _ Posc.m_default Posc.length_ne Posc.length_m rfl).1.symm
example : atomEq (.big (2^53 + 1) (2^53)) (.num (2^53) false) = false := by decide +kernel
example : atomEq (.bool true) (.num 1 false) = true := by decide +kernel
example : construct poscDb .fraction (.atom (.bool true)) (.str (Sym.ofString "m")) .none
    = .ok ⟨(Qty.simple (Sym.ofString "length") (Sym.ofString "m")), .fraction 1 0⟩ :=
  (fraction_forms_store_float none none (.bool true) 1 false rfl rfl Posc.m_default Posc.length_ne Posc.length_m).1

-- a list of 2 tuples of size 3: the FixedArray dimension is 2 in every form, CreateWithQuantity included
example : createWithQuantity poscDb (.fixed 0) (Qty.simple (Sym.ofString "length") (Sym.ofString "m"))
      (.rows .list [[.num 1 true, .num 2 true, .num 3 true], [.num 4 true, .num 5 true, .num 6 true]]) false none
    = construct poscDb (.fixed 2)
      (.rows .list [[.num 1 true, .num 2 true, .num 3 true], [.num 4 true, .num 5 true, .num 6 true]])
      (.str (Sym.ofString "m")) .none :=
  ((createWithQuantity_agrees poscDb _ _ false rfl).2.2.2.2 2 0 rfl).trans
    (form_without_category_agrees none (.fixed 2) _ Posc.m_default Posc.length_ne Posc.length_m rfl).1.symm
example : (construct poscDb (.fixed 2) (.rows .list [[.num 1 true], [.num 4 true, .num 5 true]])
      (.str (Sym.ofString "m")) .none).toBool = true :=
  congrArg Except.toBool (form_without_category_agrees none (.fixed 2) _ Posc.m_default Posc.length_ne Posc.length_m rfl).1
example : construct poscDb (.fixed 3) (.rows .list [[.num 1 true, .num 2 true, .num 3 true], [.num 4 true, .num 5 true, .num 6 true]])
      (.str (Sym.ofString "m")) .none = .error .value :=
  (form_without_category_agrees none (.fixed 3) _ Posc.m_default Posc.length_ne Posc.length_m rfl).1
-- `[("m", 1)]` as a unit is "a simple case" and stands for `m`
example : obtainQuantity poscDb (.rows .list [[.str (Sym.ofString "m") none, .num 1 true]]) (.str (Sym.ofString "length") none)
    = .ok (Qty.simple (Sym.ofString "length") (Sym.ofString "m")) := by
  simp only [obtainQuantity, obtainQuantityC, obtainRowsC, atomEq, Atom.numVal, beq_self_eq_true, ↓reduceIte]
  exact Posc.length_m
example : elemsEq [.row [.num 1 true, .num 2 false]] [.row [.num 1 false, .num 2 true]] = true := by decide +kernel
example : elemsEq [.row [.num 1 true]] [.atom (.num 1 true)] = false := by decide +kernel

-- quantities with an unknown-unit caption: ObtainQuantity keeps it, the quantity-first forms keep it, `==` sees it
example : obtainQuantityC poscDb (.atom (.str (Sym.ofString "m") none)) (.str (Sym.ofString "length") none)
      (.str (Sym.ofString "Feeeet") none)
    = .ok ⟨Sym.ofString "length", Sym.ofString "m", Sym.ofString "Feeeet", none⟩ :=
  (obtainQuantityC_str ..).trans (newQuantityC_simple rfl Posc.length_m)
example : unknownQuantity poscDb (.str (Sym.ofString "Feeeet") none)
    = .ok ⟨Sym.ofString "Unknown", Sym.ofString "<unknown>", Sym.ofString "Feeeet", none⟩ :=
  (if_pos (by decide +kernel)).trans ((obtainQuantityC_str ..).trans (newQuantityC_simple rfl Posc.unknown_unit))
example : unknownQuantity poscDb .none = .ok (Qty.simple (Sym.ofString "Unknown") (Sym.ofString "<unknown>")) :=
  (if_neg (by decide)).trans ((obtainQuantity_str ..).trans Posc.unknown_unit)
example : construct poscDb .scalar (.qty ⟨Sym.ofString "length", Sym.ofString "m", Sym.ofString "Feeeet", none⟩) (.num (5/2)) .none
    = createWithQuantity poscDb .scalar ⟨Sym.ofString "length", Sym.ofString "m", Sym.ofString "Feeeet", none⟩ (.num (5/2)) false none := by
  decide +kernel
example : (construct poscDb .scalar (.qty ⟨Sym.ofString "length", Sym.ofString "m", Sym.ofString "Feeeet", none⟩) (.num (5/2)) .none).toOption.map (·.q.caption)
    = some (Sym.ofString "Feeeet") := by decide +kernel
example : Obj.eq ⟨⟨1, 2, 7, none⟩, .scalar 1⟩ ⟨⟨1, 2, 0, none⟩, .scalar 1⟩ = .ok false := by decide
example : Obj.eq ⟨⟨1, 2, 7, none⟩, .arr (.seq .list [.num 1 true])⟩ ⟨⟨1, 2, 7, none⟩, .arr (.seq .tuple [.num 1 false])⟩ = .ok true := by
  decide
-- a derived quantity (two entries), the one-entry dict that is a simple quantity, the empty quantity
example : obtainDict poscDb [(Sym.ofString "length", Sym.ofString "m", 1), (Sym.ofString "time", Sym.ofString "s", -2)] .none
    = .ok ⟨0, 0, 0, some [(Sym.ofString "length", Sym.ofString "m", 1), (Sym.ofString "time", Sym.ofString "s", -2)]⟩ := by
  rw [poscDb_flat]; decide +kernel
example : obtainDict poscDb [(Sym.ofString "length", Sym.ofString "m", 1)] (.str 7 none)
    = .ok ⟨Sym.ofString "length", Sym.ofString "m", 7, none⟩ :=
  (obtainDict_simple ..).trans (newQuantityC_simple rfl Posc.length_m)
example : obtainDict poscDb [] .none = .ok Qty.empty := by decide +kernel
example : createEmpty poscDb .scalar (.num 3) = createWithQuantity poscDb .scalar Qty.empty (.num 3) true none := by
  decide +kernel
-- a bad caption is rejected before anything else
example : obtainQuantityC poscDb (.atom (.str (Sym.ofString "m") none)) (.str (Sym.ofString "length") none) (.num 3 true)
    = .error .assertion := by decide +kernel

-- a history on a private database: a unit asked about before its category exists, then the category
-- is registered: the second answer comes from the registry as it is then, and the unit-only form builds
def exBase : HOp := .reg (.addUnitBase (.str 11) 1 (.str 21))
def exUnit : HOp := .reg (.addUnit (.str 11) 2 (.str 22) (.mob ⟨0, 100, 1, 0⟩) (.mob ⟨0, 1, 100, 0⟩) 0)
def exCat : HOp := .reg (.addCategory ⟨.str 11, some 11, none, false, none, none, none, none, false, false, 0, none⟩)
def exCall : Call := ⟨.ctor, .scalar, .val (.num 3), .val (.str 22), .none, false, none⟩

example : houts [] Reg.Registry.empty [exBase, exUnit, .defcat 22, exCat, .defcat 22]
    = [.reg (.ok .unit), .reg (.ok .unit), .defcat (.ok none),
       (hstep [] (hrun [] Reg.Registry.empty [exBase, exUnit]) exCat).2, .defcat (.ok (some 11))] := by
  decide +kernel
example : (houts [] Reg.Registry.empty [exBase, exUnit, .calls [exCall], exCat, .calls [exCall]]).getLast?
    = some (.calls [some (.ok ⟨Qty.simple 11 22, .scalar 3⟩)]) := by decide +kernel
example : (houts [] Reg.Registry.empty [exBase, exUnit, .calls [exCall]]).getLast?
    = some (.calls [some (.error .units)]) := by decide +kernel
example : regsOf [exBase, .defcat 22, exUnit, .calls [exCall], exCat]
    = [.addUnitBase (.str 11) 1 (.str 21), .addUnit (.str 11) 2 (.str 22) (.mob ⟨0, 100, 1, 0⟩) (.mob ⟨0, 1, 100, 0⟩) 0,
       .addCategory ⟨.str 11, some 11, none, false, none, none, none, none, false, false, 0, none⟩] := by decide +kernel

-- the list form of a composition: zipped into the dict form; one pair with exponent 1 is the simple quantity; a
-- repeated category keeps its place and takes the last pair; no category for the simple case is an IndexError
example : obtainPairs poscDb [(Sym.ofString "m", 1), (Sym.ofString "s", -2)] [Sym.ofString "length", Sym.ofString "time"] .none
    = obtainDict poscDb [(Sym.ofString "length", Sym.ofString "m", 1), (Sym.ofString "time", Sym.ofString "s", -2)] .none :=
  ((pairs_form_agrees poscDb _ _ _ Qty.empty).1 (fun _ h => by cases h)).trans
    (congrArg (fun d => obtainDict poscDb d .none) (by decide +kernel))
example : obtainPairs poscDb [(Sym.ofString "m", 1)] [Sym.ofString "length"] (.str 7 none)
    = .ok ⟨Sym.ofString "length", Sym.ofString "m", 7, none⟩ :=
  ((pairs_form_agrees poscDb [] [] _ Qty.empty).2.1 ..).trans (newQuantityC_simple rfl Posc.length_m)
example : obtainPairs poscDb [(Sym.ofString "m", 1)] [] .none = .error .index := by decide +kernel
example : odictZip [1, 2, 1] [(5, 1), (6, 2), (7, 3)] = [(1, 7, 3), (2, 6, 2)] := by decide
-- the value twice
example : createWithQuantityBoth .array (Qty.simple 1 2) (.seq .list [.num 1 true]) (.num 2 false) none = .error .value := by decide
example : createWithQuantityBoth .array (Qty.simple 1 2) (.seq .list [.num 1 true]) .none none
    = .ok ⟨Qty.simple 1 2, .arr (.seq .list [.num 1 true])⟩ := by decide

-- the legacy constructor called directly
example : quantityInit poscDb (.str (Sym.ofString "length") none) (.str (Sym.ofString "m") none) (.str 7 none)
    = .ok ⟨Sym.ofString "length", Sym.ofString "m", 7, none⟩ :=
  (quantityInit_str ..).trans (newQuantityC_simple rfl Posc.length_m)
example : quantityInit poscDb (.str (Sym.ofString "length") none) .none .none
    = .ok (Qty.simple (Sym.ofString "length") (Sym.ofString "m")) := by
  rw [poscDb_flat]; decide +kernel
example : quantityInit poscDb (.str (Sym.ofString "length") none) (.num 3 true) .none = .error .type := by decide +kernel

-- a unit asked about before it exists, then registered: found from then on
def exUnit3 : HOp := .reg (.addUnit (.str 11) 3 (.str 23) (.mob ⟨0, 1, 1000, 0⟩) (.mob ⟨0, 1000, 1, 0⟩) 0)
example : (houts [] Reg.Registry.empty [exBase, exCat, .defcat 23, .calls [⟨.ctor, .scalar, .val (.num 3), .val (.str 23), .none, false, none⟩],
      exUnit3, .defcat 23]).map (fun o => match o with | .defcat d => some d | _ => none)
    = [none, none, some (.ok none), none, none, some (.ok (some 11))] := by decide +kernel

-- a list of LISTS is held as given by `__init__` and by `CreateWithQuantity` alike, and is not the list of tuples
example : construct poscDb .array (.nest .list [(true, [.num 1 false, .num 2 false]), (true, [.num 3 false, .num (9/2) false])])
      (.str (Sym.ofString "m")) .none
    = .ok ⟨Qty.simple (Sym.ofString "length") (Sym.ofString "m"),
        .arr (.nest .list [(true, [.num 1 false, .num 2 false]), (true, [.num 3 false, .num (9/2) false])])⟩ :=
  (nested_forms_equal none none .list _ false 0 Posc.m_default Posc.length_ne Posc.length_m).1.1
example : createWithQuantity poscDb .array (Qty.simple (Sym.ofString "length") (Sym.ofString "m"))
      (.nest .list [(true, [.num 7 false])]) false none
    = construct poscDb .array (.nest .list [(true, [.num 7 false])]) (.str (Sym.ofString "m")) .none :=
  ((createWithQuantity_agrees poscDb _ _ false rfl).2.2.1).trans
    (form_without_category_agrees none .array _ Posc.m_default Posc.length_ne Posc.length_m rfl).1.symm
example : Obj.eq ⟨Qty.simple 1 2, .arr (.nest .list [(true, [.num 1 false, .num 2 false])])⟩
      ⟨Qty.simple 1 2, .arr (.rows .list [[.num 1 false, .num 2 false]])⟩ = .ok false := by decide
example : Obj.eq ⟨Qty.simple 1 2, .arr (.nest .list [(true, [.num 1 false]), (false, [.num 2 true])])⟩
      ⟨Qty.simple 1 2, .arr (.nest .tuple [(true, [.num 1 true]), (false, [.num 2 false])])⟩ = .ok true := by decide

-- build from the category alone, fill the list the object handed out, build again: the second object is empty
-- again and equals the explicit form; the first one holds what was appended
def exArr : Call := ⟨.ctor, .array, .val (.str 11), .val .none, .none, false, none⟩
def exArrExplicit : Call := ⟨.ctor, .array, .val (.seq .list []), .val (.str 21), .str 11 none, false, none⟩
example : (houts [] Reg.Registry.empty [exBase, exCat, .mut exArr [.append (.num 1 false), .extend [.num 2 false]],
      .calls [exArr, exArrExplicit]]).drop 2
    = [.mut (some (.ok ⟨Qty.simple 11 21, .arr (.seq .list [])⟩))
         (some (.ok ⟨Qty.simple 11 21, .arr (.seq .list [.num 1 false, .num 2 false])⟩)),
       .calls [some (.ok ⟨Qty.simple 11 21, .arr (.seq .list [])⟩), some (.ok ⟨Qty.simple 11 21, .arr (.seq .list [])⟩)]] := by
  decide +kernel
example : mutAll ⟨Qty.simple 1 2, .fixed (.seq .list [.num 0 false, .num 0 false]) 2⟩ [.setItem 1 (.num 5 false), .setItem 2 (.num 5 false)]
    = some (.error .index) := by decide
example : mutAll ⟨Qty.simple 1 2, .arr (.seq .nda [.num 1 false, .num 3 false])⟩ [.scale 2, .setItem 0 (.num 5 true)]
    = some (.ok ⟨Qty.simple 1 2, .arr (.seq .nda [.num 5 false, .num 6 false])⟩) := by decide +kernel
example : mutAll ⟨Qty.simple 1 2, .arr (.seq .tuple [.num 1 false])⟩ [.append (.num 1 false)] = some (.error .other) := by decide

end Barril.Ctor
