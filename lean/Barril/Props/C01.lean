/-
C01 — unit conversion is invertible, path independent and strictly increasing.

Property theorems only.  Helper lemmas live in `Barril/Proofs/ConvLemmas.lean`; the table facts
`*_all_wf` are generated (`Barril/Gen/ThmWf*.lean`) and proved by `decide +kernel` over the rows the
translator read from the databases built by /repo's current source.
-/
import Barril.Proofs.ConvLemmas
import Barril.Gen.ThmWfPosc
import Barril.Gen.ThmWfNocat
import Barril.Gen.ThmWfSimple
import Barril.Gen.ThmAnnPosc
import Barril.Gen.ThmAnnNocat
import Barril.Gen.ThmAnnSimple

namespace Barril
open Barril.Gen

/-- **u → u is exact** (no hypothesis at all: the same-unit shortcut) -/
theorem convert_self (db : Db) (cq u : Sym) (x : Rat) : db.convert cq u u x = .ok x :=
  Db.convert_same db cq u x

/-- **u → v → u gives back the value** -/
theorem convert_roundtrip {db : Db} (hdb : db.AllWF) {cq u v : Sym} {x y : Rat}
    (h : db.convert cq u v x = .ok y) : db.convert cq v u y = .ok x := by
  rw [Db.convert_ok_iff hdb] at h ⊢
  rcases h with ⟨rfl, rfl⟩ | ⟨a, b, ha, hb, rfl⟩
  · exact .inl ⟨rfl, rfl⟩
  · exact .inr ⟨b, a, hb, ha, (convVal_roundtrip (Db.row_wf hdb ha) (Db.row_wf hdb hb) x).symm⟩

/-- **u → w directly = u → v → w** -/
theorem convert_trans {db : Db} (hdb : db.AllWF) {cq u v w : Sym} {x y z : Rat}
    (h1 : db.convert cq u v x = .ok y) (h2 : db.convert cq v w y = .ok z) :
    db.convert cq u w x = .ok z := by
  rw [Db.convert_ok_iff hdb] at h1 h2
  rcases h1 with ⟨rfl, rfl⟩ | ⟨a, b, ha, hb, rfl⟩
  · exact (Db.convert_ok_iff hdb).mpr h2
  rcases h2 with ⟨rfl, rfl⟩ | ⟨b', c, hb', hc, rfl⟩
  · exact (Db.convert_ok_iff hdb).mpr (.inr ⟨a, b, ha, hb, rfl⟩)
  · cases hb.symm.trans hb'
    exact (Db.convert_ok_iff hdb).mpr (.inr ⟨a, c, ha, hc,
      convVal_trans (Db.row_wf hdb hb) x⟩)

/-- **conversions never reorder two amounts** -/
theorem convert_strictMono {db : Db} (hdb : db.AllWF) {cq u v : Sym} {x x' y y' : Rat}
    (h : db.convert cq u v x = .ok y) (h' : db.convert cq u v x' = .ok y') (hx : x < x') :
    y < y' := by
  obtain ⟨φ, hmono, hφ⟩ := Db.convert_map hdb h
  rw [hφ] at h h'
  cases h; cases h'
  exact hmono x x' hx

/-- a conversion that succeeds for one value succeeds for every value (no value-dependent failure,
in particular no division by zero) -/
theorem convert_total {db : Db} (hdb : db.AllWF) {cq u v : Sym} {x y : Rat}
    (h : db.convert cq u v x = .ok y) (x' : Rat) : ∃ y', db.convert cq u v x' = .ok y' :=
  let ⟨φ, _, hφ⟩ := Db.convert_map hdb h
  ⟨φ x', hφ x'⟩

/-! ### the three shipped databases satisfy the hypothesis (tables regenerated on every run) -/

theorem posc_allWF : poscDb.AllWF := allWF_of_all poscUnits_all_wf
theorem nocat_allWF : nocatDb.AllWF := allWF_of_all nocatUnits_all_wf
theorem simple_allWF : simpleDb.AllWF := allWF_of_all simpleUnits_all_wf

/-- the `__a__ … __d__` annotations of every row describe the formulas that are executed -/
theorem posc_annotations_agree : ∀ r ∈ poscDb.units, r.annAgree = true :=
  fun r hr => List.all_eq_true.mp poscUnits_all_ann r hr

theorem posc_roundtrip {cq u v : Sym} {x y : Rat} (h : poscDb.convert cq u v x = .ok y) :
    poscDb.convert cq v u y = .ok x := convert_roundtrip posc_allWF h
theorem posc_path_independent {cq u v w : Sym} {x y z : Rat}
    (h1 : poscDb.convert cq u v x = .ok y) (h2 : poscDb.convert cq v w y = .ok z) :
    poscDb.convert cq u w x = .ok z := convert_trans posc_allWF h1 h2
theorem posc_strictMono {cq u v : Sym} {x x' y y' : Rat} (h : poscDb.convert cq u v x = .ok y)
    (h' : poscDb.convert cq u v x' = .ok y') (hx : x < x') : y < y' :=
  convert_strictMono posc_allWF h h' hx

theorem nocat_roundtrip {cq u v : Sym} {x y : Rat} (h : nocatDb.convert cq u v x = .ok y) :
    nocatDb.convert cq v u y = .ok x := convert_roundtrip nocat_allWF h
theorem nocat_path_independent {cq u v w : Sym} {x y z : Rat}
    (h1 : nocatDb.convert cq u v x = .ok y) (h2 : nocatDb.convert cq v w y = .ok z) :
    nocatDb.convert cq u w x = .ok z := convert_trans nocat_allWF h1 h2
theorem nocat_strictMono {cq u v : Sym} {x x' y y' : Rat} (h : nocatDb.convert cq u v x = .ok y)
    (h' : nocatDb.convert cq u v x' = .ok y') (hx : x < x') : y < y' :=
  convert_strictMono nocat_allWF h h' hx

theorem simple_roundtrip {cq u v : Sym} {x y : Rat} (h : simpleDb.convert cq u v x = .ok y) :
    simpleDb.convert cq v u y = .ok x := convert_roundtrip simple_allWF h
theorem simple_path_independent {cq u v w : Sym} {x y z : Rat}
    (h1 : simpleDb.convert cq u v x = .ok y) (h2 : simpleDb.convert cq v w y = .ok z) :
    simpleDb.convert cq u w x = .ok z := convert_trans simple_allWF h1 h2
theorem simple_strictMono {cq u v : Sym} {x x' y y' : Rat} (h : simpleDb.convert cq u v x = .ok y)
    (h' : simpleDb.convert cq u v x' = .ok y') (hx : x < x') : y < y' :=
  convert_strictMono simple_allWF h h' hx

end Barril
