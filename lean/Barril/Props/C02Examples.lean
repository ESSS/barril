/- Non-vacuity examples of C02 (moved out of Props/C02.lean by tools/split_examples.py: they evaluate
concrete instances, many over the regenerated tables, and must not be able to stop the theorem module from
building).  Not property theorems: the check builds this module separately and only records the outcome. -/
import Barril.Props.C02
import Barril.Proofs.RoutesLemmas
import Barril.Props.C01
import Barril.Gen.ThmFlat

namespace Barril.Routes
open Barril Barril.Gen

section examples
private abbrev S (s : String) : Sym := Sym.ofString s

/-- `ObtainQuantity('m', 'depth')` exists: category depth, quantity type length -/
example : (match newSimple poscDb (S "depth") (S "m") with
    | .ok q => q.category == S "depth" && q.qtype == S "length" && q.unit == S "m"
    | .error _ => false) = true := by rw [Gen.poscDb_flat]; decide +kernel

/-- a legacy spelling is accepted and rewritten (`1000ft3` → `Mcf`) -/
example : (match newSimple poscDb (S "volume") (S "1000ft3") with
    | .ok q => q.unit == S "Mcf"
    | .error _ => false) = true := by rw [Gen.poscDb_flat]; decide +kernel

/-- `Scalar(1000, 'm', 'depth').GetValue('ft')` -/
example : (match newSimple poscDb (S "depth") (S "m") with
    | .ok q => (Scalar.mk q 1000).getValue poscDb (some (S "ft")) == .ok (R 1250000 381)
    | .error _ => false) = true := by rw [Gen.poscDb_flat]; decide +kernel

/-- an affine pair through the Array route, tuple-of-tuples -/
example : (match newSimple poscDb (S "temperature") (S "degC") with
    | .ok q => (Arr.mk q (mkTuples true [[0, 100], [], [-40]])).getValues poscDb (some (S "degF"))
        == .ok (mkTuples true [[32, 212], [], [-40]])
    | .error _ => false) = true := by rw [Gen.poscDb_flat]; decide +kernel

/-- a derived quantity (`m2`): own unit unchanged, another unit is rejected as the code does -/
example : (match createDerived poscDb [⟨S "length", S "m", 2⟩] with
    | .ok q => q.isDerived && q.unit == S "m2" && q.category == S "(length) ** 2"
        && (Scalar.mk q 5).getValue poscDb (some (S "m2")) == .ok 5
        && (Scalar.mk q 5).getValue poscDb (some (S "cm2")) == .error .value
    | .error _ => false) = true := by rw [Gen.poscDb_flat]; decide +kernel

/-- `(m/s).GetValue('m/s')`: two entries, own unit -/
example : (match createDerived poscDb [⟨S "length", S "m", 1⟩, ⟨S "time", S "s", -1⟩] with
    | .ok q => q.unit == S "m/s" && q.qtype == S "length / time"
        && (Scalar.mk q 7).getValue poscDb (some (S "m/s")) == .ok 7
    | .error _ => false) = true := by rw [Gen.poscDb_flat]; decide +kernel

/-- the exponent path: 3 m² = 30000 cm² -/
example : convertAny poscDb (.str (S "length")) (.list [(S "m", 2)]) (.list [(S "cm", 2)]) (.num 3)
    = some (.ok (.num 30000)) := by rw [Gen.poscDb_flat]; decide +kernel

/-- … and it is outside the model for a unit with an offset -/
example : convertAny poscDb (.str (S "temperature")) (.list [(S "degC", 2)]) (.list [(S "K", 2)]) (.num 3)
    = none := by rw [Gen.poscDb_flat]; decide +kernel

/-- `ConvertScalarToCurrent` of a depth keeps `depth` (it does not answer with `length`) -/
example : (match newSimple poscDb (S "depth") (S "m") with
    | .ok q =>
      (match convertScalarToCurrent poscDb (some [(S "depth", S "ft")]) ⟨q, 1000⟩ with
       | .ok s => s.q.category == S "depth" && s.q.unit == S "ft" && s.value == R 1250000 381
       | .error _ => false)
    | .error _ => false) = true := by rw [Gen.poscDb_flat]; decide +kernel

/-- the default of `temperature` (0 in its default unit) asked for in another unit -/
example : (match Scalar.ofCategory poscDb (S "temperature") (some (S "degF")), poscDb.catByName (S "temperature") with
    | .ok s, some ci => (poscDb.convert (S "temperature") ci.defaultUnit (S "degF") ci.defaultValue == .ok s.value)
        && s.q.category == S "temperature" && s.q.unit == S "degF"
    | _, _ => false) = true := by rw [Gen.poscDb_flat]; decide +kernel

/-- `ChangingIndex` with a Scalar in another unit and category of the same quantity type -/
example : (match newSimple poscDb (S "length") (S "m"), newSimple poscDb (S "depth") (S "cm") with
    | .ok q, .ok qs =>
      (FixedArr.mk 3 ⟨q, Kind.list.mk [1, 2, 3]⟩).changingIndex poscDb (-1) (.scalar ⟨qs, 5⟩) true
        == .ok ⟨3, ⟨qs, .tuple [.num 100, .num 200, .num 5]⟩⟩
    | _, _ => false) = true := by rw [Gen.poscDb_flat]; decide +kernel

/-- `Scalar(3.048, 'm', 'length').CreateCopy(unit='ft', category='depth')`: 10 ft, category depth;
with the own category the same number as without a category -/
example : (match newSimple poscDb (S "length") (S "m") with
    | .ok q =>
      (match (Scalar.mk q (R 381 125)).createCopy poscDb none (some (S "ft")) (some (S "depth")),
             (Scalar.mk q (R 381 125)).createCopy poscDb none (some (S "ft")) (some (S "length")),
             (Scalar.mk q (R 381 125)).createCopy poscDb none (some (S "ft")) none with
       | .ok s, .ok s1, .ok s2 => s.q.category == S "depth" && s.q.qtype == S "length" && s.q.unit == S "ft"
           && s.value == 10 && s1.value == 10 && s1.q.category == S "length" && s1 == s2
       | _, _, _ => false)
    | .error _ => false) = true := by rw [Gen.poscDb_flat]; decide +kernel

/-- the Array form, list of tuples, other category -/
example : (match newSimple poscDb (S "temperature") (S "degC") with
    | .ok q =>
      (match (Arr.mk q (mkTuples false [[0, 100], [-40]])).createCopy poscDb none (some (S "degF"))
          (some (S "thermodynamic temperature")) with
       | .ok a => a.values == mkTuples false [[32, 212], [-40]] && a.q.category == S "thermodynamic temperature"
       | .error _ => false)
    | .error _ => false) = true := by rw [Gen.poscDb_flat]; decide +kernel

/-- a manager history: convert, `SetDefaultUnit` on the current system, the same request again, switch to
another system and back: 2.5 m is 250 cm, then 1/400 km, then 2500 mm, then 1/400 km again -/
example : (Mgr.run poscDb Mgr.new
      [.add (S "s1") [(S "length", S "cm")], .convert (S "length") (S "m") (.num (R 5 2)),
       .setDefaultUnit none (S "length") (S "km"), .convert (S "length") (S "m") (.num (R 5 2)),
       .add (S "s2") [(S "length", S "mm")], .setCurrent (some (S "s2")), .convert (S "length") (S "m") (.num (R 5 2)),
       .setCurrent (some (S "s1")), .convert (S "length") (S "m") (.list [.num (R 5 2)]),
       .removeCategory none (S "length"), .convert (S "length") (S "m") (.num (R 5 2))]).2
    = [.ok (.state [(S "length", S "cm")]), .ok (.conv (.num 250) (S "cm")),
       .ok (.state [(S "length", S "km")]), .ok (.conv (.num (R 1 400)) (S "km")),
       .ok (.state [(S "length", S "km")]), .ok (.state [(S "length", S "mm")]), .ok (.conv (.num 2500) (S "mm")),
       .ok (.state [(S "length", S "km")]), .ok (.conv (.list [.num (R 1 400)]) (S "km")),
       .ok (.state []), .ok (.conv (.num (R 5 2)) (S "m"))] := by rw [Gen.poscDb_flat]; decide +kernel

end examples

end Barril.Routes
