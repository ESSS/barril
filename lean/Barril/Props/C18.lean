/-
C18 — fractional values keep their numeric meaning.

Property theorems only, about the executable model `Barril/Model/Frac.lean` (`Fraction`,
`FractionValue`, `FractionScalar` conversion, written after the Python function by function).
Helper lemmas: `Barril/Proofs/Frac{Lemmas,Text,CF,Digits,Pool}.lean`.  The database hypothesis `Db.AllWF` is the row
predicate of C01; `posc_allWF` (a generated `decide +kernel` table theorem) discharges it for the
shipped table, which is regenerated from /repo on every run.

Reading guide.  A Python float is the rational it denotes; "decimal with at most seven places" is
`m / 10^i`, `i ≤ 7`.  `small` is the constant `SMALL = 1e-8` of `_fraction.py`.
-/
import Barril.Proofs.FracDigits
import Barril.Proofs.FracPool
import Barril.Props.C01

namespace Barril.Frac
open Barril Barril.Gen

/-! ## 1. `Fraction`: the constructor denotes `a / b` -/

/-- **`Fraction(a, b)` is exactly `a / b`** for every integer or decimal `a` with at most seven
places and every `b ≠ 0` (either sign, int or float) -/
theorem fraction_init_decimal (m : Int) (i : Nat) (hi : i ≤ 7) (b : Rat) (hb : b ≠ 0) :
    Frac.init (.fin ((m : Rat) / 10 ^ i)) (some (.fin b)) = .ok ⟨(m : Rat) / 10 ^ i / b⟩ := by
  rw [init_fin_fin _ _ hb, normalise_decimal m i hi]

theorem fraction_init_decimal_default (m : Int) (i : Nat) (hi : i ≤ 7) :
    Frac.init (.fin ((m : Rat) / 10 ^ i)) none = .ok ⟨(m : Rat) / 10 ^ i⟩ := by
  rw [init_fin_none, normalise_decimal m i hi]; simp

/-- **for every finite `a` and `b ≠ 0` whatsoever the constructor succeeds and is within
`SMALL / |b|` of `a / b`** (the class snaps a numerator that is within `SMALL` of an integer) -/
theorem fraction_init_near (a b : Rat) (hb : b ≠ 0) :
    ∃ f, Frac.init (.fin a) (some (.fin b)) = .ok f ∧ |f.x - a / b| ≤ small / |b| :=
  ⟨normalise a b, init_fin_fin a b hb, normalise_near a b hb⟩

/-- what the constructor rejects: a zero denominator, an infinite or non-numeric argument -/
theorem fraction_init_rejects (a : Rat) (n : Bool) (y : Option Num) :
    Frac.init (.fin a) (some (.fin 0)) = .error .assertion
    ∧ Frac.init (.inf n) y = .error .value
    ∧ Frac.init (.fin a) (some (.inf n)) = .error .value
    ∧ Frac.init .bad (some (.fin a)) = .error .assertion
    ∧ Frac.init (.fin a) (some .bad) = .error .assertion := by
  refine ⟨init_fin_zero a, ?_, rfl, rfl, rfl⟩
  cases y <;> rfl

/-! ## 2. `Fraction` arithmetic and comparison are the rationals' -/

/-- **`+ - * neg abs copy float` on two Fractions are exact rational arithmetic** (never fail) -/
theorem fraction_ops_exact (s o : Frac) :
    s.add (.frac o) = .ok ⟨s.x + o.x⟩ ∧ s.radd (.frac o) = .ok ⟨o.x + s.x⟩
    ∧ s.sub (.frac o) = .ok ⟨s.x - o.x⟩ ∧ s.rsub (.frac o) = .ok ⟨o.x - s.x⟩
    ∧ s.mul (.frac o) = .ok ⟨s.x * o.x⟩ ∧ s.rmul (.frac o) = .ok ⟨o.x * s.x⟩
    ∧ s.neg = .ok ⟨-s.x⟩ ∧ s.abs = .ok ⟨|s.x|⟩ ∧ s.copy = .ok s ∧ s.toFloat = s.x := by
  refine ⟨add_of_coerce (coerce_frac o), ?_, sub_frac s o, ?_, mul_of_coerce (coerce_frac o), ?_,
    neg_eq s, abs_eq s, copy_eq s, rfl⟩
  · unfold Frac.radd; rw [add_of_coerce (coerce_frac o), add_comm]
  · unfold Frac.rsub; rw [sub_frac]; simp only; rw [neg_eq]; simp
  · rw [rmul_of_coerce (coerce_frac o), mul_comm]

/-- **`/`, reflected `/`, `inv` and `%`**: exact when the divisor is non-zero … -/
theorem fraction_div_mod_exact (s o : Frac) (ho : o.x ≠ 0) :
    s.div (.frac o) = .ok ⟨s.x / o.x⟩ ∧ o.rdiv (.frac s) = .ok ⟨s.x / o.x⟩ ∧ o.inv = .ok ⟨1 / o.x⟩
    ∧ s.mod (.frac o) = .ok ⟨s.x - o.x * (⌊s.x / o.x⌋ : Rat)⟩ :=
  ⟨div_of_coerce (coerce_frac o) ho, rdiv_of_coerce (coerce_frac s) ho, inv_eq ho,
   mod_of_coerce (coerce_frac o) ho⟩

/-- … and an error (Python's `ZeroDivisionError`), never a number, when it is zero -/
theorem fraction_div_mod_zero (s o : Frac) (ho : o.x = 0) :
    s.div (.frac o) = .error .other ∧ o.rdiv (.frac s) = .error .other ∧ o.inv = .error .other
    ∧ s.mod (.frac o) = .error .other := by
  refine ⟨div_zero_of_coerce (coerce_frac o) ho, ?_, inv_zero ho, ?_⟩
  · unfold Frac.rdiv; rw [inv_zero ho]
  · unfold Frac.mod; rw [coerce_frac]; simp [ho]

/-- **a plain number operand (int or decimal with at most seven places) acts as the rational it
denotes**, on either side of the operator -/
theorem fraction_ops_number (s : Frac) (m : Int) (i : Nat) (hi : i ≤ 7) :
    let q : Rat := (m : Rat) / 10 ^ i
    s.add (.num (.fin q)) = .ok ⟨s.x + q⟩ ∧ s.radd (.num (.fin q)) = .ok ⟨s.x + q⟩
    ∧ s.sub (.num (.fin q)) = .ok ⟨s.x - q⟩ ∧ s.rsub (.num (.fin q)) = .ok ⟨q - s.x⟩
    ∧ s.mul (.num (.fin q)) = .ok ⟨s.x * q⟩ ∧ s.rmul (.num (.fin q)) = .ok ⟨s.x * q⟩
    ∧ (q ≠ 0 → s.div (.num (.fin q)) = .ok ⟨s.x / q⟩ ∧ s.mod (.num (.fin q)) = .ok ⟨pyMod s.x q⟩)
    ∧ (s.x ≠ 0 → s.rdiv (.num (.fin q)) = .ok ⟨q / s.x⟩) := by
  intro q
  have hc : coerce (.num (.fin q)) = .ok ⟨q⟩ := coerce_decimal m i hi
  have hn : coerce (.num (.fin (-q))) = .ok ⟨-q⟩ := by
    have := coerce_decimal (-m) i hi
    have e : ((-m : Int) : Rat) / 10 ^ i = -q := by push_cast; ring
    rwa [e] at this
  have hsub : s.sub (.num (.fin q)) = .ok ⟨s.x - q⟩ := by
    rw [sub_num_of_coerce hn]; simp [sub_eq_add_neg]
  refine ⟨add_of_coerce hc, add_of_coerce hc, hsub, ?_, mul_of_coerce hc, rmul_of_coerce hc, ?_, ?_⟩
  · unfold Frac.rsub; rw [hsub]; simp only; rw [neg_eq]; simp
  · intro hq; exact ⟨div_of_coerce hc hq, mod_of_coerce hc hq⟩
  · intro hs; exact rdiv_of_coerce hc hs

/-- **all six comparison operators on two Fractions are the comparisons of the rationals** -/
theorem fraction_cmp_exact (s o : Frac) (op : CmpOp) :
    s.cmp op (.frac o) = .ok (FV.cmpValue op s.x o.x) := cmp_frac s o op

/-- comparison with a plain number on the right (`f < 0.25`) and on the left (`0.25 < f`) -/
theorem fraction_cmp_number (s : Frac) (m : Int) (i : Nat) (hi : i ≤ 7) (op : CmpOp) :
    s.cmp op (.num (.fin ((m : Rat) / 10 ^ i))) = .ok (FV.cmpValue op s.x ((m : Rat) / 10 ^ i))
    ∧ s.rcmp op (.num (.fin ((m : Rat) / 10 ^ i))) = .ok (FV.cmpValue op.swap s.x ((m : Rat) / 10 ^ i)) := by
  have hc := coerce_decimal m i hi
  exact ⟨cmp_of_coerce hc op, cmp_of_coerce hc op.swap⟩

/-- every Fraction is below `+inf` and above `-inf`; a non-number is unequal and unordered -/
theorem fraction_cmp_special (s : Frac) :
    s.cmp .lt (.num (.inf false)) = .ok true ∧ s.cmp .gt (.num (.inf true)) = .ok true
    ∧ s.cmp .eq (.num (.inf false)) = .ok false ∧ s.cmp .eq (.num .bad) = .ok false
    ∧ s.cmp .lt (.num .bad) = .error .type := by
  refine ⟨rfl, ?_, rfl, rfl, rfl⟩
  simp [Frac.cmp, Frac.ltImpl, Frac.oldCmp, Frac.pyEq, Frac.eqImpl]

/-! ## 3. `FractionValue`: value, order, equality, copy -/

/-- **`float(fv)` is `number + numerator / denominator`** -/
theorem fv_value (v : FV) : v.value = v.number + (v.frac.numerator : Rat) / (v.frac.denominator : Rat) := by
  unfold Frac.numerator Frac.denominator
  rw [fv_value_eq]; push_cast; rfl

/-- **the order operators order FractionValues by their amounts**, whatever the split between
number and fraction.  This is how `FV.cmp` is written (the code compares `float(self)` with
`float(other)`): the four equations unfold to themselves -/
theorem fv_order (a b : FV) :
    a.cmp .lt b = .ok (decide (a.value < b.value)) ∧ a.cmp .le b = .ok (decide (a.value ≤ b.value))
    ∧ a.cmp .gt b = .ok (decide (b.value < a.value)) ∧ a.cmp .ge b = .ok (decide (b.value ≤ a.value)) :=
  ⟨rfl, rfl, rfl, rfl⟩

/-- order against a plain number -/
theorem fv_order_number (a : FV) (y : Rat) (op : CmpOp) (ho : op.isOrder = true) :
    a.cmpNum op y = .ok (FV.cmpValue op a.value y) := by
  cases op <;> simp_all [FV.cmpNum, CmpOp.isOrder]

/-- `==` holds exactly for equal number and equal fraction (as rationals: `2/4 == 1/2`);
equal FractionValues have equal amounts -/
theorem fv_eq (a b : FV) :
    a.cmp .eq b = .ok (decide (a = b)) ∧ a.cmp .ne b = .ok (!decide (a = b))
    ∧ (a = b → a.value = b.value) := by
  refine ⟨fv_eq_iff a b, ?_, fun h => by rw [h]⟩
  simp only [FV.cmp, fv_eq_iff]

/-- **a copy is equal to the original (number, fraction and therefore amount)** -/
theorem fv_copy_eq (v : FV) : v.copy = .ok v := fv_copy v

/-- construction: the default fraction is zero, so `FractionValue(n)` denotes `n`; a pair is
normalised like `Fraction(a, b)` -/
theorem fv_init_value (n : Rat) (m : Int) (i : Nat) (hi : i ≤ 7) (b : Rat) (hb : b ≠ 0) :
    (∃ v, FV.init (some n) FracArg.default = .ok v ∧ v.value = n)
    ∧ (∃ v, FV.init (some n) (.pair (.fin ((m : Rat) / 10 ^ i)) (.fin b)) = .ok v
        ∧ v.value = n + (m : Rat) / 10 ^ i / b) := by
  constructor
  · exact ⟨⟨n, ⟨0⟩⟩, fv_init_default n, by simp [FV.value, Frac.toFloat]⟩
  · refine ⟨⟨n, ⟨(m : Rat) / 10 ^ i / b⟩⟩, ?_, rfl⟩
    simp [FV.init, setFraction, fraction_init_decimal m i hi b hb]

/-! ## 4. `FractionScalar` converts like a `Scalar` holding `float(value)` -/

/-- **the converted FractionValue denotes the converted amount up to `SMALL / denominator`**, for
every pair of units of a database of well-formed rows (affine units included: the numerator is
converted as an increment), every number, numerator and denominator; and the conversion never
fails for one value when it works for another.  `y` is what a `Scalar` holding `float(value)`
converts to. -/
theorem fs_convert_near {db : Db} (hdb : db.AllWF) {cat fromU toU : Sym} {q : Qty}
    (hq : obtain db cat fromU = .ok q) (fv : FV) {y : Rat}
    (hy : q.convertScalarValue db toU fv.value = .ok y) :
    ∃ r, convertFV db cat fromU toU fv = .ok r ∧ |r.value - y| ≤ small / (fv.frac.denominator : Rat) := by
  rcases convertScalarValue_affine hdb q toU with ⟨A, B, hAB⟩ | ⟨e, he⟩
  · refine ⟨_, convertFV_eq hq hAB fv, ?_⟩
    rw [hAB] at hy
    cases hy
    have hd : (0 : Rat) < (fv.frac.x.den : Rat) := by exact_mod_cast fv.frac.x.den_pos
    have hn := normalise_near (B * (fv.frac.x.num : Rat)) 1 one_ne_zero
    rw [abs_one, div_one, div_one] at hn
    rw [convertFV_value_sub, abs_div, abs_of_pos hd]
    exact div_le_div_of_nonneg_right hn hd.le
  · rw [he] at hy; cases hy

/-- **exactly equal** whenever the converted numerator increment is an integer or a decimal with
at most seven places (e.g. inch → mm, m → cm, degC → K, every same-scale pair) -/
theorem fs_convert_exact {db : Db} (hdb : db.AllWF) {cat fromU toU : Sym} {q : Qty}
    (hq : obtain db cat fromU = .ok q) (fv : FV) {y a z : Rat}
    (hy : q.convertScalarValue db toU fv.value = .ok y)
    (ha : q.convertScalarValue db toU fv.frac.numerator = .ok a)
    (hz : q.convertScalarValue db toU 0 = .ok z)
    (m : Int) (i : Nat) (hi : i ≤ 7) (hinc : a - z = (m : Rat) / 10 ^ i) :
    ∃ r, convertFV db cat fromU toU fv = .ok r ∧ r.value = y := by
  rcases convertScalarValue_affine hdb q toU with ⟨A, B, hAB⟩ | ⟨e, he⟩
  · refine ⟨_, convertFV_eq hq hAB fv, ?_⟩
    rw [hAB] at hy ha hz
    cases hy; cases ha; cases hz
    have hinc' : B * (fv.frac.x.num : Rat) = (m : Rat) / 10 ^ i := by
      rw [← hinc]; unfold Frac.numerator; ring
    rw [← sub_eq_zero, convertFV_value_sub, hinc', normalise_decimal m i hi, div_one, sub_self, zero_div]
  · rw [he] at hy; cases hy

/-- converting to the unit the value already has changes nothing -/
theorem fs_convert_same_unit {db : Db} {cat u : Sym} {q : Qty}
    (hq : obtain db cat u = .ok q) (hu : q.unit = u) (fv : FV) : convertFV db cat u u fv = .ok fv := by
  have hAB : ∀ x, q.convertScalarValue db u x = .ok (0 + 1 * x) := by
    intro x; unfold Qty.convertScalarValue; simp [hu]
  rw [convertFV_eq hq hAB fv]
  have := normalise_int fv.frac.x.num 1
  simp only [one_mul, div_one] at this ⊢
  rw [this]
  cases fv with
  | mk n f =>
    cases f with
    | mk x => simp [Rat.num_div_den]

/-- a conversion fails for a FractionValue exactly when it fails for a plain float, with the same
error -/
theorem fs_convert_fails_like_scalar {db : Db} (hdb : db.AllWF) {cat fromU toU : Sym} {q : Qty}
    (hq : obtain db cat fromU = .ok q) (fv : FV) (e : ErrKind) :
    convertFV db cat fromU toU fv = .error e ↔ q.convertScalarValue db toU fv.value = .error e := by
  rcases convertScalarValue_affine hdb q toU with ⟨A, B, hAB⟩ | ⟨e', he⟩
  · rw [convertFV_eq hq hAB fv, hAB]; simp
  · rw [convertFV_err hq he fv, he]
    simp

/-- **the public classmethod `ConvertFractionValue` converts from `from_unit`, whatever unit the
Quantity object passed to it is in** (only its category is used), so a direct call gives exactly what
the instance route `FractionScalar(value, from_unit, category).GetValue(to_unit)` gives; the
quantity-type-string form is the same conversion with the default category of `from_unit`.  The first
three equations hold by definition: `convertFractionValue` reads the category of its Quantity argument
and nothing else, which is the modelling of `ObtainQuantity(from_unit, quantity.GetComposingCategories())` -/
theorem convertFractionValue_source_is_from_unit (db : Db) (c u1 u2 fromU toU : Sym) (fv : FV) (s : FS) (qt : Sym) :
    convertFractionValue db (.quantity ⟨c, u1⟩) fromU toU fv = convertFractionValue db (.quantity ⟨c, u2⟩) fromU toU fv
    ∧ convertFractionValue db (.quantity ⟨c, u1⟩) fromU toU fv = convertFV db c fromU toU fv
    ∧ s.getValue db (some toU) = convertFractionValue db (.quantity ⟨s.q.cat, u1⟩) s.q.unit toU s.value
    ∧ (∀ c', defaultCategory db fromU = some c' →
        convertFractionValue db (.qtype qt) fromU toU fv = convertFV db c' fromU toU fv) := by
  refine ⟨rfl, rfl, rfl, ?_⟩
  intro c' h
  simp [convertFractionValue, h]

/-- hence the direct call denotes what a Scalar holding `float(value)` in `from_unit` converts to, up
to `SMALL / denominator`, for every Quantity argument of that category -/
theorem convertFractionValue_near {db : Db} (hdb : db.AllWF) {c uq fromU toU : Sym} {q : Qty}
    (hq : obtain db c fromU = .ok q) (fv : FV) {y : Rat}
    (hy : q.convertScalarValue db toU fv.value = .ok y) :
    ∃ r, convertFractionValue db (.quantity ⟨c, uq⟩) fromU toU fv = .ok r
      ∧ |r.value - y| ≤ small / (fv.frac.denominator : Rat) :=
  fs_convert_near hdb hq fv hy

/-- the shipped POSC table satisfies the hypothesis -/
theorem posc_fs_convert_near {cat fromU toU : Sym} {q : Qty} (hq : obtain poscDb cat fromU = .ok q) (fv : FV)
    {y : Rat} (hy : q.convertScalarValue poscDb toU fv.value = .ok y) :
    ∃ r, convertFV poscDb cat fromU toU fv = .ok r ∧ |r.value - y| ≤ small / (fv.frac.denominator : Rat) :=
  fs_convert_near posc_allWF hq fv hy

/-! ## 5. order and validity of FractionScalars = those of Scalars on `float(value)` -/

/-- **`<`, `<=`, `>`, `>=` of two FractionScalars give what the same operator gives on two Scalars
holding the floats**, as soon as the two amounts are further apart than `SMALL / denominator`
(of the right operand, in the left operand's unit) -/
theorem fs_order_eq_scalar {db : Db} (hdb : db.AllWF) {a b : FS} (hb : obtain db b.q.cat b.q.unit = .ok b.q)
    {op : CmpOp} (ho : op.isOrder = true) {y : Rat}
    (hy : b.q.convertScalarValue db a.q.unit b.value.value = .ok y)
    (hm : small / (b.value.frac.denominator : Rat) < |a.value.value - y|) :
    a.order db op b = scalarOrder db op a.q b.q a.value.value b.value.value := by
  unfold FS.order scalarOrder
  split
  · rfl
  · obtain ⟨r, hr, hbound⟩ := fs_convert_near hdb hb b.value hy
    simp only [FS.getValue, hr, hy]
    rw [fv_cmp_order _ _ ho, cmpValue_stable ho hbound hm]

/-- in one unit no margin is needed: the comparison is the comparison of the two amounts -/
theorem fs_order_same_unit {db : Db} {a b : FS} (hb : obtain db b.q.cat b.q.unit = .ok b.q)
    (hu : b.q.unit = a.q.unit) (ht : a.q.qtype db = b.q.qtype db) {op : CmpOp} (ho : op.isOrder = true) :
    a.order db op b = .ok (FV.cmpValue op a.value.value b.value.value)
    ∧ scalarOrder db op a.q b.q a.value.value b.value.value = .ok (FV.cmpValue op a.value.value b.value.value) := by
  unfold FS.order scalarOrder
  simp only [ht, bne_self_eq_false, Bool.false_eq_true, if_false, FS.getValue]
  rw [← hu, fs_convert_same_unit hb rfl]
  exact ⟨fv_cmp_order _ _ ho, by simp [Qty.convertScalarValue]⟩

/-- FractionScalars of different quantity types are not comparable, exactly like Scalars; and a
failing conversion fails both comparisons with the same error -/
theorem fs_order_fails_like_scalar {db : Db} (hdb : db.AllWF) {a b : FS} (hb : obtain db b.q.cat b.q.unit = .ok b.q)
    (op : CmpOp) :
    (a.q.qtype db ≠ b.q.qtype db → a.order db op b = .error .type
        ∧ scalarOrder db op a.q b.q a.value.value b.value.value = .error .type)
    ∧ (∀ e, a.q.qtype db = b.q.qtype db → b.q.convertScalarValue db a.q.unit b.value.value = .error e →
        a.order db op b = .error e ∧ scalarOrder db op a.q b.q a.value.value b.value.value = .error e) := by
  constructor
  · intro h
    unfold FS.order scalarOrder
    simp [h]
  · intro e ht he
    unfold FS.order scalarOrder
    simp only [ht, bne_self_eq_false, Bool.false_eq_true, if_false, FS.getValue, he]
    rw [(fs_convert_fails_like_scalar hdb hb b.value e).mpr he]
    simp

/-- **`CheckValidity` of a FractionScalar is `CheckValue` of its quantity on `float(value)`**, as it
is for a Scalar.  Both sides are modelled by the same call of `Qty.checkValue`, so the equation holds
by definition; what it records is that the code hands `float(value)` to `Quantity.CheckValue` -/
theorem fs_validity_eq_scalar (db : Db) (s : FS) :
    s.checkValidity db = scalarCheckValidity db s.q s.value.value := rfl

/-- validity depends on the amount only: two FractionValues with equal `float()` get the same
verdict -/
theorem fs_validity_amount_only (db : Db) (q : Qty) (v w : FV) (h : v.value = w.value) :
    (⟨q, v⟩ : FS).checkValidity db = (⟨q, w⟩ : FS).checkValidity db := by
  unfold FS.checkValidity; rw [h]

/-- the conversion registered for `UnitDatabase.Convert` returns a FractionValue whose amount is the
amount of the converted value (it keeps no fraction) -/
theorem db_convert_value {db : Db} {cq fromU toU c : Sym} {fv r : FV} (hne : (fromU == toU) = false)
    {qt : Sym} (ht : db.typeOf cq = .ok qt) (hc : defaultCategory db fromU = some c)
    (hr : convertFV db c fromU toU fv = .ok r) :
    ∃ r', dbConvertFV db cq fromU toU fv = .ok r' ∧ r'.value = r.value ∧ r'.frac.x = 0 := by
  refine ⟨⟨r.value, ⟨0⟩⟩, ?_, by simp [FV.value, Frac.toFloat], rfl⟩
  unfold dbConvertFV
  simp [hne, ht, hc, hr, fv_init_default]

/-! ## 6. formatting followed by parsing gives the value back -/

/-- **`CreateFromString(str(fv)) = fv` exactly** (number, numerator, denominator) for every number
with at most six significant digits and `1e-4 ≤ |number| < 1e6` or `0` (`Printable`: integers and
short decimals, either sign) and every fraction whose reduced numerator and denominator are below a
million.  `str` is the `%g` model, `parse` the two regular expressions as a backtracking matcher. -/
theorem parse_format (v : FV) (hn : Printable v.number) (hnum : v.frac.numerator.natAbs < 1000000)
    (hden : v.frac.denominator < 1000000) : parse v.str = .ok v := by
  apply parse_str v hn hnum
  unfold Frac.denominator at hden
  exact_mod_cast hden

/-- what `%g` prints for such a number: its digits in fixed notation, exactly (no rounding, no
exponent); integers below a million print as their decimal digits -/
theorem format_exact (q : Rat) (r s : Nat) (hr : 100000 ≤ r) (hr' : r < 1000000) (hs : s ≤ 9)
    (hq : |q| = (r : Rat) / 10 ^ s) (n : Nat) (hn : n < 1000000) :
    fmtG q = (if q < 0 then '-' :: renderFixed r s else renderFixed r s)
    ∧ readUnsigned (renderFixed r s) = .ok |q|
    ∧ fmtG (n : Rat) = natDigits n ∧ readDigits (natDigits n) = n := by
  refine ⟨fmtG_fixed q r s hr hr' hs hq, ?_, fmtG_nat n hn, readDigits_natDigits n⟩
  rw [hq]; exact readUnsigned_numText (renderFixed_numText r s)

/-- **outside that domain the statement is false: `%g` switches to exponent notation, which the
parser rejects** (known finding `g-exponent`): `str(FractionValue(1000000)) = "1e+06"` -/
theorem parse_format_exponent_counterexample :
    (⟨1000000, ⟨0⟩⟩ : FV).str = ['1', 'e', '+', '0', '6']
    ∧ parse (⟨1000000, ⟨0⟩⟩ : FV).str = .error .value := by
  constructor <;> decide +kernel

/-! ## 7. `CreateFromFloat` -/

/-- an integer-valued float becomes `FractionValue(value)` -/
theorem createFromFloat_int (z : Int) :
    ∃ v, createFromFloat (z : Rat) = .ok v ∧ v.value = z := by
  refine ⟨⟨z, ⟨0⟩⟩, createFromFloat_of_int (by simp), by simp [FV.value, Frac.toFloat]⟩

/-- **the continued-fraction loop in exact arithmetic returns the reduced fraction of its target**
`0 < t < 1` (numerator below `2^498`), whatever the numerator bound `maxNum ≥ t.num`: it never
stops on a repeated value, never divides by zero, never runs out of its 998 passes -/
theorem createFromFloat_loop_exact {t : Rat} (h0 : 0 < t) (h1 : t < 1) {maxNum : Int} (hmax : t.num ≤ maxNum)
    (hsize : t.num < 2 ^ 498) :
    cfLoop t maxNum 998 (cfInit t) = .ok (t.num, (t.den : Int)) := cfLoop_exact h0 h1 hmax hsize

/-- **`CreateFromFloat(d)` denotes `d` exactly** for every decimal `d` (any number of significant
digits up to 100 decimal places, either sign) with `1e-4 ≤ |d| < 1e16`, and for every integer:
`str(value)` is in fixed notation there, `GetFractionalPart` returns `d - floor d`,
`GetMaxNumerator` is the digit string read as a number and bounds every convergent's numerator,
and the loop ends on the reduced fraction of the fractional part.  (In exact arithmetic; the float
loop is tied to this model by the correspondence.) -/
theorem createFromFloat_exact (d : Rat) (k : Nat) (hk : k ≤ 100) (hd : (d * 10 ^ k).den = 1)
    (hlo : 1 / 10 ^ 4 ≤ |d|) (hhi : |d| < 10 ^ 16) : ∃ v, createFromFloat d = .ok v ∧ v.value = d :=
  createFromFloat_decimal d k hk hd hlo hhi

/-- **for `0 < |x| < 1e-4` the code is wrong** (known finding `repr-exponent`): `str(x)` is in
exponent notation and `GetFractionalPart` keeps the exponent: `CreateFromFloat(1.5e-07)` is `5e-08` -/
theorem createFromFloat_tiny_counterexample :
    createFromFloat (3 / 20000000) = .ok ⟨0, ⟨1 / 20000000⟩⟩ := by decide +kernel

/-! ## 8. objects are independent: whatever is done to one leaves the amount of every other

A program is a sequence of statements over the objects it has built so far (`Pool`): each statement
builds a new `Fraction`/`FractionValue`/`FractionScalar` (every constructor form, `CreateFromFloat`,
`CreateFromString`, copies, arithmetic, conversions — they may read other objects) or changes one object
in place (the `numerator`/`denominator` setters, `fraction[i] = …`, `reduce`, `SetNumber`, `SetFraction`,
on a FractionValue also through `fv.fraction`, on a FractionScalar through `fs.GetValue()`). -/

/-- **one statement changes at most the object it is aimed at**: every other object is exactly what
it was (number, fraction, unit), hence denotes the same amount (the second equation is the first
under `Obj.value`); building a new object changes no existing one -/
theorem pool_step_independent (db : Db) (p : Pool) (op : PoolOp) (j : Nat) (hj : j < p.length)
    (h : op.target ≠ some j) :
    (poolStep db p op).1[j]? = p[j]?
    ∧ ((poolStep db p op).1[j]?).map Obj.value = (p[j]?).map Obj.value := by
  rw [poolStep_get_other db p op j hj h]; exact ⟨rfl, rfl⟩

/-- **for every program, by induction over its statements: object `j` ends as what the in-place
statements aimed at `j` itself, applied to it alone, make of it** — no statement aimed at another
object, no construction, copy, conversion or arithmetic in between enters the result -/
theorem pool_run_projection (db : Db) (ops : List PoolOp) (p : Pool) (j : Nat) (o : Obj) (h : p[j]? = some o) :
    (poolRun db p ops)[j]? = some (o.mutateAll (mutsOf j ops)) := poolRun_projection db ops p j o h

/-- **an object no statement is aimed at keeps its parts and its amount through any program** (the
second equation is the first under `Obj.value`) -/
theorem pool_run_independent (db : Db) (ops : List PoolOp) (p : Pool) (j : Nat) (o : Obj) (h : p[j]? = some o)
    (hno : ∀ op ∈ ops, op.target ≠ some j) :
    (poolRun db p ops)[j]? = some o ∧ ((poolRun db p ops)[j]?).map Obj.value = some o.value := by
  have := poolRun_projection db ops p j o h
  rw [mutsOf_nil_of_no_target j ops hno] at this
  simp only [Obj.mutateAll] at this
  rw [this]; exact ⟨rfl, rfl⟩

/-- **a FractionValue built without a fraction argument (`FractionValue(n)`, `FractionValue()`,
`FractionValue(number=n)`) denotes `n`, and keeps denoting `n` whatever the program does afterwards
to the other objects** — whatever pool it was built into -/
theorem fv_without_fraction_denotes_number (db : Db) (p : Pool) (n : Rat) (ops : List PoolOp)
    (hno : ∀ op ∈ ops, op.target ≠ some p.length) :
    (poolRun db p (.new (.fvNew (some n) FracArg.default) :: ops))[p.length]? = some (.fv ⟨n, ⟨0⟩⟩)
    ∧ (Obj.fv ⟨n, ⟨0⟩⟩).value = n := by
  constructor
  · have hs : poolStep db p (.new (.fvNew (some n) FracArg.default)) = (p ++ [.fv ⟨n, ⟨0⟩⟩], .ok ()) :=
      poolStep_new db p _ _ (by simp [Ctor.eval, okFV, fv_init_default])
    simp only [poolRun, hs]
    exact (pool_run_independent db ops _ p.length _ (by simp) hno).1
  · simp [Obj.value, FV.value, Frac.toFloat]

/-- the same for a FractionValue built with an explicit fraction, by `CreateFromFloat`,
`CreateFromString`, a copy, a conversion …: whatever a construction built stays what it built -/
theorem pool_new_keeps (db : Db) (p : Pool) (c : Ctor) (o : Obj) (hc : c.eval db p = .ok (some o))
    (ops : List PoolOp) (hno : ∀ op ∈ ops, op.target ≠ some p.length) :
    (poolRun db p (.new c :: ops))[p.length]? = some o := by
  simp only [poolRun, poolStep_new db p c o hc]
  exact (pool_run_independent db ops _ p.length _ (by simp) hno).1

/-- **a FractionScalar built from a plain float `x` holds the FractionValue `x` (no fraction) in its
unit** — the amount a Scalar holding `x` has — **and keeps it through any program on other objects** -/
theorem fs_from_float_denotes_float (db : Db) (p : Pool) (cat unit : Sym) (q : Qty) (x : Rat)
    (hq : obtain db cat unit = .ok q) (ops : List PoolOp) (hno : ∀ op ∈ ops, op.target ≠ some p.length) :
    (poolRun db p (.new (.fsNew cat unit (.num x)) :: ops))[p.length]? = some (.fs ⟨q, ⟨x, ⟨0⟩⟩⟩)
    ∧ (Obj.fs ⟨q, ⟨x, ⟨0⟩⟩⟩).value = x := by
  constructor
  · exact pool_new_keeps db p _ _ (by simp [Ctor.eval, fv_init_default, FS.init, hq]) ops hno
  · simp [Obj.value, FV.value, Frac.toFloat]

/-- copies and arithmetic results are new objects: changing them later does not reach the original
(and the other way round) -/
theorem pool_copy_independent (db : Db) (p : Pool) (k : Nat) (v : FV) (hk : p[k]? = some (.fv v))
    (ops : List PoolOp) :
    (poolRun db p (.new (.fvCopy k) :: ops))[k]? = some ((Obj.fv v).mutateAll (mutsOf k ops))
    ∧ (poolRun db p (.new (.fvCopy k) :: ops))[p.length]? = some ((Obj.fv v).mutateAll (mutsOf p.length ops)) := by
  have hc : (Ctor.fvCopy k).eval db p = .ok (some (.fv v)) := by
    simp [Ctor.eval, Pool.fv?, hk, fv_copy, okFV]
  have hklt : k < p.length := (List.getElem?_eq_some_iff.mp hk).1
  simp only [poolRun, poolStep_new db p _ _ hc]
  constructor
  · exact poolRun_projection db ops _ k _ (by rw [List.getElem?_append_left hklt]; exact hk)
  · exact poolRun_projection db ops _ p.length _ (by simp)

/-! ## 9. the in-place setters and the sequence protocol of `Fraction` -/

/-- **`f.numerator = n` / `f.denominator = d` with ints give `n / denominator` and `numerator / d`
exactly** (`d = 0` is Python's `ZeroDivisionError`); infinite values are refused -/
theorem fraction_set_int (f : Frac) (n d : Int) (hd : d ≠ 0) (neg : Bool) :
    f.setNum (.int n) = .ok ⟨(n : Rat) / (f.denominator : Rat)⟩
    ∧ f.setDen (.int d) = .ok ⟨(f.numerator : Rat) / (d : Rat)⟩
    ∧ f.setDen (.int 0) = .error .other
    ∧ f.setNum (.inf neg) = .error .value ∧ f.setDen (.inf neg) = .error .value :=
  ⟨setNum_int f n, setDen_int f d hd, setDen_zero f, rfl, rfl⟩

/-- **a float argument (a decimal with at most seven places) acts as the rational it denotes** -/
theorem fraction_set_float (f : Frac) (m : Int) (i : Nat) (hi : i ≤ 7) :
    f.setNum (.float ((m : Rat) / 10 ^ i)) = .ok ⟨(m : Rat) / 10 ^ i / (f.denominator : Rat)⟩
    ∧ (m ≠ 0 → f.setDen (.float ((m : Rat) / 10 ^ i)) = .ok ⟨(f.numerator : Rat) / ((m : Rat) / 10 ^ i)⟩) :=
  ⟨setNum_decimal f m i hi, setDen_decimal f m i hi⟩

/-- `f[0] = n`, `f[-2] = n` set the numerator, `f[1] = d`, `f[-1] = d` the denominator (ints only);
`f[1] = 0` is refused by the assertion, other keys by the list -/
theorem fraction_setitem (f : Frac) (n d : Int) (hd : d ≠ 0) :
    f.setItem (some 0) (.int n) = f.setNum (.int n) ∧ f.setItem (some (-2)) (.int n) = f.setNum (.int n)
    ∧ f.setItem (some 1) (.int d) = f.setDen (.int d) ∧ f.setItem (some (-1)) (.int d) = f.setDen (.int d)
    ∧ f.setItem (some 1) (.int 0) = .error .assertion
    ∧ f.setItem (some 2) (.int n) = .error .index ∧ f.setItem none (.int d) = .error .type := by
  have hd' : (d != 0) = true := by simp [hd]
  refine ⟨?_, ?_, ?_, ?_, ?_, ?_, ?_⟩ <;>
    simp [Frac.setItem, Frac.setNum, Frac.setDen, PyNum.isNumber, PyNum.truthy, hd']

/-- **the sequence protocol shows the fraction itself**: `len(f) = 2`, `f[0]`/`f[-2]` the numerator,
`f[1]`/`f[-1]` the denominator, iteration both, and `f[0] / f[1]` is the amount -/
theorem fraction_sequence (f : Frac) :
    f.len = 2 ∧ f.getItem (some 0) = .ok f.numerator ∧ f.getItem (some 1) = .ok f.denominator
    ∧ f.getItem (some (-2)) = .ok f.numerator ∧ f.getItem (some (-1)) = .ok f.denominator
    ∧ f.getItem (some 2) = .error .index ∧ f.getItem none = .error .type
    ∧ f.iter = [f.numerator, f.denominator]
    ∧ (f.numerator : Rat) / (f.denominator : Rat) = f.x := by
  refine ⟨rfl, rfl, rfl, rfl, rfl, rfl, rfl, rfl, ?_⟩
  exact num_div_den' f.x

/-- setting a part in place and reading it back through a FractionValue: `fv.fraction.numerator = n`
changes the fraction only, `SetNumber` the number only -/
theorem fv_mutate_parts (v : FV) (n : Int) (x : Rat) :
    v.mutate (.setNum (.int n)) = .ok ⟨v.number, ⟨(n : Rat) / (v.frac.denominator : Rat)⟩⟩
    ∧ v.mutate (.setNumber (some x)) = .ok ⟨x, v.frac⟩ := by
  constructor
  · simp [FV.mutate, Frac.mutate, setNum_int]
  · rfl

/-! ## 10. `Fraction.__pow__` agrees with exact rational arithmetic for integer exponents -/

/-- **`f ** k` is `f.x ^ k` for every integer `k ≥ 0`, the reciprocal power for `k < 0` and `f ≠ 0`
(an int or an integral float exponent alike); `0 ** k` for `k < 0` is refused** -/
theorem fraction_pow_exact (s : Frac) (k : Nat) :
    s.pow (.int k) = .ok ⟨s.x ^ k⟩ ∧ s.pow (.float k) = .ok ⟨s.x ^ k⟩
    ∧ (0 < k → s.x ≠ 0 → s.pow (.int (-(k : Int))) = .ok ⟨(s.x ^ k)⁻¹⟩ ∧ s.pow (.float (-(k : Int))) = .ok ⟨(s.x ^ k)⁻¹⟩)
    ∧ (0 < k → s.x = 0 → s.pow (.int (-(k : Int))) = .error .assertion) :=
  ⟨powInt_nonneg s k, powInt_nonneg s k, fun hk hx => ⟨powInt_neg s k hk hx, powInt_neg s k hk hx⟩,
   fun hk hx => powInt_neg_zero s k hk hx⟩

/-- in one formula: `f ** k = f.x ^ k` with the integer power of the rationals (`zpow`) -/
theorem fraction_pow_zpow (s : Frac) (k : Int) (hx : s.x ≠ 0) : s.pow (.int k) = .ok ⟨s.x ^ k⟩ := by
  rcases Int.eq_nat_or_neg k with ⟨n, rfl | rfl⟩
  · rw [zpow_natCast]; exact powInt_nonneg s n
  · rcases Nat.eq_zero_or_pos n with rfl | hn
    · simpa [Frac.pow] using powInt_nonneg s 0
    · rw [zpow_neg, zpow_natCast]; exact powInt_neg s n hn hx

/-- an infinite exponent: `float(f) ** ±inf` is 1, 0 or infinite, and an infinite value is refused -/
theorem fraction_pow_inf (s : Frac) (neg : Bool) (h : |s.x| ≠ 1) :
    s.pow (.inf neg) = (if (decide (1 < |s.x|)) != neg then .error .value else .ok ⟨0⟩) := by
  have h0 := normalise_int 0 1
  simp only [Int.cast_zero, div_one] at h0
  simp [Frac.pow, Frac.powInf, absR_eq_abs, h, init_fin_none, h0]

/-! ## 11. the localized texts and the other argument forms -/

/-- **`GetLocalizedString()` is `str()` (C locale), so parsing it gives the value back under the
hypotheses of `parse_format`; `GetLocalizedFraction()` is the fraction part of that text**.  The flag
`consider_locale` does not enter: the model's `parseWith` ignores it (in the C locale `locale.atof`
and `float` read the same decimal), and `localizedString` is `str` -/
theorem localized_parse (v : FV) (hn : Printable v.number) (hnum : v.frac.numerator.natAbs < 1000000)
    (hden : v.frac.denominator < 1000000) (cl : Bool) :
    parseWith cl v.localizedString = .ok v
    ∧ v.str = (if v.frac.toFloat = 0 then fmtG v.number else fmtG v.number ++ ' ' :: v.localizedFraction) := by
  refine ⟨parse_format v hn hnum hden, ?_⟩
  unfold FV.str FV.localizedFraction
  split <;> rfl

/-- `CreateFromFloat(None)` is `None`, a non-number a `TypeError`, a number what section 7 says -/
theorem createFromFloat_arguments (d : Rat) :
    createFromFloatPy .none = .ok none ∧ createFromFloatPy .bad = .error .type
    ∧ createFromFloatPy (.num d) = (createFromFloat d).map some := by
  refine ⟨rfl, rfl, ?_⟩
  simp only [createFromFloatPy]
  cases h : createFromFloat d <;> simp [Except.map]

end Barril.Frac
