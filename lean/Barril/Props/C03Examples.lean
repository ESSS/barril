/- Non-vacuity examples of C03 (kept apart from Props/C03.lean: they evaluate
concrete instances, many over the regenerated tables, and must not be able to stop the theorem module from
building).  Not property theorems: the check builds this module separately and only records the outcome. -/
import Barril.Props.C03
import Barril.Gen.ThmFlat

namespace Barril.Alg
open Barril Barril.Gen

section examples
private def S (s : String) : Sym := Sym.ofString s
private def qDegC : Quantity := ⟨[⟨S "temperature", S "degC", 1⟩], 0, false⟩
private def qK : Quantity := ⟨[⟨S "temperature", S "K", 1⟩], 0, false⟩
private def qM : Quantity := ⟨[⟨S "length", S "m", 1⟩], 0, false⟩
private def qM2 : Quantity := ⟨[⟨S "length", S "m", 2⟩], 0, true⟩
private def qCm2 : Quantity := ⟨[⟨S "length", S "cm", 2⟩], 0, true⟩
private def qPerS : Quantity := ⟨[⟨S "time", S "s", -1⟩], 0, true⟩
private def qPerMin : Quantity := ⟨[⟨S "time", S "min", -1⟩], 0, true⟩
private def qDegCm : Quantity := ⟨[⟨S "temperature", S "degC", 1⟩, ⟨S "length", S "m", 1⟩], 0, true⟩
private def qmK : Quantity := ⟨[⟨S "length", S "m", 1⟩, ⟨S "temperature", S "K", 1⟩], 0, true⟩

example : Operand poscDb qM2 := ⟨known_of_b (by rw [Gen.poscDb_flat]; decide +kernel), unified_of_single _ _, by decide⟩
example : Operand poscDb qPerMin ∧ ScaleOnlyQ poscDb qPerMin :=
  ⟨⟨known_of_b (by rw [Gen.poscDb_flat]; decide +kernel), unified_of_single _ _, by decide⟩, scaleOnlyQ_of_b (by rw [Gen.poscDb_flat]; decide +kernel)⟩
example : Operand poscDb qDegC := ⟨known_of_b (by rw [Gen.poscDb_flat]; decide +kernel), unified_of_single _ _, by decide⟩
example : opSame poscDb .add qM2 qCm2 1 10000 = .ok (qM2, 2) := by rw [Gen.poscDb_flat]; decide +kernel
example : opSame poscDb .add qPerS qPerMin (R 1 2) (R 1 2) = .ok (qPerS, R 61 120) := by rw [Gen.poscDb_flat]; decide +kernel
example : opSame poscDb .sub qPerS qPerMin (R 61 120) (R 1 2) = .ok (qPerS, R 1 2) := by rw [Gen.poscDb_flat]; decide +kernel
example : opSame poscDb .add qCm2 qM2 10000 1 = .ok (qCm2, 20000) := by rw [Gen.poscDb_flat]; decide +kernel
example : opSame poscDb .add qM2 qM 1 1 = .error .units := by rw [Gen.poscDb_flat]; decide +kernel
end examples


/-! ### witnesses over the shipped table (a changed table value can change them without touching a property
theorem, hence here and not in the theorem module) -/

/-- **the known finding, on the model of the shipped table**: 10 degC + 1 K = −262.15 degC (= 11 K) but
1 K + 10 degC = 284.15 K: both follow the property's first sentence, they are not the same amount -/
theorem add_comm_affine_counterexample :
    opSame poscDb .add qDegC qK 10 1 = .ok (qDegC, R (-26215) 100)
    ∧ opSame poscDb .add qK qDegC 1 10 = .ok (qK, R 28415 100)
    ∧ poscDb.convert (S "temperature") (S "degC") (S "K") (R (-26215) 100) = .ok 11 := by
  rw [Gen.poscDb_flat]
  refine ⟨by decide +kernel, by decide +kernel, by decide +kernel⟩

/-- **inside a derived operand a unit with an offset is scaled, not shifted** (barril's fix "unit matching inside a
derived quantity scales units that have an offset"): (10 degC·m) + (1 m·K) = 11 degC·m (shifting by the offset
would give −262.15 degC·m), and the other order gives 11 m·K -/
theorem add_derived_affine_scaled :
    opSame poscDb .add qDegCm qmK 10 1 = .ok (qDegCm, 11)
    ∧ opSame poscDb .add qmK qDegCm 1 10 = .ok (qmK, 11) := by
  rw [Gen.poscDb_flat]
  refine ⟨by decide +kernel, by decide +kernel⟩

end Barril.Alg
