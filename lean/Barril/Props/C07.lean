/-
C07 — quantities are immutable values with sound equality, hash and copying.

Model: `Barril/Model/Intern.lean` (heap of `[unit, exp]` cells, objects by allocation index,
`quantities_cache` as an ordered association list; `ObtainQuantity` in all its forms, `CreateEmpty`,
`CreateDerived`, `MakeCopy`, `__reduce__/_ObtainReduced`, `__eq__/__hash__`, the two arithmetic
routines that edit copies).  Helper lemmas and the invariant `Inv`/`SInv`: `Barril/Proofs/InternLemmas.lean`.

"Reachable" below means: the state after ANY history of public operations (`Op`: creation in every
form, well- or ill-formed; CreateEmpty; CreateDerived; MakeCopy(map); copies/conversions/validations
(`ident`); pickling; SetUnknownCaption; CreateCopy(unit=); Sum/Subtract; Multiply/Divide with quantities
or plain numbers), started from the empty session, of any length (`run`, by induction).
-/
import Barril.Proofs.InternLemmas

namespace Barril.Intern

/-- the session after a history, from a fresh database (empty cache, no `_EMPTY_QUANTITY`) -/
def reach (db : Db) (g : Guard) (ops : List Op) : Session := run db g {} ops

/-! ### the invariant over all histories -/

/-- after every history: no dangling reference, every simple quantity is one valid `[unit, 1]` list,
every derived quantity is interned under the key of its own composing map and caption, every
`(category, unit, caption)` entry points to what that request resolves to, and every step result
and `_EMPTY_QUANTITY` name live objects -/
theorem reachable_invariant (db : Db) (g : Guard) (ops : List Op) : SInv db (reach db g ops) :=
  (run_sinv ops (sinv_init db)).1

/-! ### immutability: nothing that exists is ever altered -/

/-- **cache entries are never removed, re-pointed or reordered**, whatever happens later (any further
history `later`, failed operations included): the cache after is the cache before plus new entries -/
theorem cache_entries_stable (db : Db) (g : Guard) (before later : List Op) :
    (∃ t, (run db g (reach db g before) later).st.cache = (reach db g before).st.cache ++ t) ∧
    ∀ k i, lookupKey (reach db g before).st.cache k = some i →
      lookupKey (run db g (reach db g before) later).st.cache k = some i := by
  have h := (run_sinv (g := g) later (reachable_invariant db g before)).2
  refine ⟨h.cache, fun k i hk => ?_⟩
  obtain ⟨t, ht⟩ := h.cache
  rw [ht]; exact lookupKey_append_of_some hk

/-- **every quantity alive at some point keeps its identity, its composing map (categories, units,
exponents, list/tuple), caption, derived flag — hence every getter — and its hash through every later
history** -/
theorem quantities_immutable (db : Db) (g : Guard) (before later : List Op) (i : Nat) (q : Quantity)
    (hq : (reach db g before).st.objs[i]? = some q) :
    (run db g (reach db g before) later).st.objs[i]? = some q ∧
    view (run db g (reach db g before) later).st.heap q = view (reach db g before).st.heap q ∧
    hashKey (run db g (reach db g before) later).st.heap q = hashKey (reach db g before).st.heap q := by
  have hs := reachable_invariant db g before
  have h := (run_sinv (g := g) later hs).2
  have wf := (hs.inv.objs i q hq).wf
  exact ⟨h.objs_get hq, view_ext h wf, hashKey_ext h wf⟩

/-- **the equality class of a quantity never changes**: `a == b` between two live quantities has
the same answer after any later history -/
theorem equality_stable (db : Db) (g : Guard) (before later : List Op) (i j : Nat) (a b : Quantity)
    (ha : (reach db g before).st.objs[i]? = some a) (hb : (reach db g before).st.objs[j]? = some b) :
    qeq (run db g (reach db g before) later).st.heap a b = qeq (reach db g before).st.heap a b := by
  have hs := reachable_invariant db g before
  exact qeq_ext (run_sinv (g := g) later hs).2 (hs.inv.objs i a ha).wf (hs.inv.objs j b hb).wf

/-- `Quantity._EMPTY_QUANTITY`, once set, is never re-pointed -/
theorem empty_quantity_stable (db : Db) (g : Guard) (before later : List Op) (i : Nat)
    (h : (reach db g before).st.empty = some i) : (run db g (reach db g before) later).st.empty = some i :=
  (run_sinv (g := g) later (reachable_invariant db g before)).2.empty i h

/-- **heap frame of the arithmetic routines**: `_DoOperationWithSameQuantity` (Sum, Subtract) writes
`unit_exp[0] = …` only into its deep copies: every cell that existed keeps its content, every object
and cache entry stays (the result may add interned quantities) -/
theorem arith_frame_same {db : Db} {s s' : State} (hs : Inv db s) (i1 i2 : Nat) {r : Except ErrKind Nat}
    (h : opSame db s i1 i2 = (s', r)) :
    (∀ a, a < s.heap.length → s'.heap[a]? = s.heap[a]?) ∧ (∃ t, s'.objs = s.objs ++ t) ∧
    (∃ t, s'.cache = s.cache ++ t) := by
  have g := opSame_good hs i1 i2
  rw [h] at g
  exact ⟨g.ext.heap.2, g.ext.objs, g.ext.cache⟩

/-- the same for `_DoOperationResultingInNewQuantity` (Multiply, Divide), which also writes
`unit_exp1[1] = …` and adds entries to its copy of map 1 -/
theorem arith_frame_new {db : Db} {s s' : State} (hs : Inv db s) (div : Bool) (i1 i2 : Nat)
    {r : Except ErrKind Nat} (h : opNew db s div i1 i2 = (s', r)) :
    (∀ a, a < s.heap.length → s'.heap[a]? = s.heap[a]?) ∧ (∃ t, s'.objs = s.objs ++ t) ∧
    (∃ t, s'.cache = s.cache ++ t) := by
  have g := opNew_good hs div i1 i2
  rw [h] at g
  exact ⟨g.ext.heap.2, g.ext.objs, g.ext.cache⟩

/-- **mutators raise ReadOnlyError** and change nothing -/
theorem mutators_readonly (db : Db) (g : Guard) (ss : Session) (q : Nat) (cap : Sym) :
    (stepState db g ss (.setcap q cap)).1 = ss.st ∧
    ((stepState db g ss (.setcap q cap)).2 = .err .readonly ∨ (stepState db g ss (.setcap q cap)).2 = .skip) := by
  simp only [stepState, setUnknownCaption]
  cases resolve ss.results q <;> simp

/-- **running the constructor again on an existing quantity changes nothing**: `q.__init__(…)` /
`Quantity.__init__(q, …)` with any arguments (a category and a unit, a category alone, a composing
`OrderedDict`, the empty one; any caption) on any quantity a session holds (simple, derived, empty,
unknown with a caption) leaves the whole state — every object, heap cell, cache entry and
`_EMPTY_QUANTITY` — as it was, and the caller still holds the same object -/
theorem reinit_changes_nothing (db : Db) (g : Guard) (ss : Session) (q : Nat) (a : InitArg) (cap : Option Sym) :
    (stepState db g ss (.reinit q a cap)).1 = ss.st ∧
    (∀ i, resolve ss.results q = some i → (stepState db g ss (.reinit q a cap)).2 = .ok i) ∧
    (resolve ss.results q = none → (stepState db g ss (.reinit q a cap)).2 = .skip) := by
  simp only [stepState, reInit]
  cases resolve ss.results q <;> simp

/-- **a repeated `__init__` after any history leaves the state (cache, objects, heap, `_EMPTY_QUANTITY`)
as that history left it**; only the results list gets one more entry -/
theorem reinit_invisible (db : Db) (g : Guard) (before : List Op) (q : Nat) (a : InitArg) (cap : Option Sym) :
    (run db g (reach db g before) [.reinit q a cap]).st = (reach db g before).st :=
  (reinit_changes_nothing db g (reach db g before) q a cap).1

/-- every quantity alive before a repeated `__init__` (the one it is called on included) keeps its
identity, its view (composing map, caption, derived flag: every getter) and its hash through the call
and through whatever history follows it -/
theorem reinit_keeps_every_quantity (db : Db) (g : Guard) (before later : List Op) (r : Nat) (a : InitArg)
    (cap : Option Sym) (i : Nat) (q : Quantity) (hq : (reach db g before).st.objs[i]? = some q) :
    (run db g (reach db g before) (.reinit r a cap :: later)).st.objs[i]? = some q ∧
    view (run db g (reach db g before) (.reinit r a cap :: later)).st.heap q = view (reach db g before).st.heap q ∧
    hashKey (run db g (reach db g before) (.reinit r a cap :: later)).st.heap q =
      hashKey (reach db g before).st.heap q :=
  quantities_immutable db g before (.reinit r a cap :: later) i q hq

/-- **copy, deepcopy, Copy(), MakeCopy(), CreateCopyInstance(), abs, arithmetic with a number return
the identical object** and change nothing -/
theorem copy_is_self (db : Db) (g : Guard) (ss : Session) (q i : Nat) (h : resolve ss.results q = some i) :
    stepState db g ss (.ident q) = (ss.st, .ok i) := by
  simp [stepState, h, copyOf]

/-! ### interning: equality, hash, repeated requests -/

/-- **the same request repeated returns the identical object and leaves the state unchanged** (every
argument form, every state — no reachability needed) -/
theorem obtain_idempotent {db : Db} {s s1 : State} {u : UnitArg} {c : CatArg} {cap : Option Sym} {i : Nat}
    (h : obtain db s u c cap = (s1, .ok i)) : obtain db s1 u c cap = (s1, .ok i) := by
  unfold obtain at h
  split at h
  · cases h
  · rename_i heq; simp only [obtain, heq]; exact obtainDict_idem h
  · rename_i heq; simp only [obtain, heq]; exact obtainKey_idem h
  · rename_i heq; simp only [obtain, heq]; exact obtainKey_idem h
  · cases h

/-- repeated `CreateEmpty()` returns the identical object -/
theorem createEmpty_idempotent {db : Db} {s s1 : State} {i : Nat} (h : createEmpty db s = (s1, .ok i)) :
    createEmpty db s1 = (s1, .ok i) := by
  unfold createEmpty at h
  split at h
  · rename_i j hj
    simp only [Prod.mk.injEq, Except.ok.injEq] at h; obtain ⟨rfl, rfl⟩ := h
    simp [createEmpty, hj]
  · split at h
    · simp only [Prod.mk.injEq, Except.ok.injEq] at h; obtain ⟨rfl, rfl⟩ := h
      simp [createEmpty]
    · cases h

/-- **equal quantities have equal hashes** (what `__hash__` hashes is a function of what `__eq__` compares) -/
theorem eq_hash {h : Heap} {a b : Quantity} (he : qeq h a b = true) : hashKey h a = hashKey h b := by
  obtain ⟨cs, ha, hb, hc⟩ := qeq_true he
  simp only [hashKey, ha, hb, hc]

/-- `==` is symmetric -/
theorem eq_symm (h : Heap) (a b : Quantity) : qeq h a b = qeq h b a := by
  unfold qeq
  cases readMap h a.map <;> cases readMap h b.map <;> simp only []
  rename_i x y
  rw [Bool.beq_comm (a := x), Bool.beq_comm (a := a.caption)]

/-- `==` is transitive -/
theorem eq_trans {h : Heap} {a b c : Quantity} (h1 : qeq h a b = true) (h2 : qeq h b c = true) :
    qeq h a c = true := by
  obtain ⟨x, ha, hb, hab⟩ := qeq_true h1
  obtain ⟨y, hb', hc, hbc⟩ := qeq_true h2
  rw [hb] at hb'; cases hb'
  simp [qeq, ha, hc, hab.trans hbc]

/-- **every cell of every live quantity is a `[unit, exp]` list of the quantity's own** (never the
caller's tuple or list): whatever form a request had, after any history -/
theorem live_cells_are_lists (db : Db) (g : Guard) (ops : List Op) (i : Nat) (q : Quantity)
    (hq : (reach db g ops).st.objs[i]? = some q) :
    ∃ cs, readMap (reach db g ops).st.heap q.map = some cs ∧ ∀ kc ∈ cs, kc.2.frozen = false :=
  live_cells (reachable_invariant db g ops).inv hq

/-- **every quantity obtainable through `ObtainQuantity` (in any form, directly or through
`CreateDerived`, `MakeCopy`, pickling or arithmetic) has only units of its categories' quantity types**:
for every live quantity after any history, simple or derived, each `(category, [unit, exp])` entry passes
`CheckQuantityTypeUnit(GetCategoryQuantityType(category), unit)` -/
theorem live_units_of_their_categories (db : Db) (g : Guard) (ops : List Op) (i : Nat) (q : Quantity)
    (hq : (reach db g ops).st.objs[i]? = some q) :
    ∃ cs, readMap (reach db g ops).st.heap q.map = some cs ∧
      ∀ kc ∈ cs, db.categoryUnitValid kc.1 kc.2.unit = true :=
  let ⟨cs, hr, h⟩ := live_read (reachable_invariant db g ops).inv hq
  ⟨cs, hr, fun kc hkc => (h kc hkc).2⟩

/-- **on every reachable state two quantities are equal exactly when they have the same composing map
(categories, units, exponents, in order) and caption**: `__eq__` would tell a list cell from a tuple
cell, but live quantities only hold lists; requests that resolve differently give unequal quantities -/
theorem obtain_eq_iff (db : Db) (g : Guard) (ops : List Op) (i j : Nat) (a b : Quantity)
    (ha : (reach db g ops).st.objs[i]? = some a) (hb : (reach db g ops).st.objs[j]? = some b) :
    qeq (reach db g ops).st.heap a b = contentEq (reach db g ops).st.heap a b :=
  live_qeq_iff (reachable_invariant db g ops).inv ha hb

/-- **products, quotients and sums that hit a cached quantity never raise the tuple `TypeError`**
(`'tuple' object does not support item assignment`): on the working copies of any two live
quantities neither the unit matching (`unit_exp[0] = …`) nor the merge of the exponents
(`unit_exp1[1] = …`) can fail that way, whatever form the requests that created them had -/
theorem arith_no_tuple_error (db : Db) (g : Guard) (ops : List Op) (i1 i2 : Nat) (q1 q2 : Quantity)
    (hq1 : (reach db g ops).st.objs[i1]? = some q1) (hq2 : (reach db g ops).st.objs[i2]? = some q2)
    {h1 h2 : Heap} {m1 m2 : Map}
    (hc1 : copyMap (reach db g ops).st.heap q1.map = some (h1, m1)) (hc2 : copyMap h1 q2.map = some (h2, m2)) :
    matchQuantities db h2 m1 m2 ≠ .error .type ∧
    ∀ h3, matchQuantities db h2 m1 m2 = .ok h3 → ∀ div, mergePass div h3 m1 m2 ≠ .error .type :=
  copies_no_type (reachable_invariant db g ops).inv hq1 hq2 hc1 hc2

/-- **requests that resolve to the same category, unit and caption return equal quantities; requests
that resolve differently return unequal ones**: for two `(category, unit, caption)` entries of the
cache after any history (e.g. a legacy spelling and the current one, caption `None` and `""`), the
quantities are equal exactly when the units resolve alike (`CheckCategoryUnit` + legacy retry) and
the captions denote the same string -/
theorem same_resolution_equal (db : Db) (g : Guard) (ops : List Op) (cat u1 u2 : Sym) (cap1 cap2 : Option Sym)
    (i j : Nat)
    (h1 : lookupKey (reach db g ops).st.cache (.simple (some cat) (some u1) cap1) = some i)
    (h2 : lookupKey (reach db g ops).st.cache (.simple (some cat) (some u2) cap2) = some j) :
    ∃ a b, (reach db g ops).st.objs[i]? = some a ∧ (reach db g ops).st.objs[j]? = some b ∧
      (qeq (reach db g ops).st.heap a b = true ↔
        (resolveSimpleUnit db cat u1 = resolveSimpleUnit db cat u2 ∧ capStr cap1 = capStr cap2)) := by
  have hs := (reachable_invariant db g ops).inv
  obtain ⟨a, r1, v1, ha, _, ham, hah, har, hac⟩ := hs.simpleKey _ _ _ _ h1
  obtain ⟨b, r2, v2, hb, _, hbm, hbh, hbr, hbc⟩ := hs.simpleKey _ _ _ _ h2
  refine ⟨a, b, ha, hb, ?_⟩
  rw [har, hbr]
  -- both are one `[unit, 1]` list under `cat`: `==` compares the resolved units and the caption strings
  simp only [qeq, ham, hbm, readMap, hah, hbh, hac, hbc, Bool.and_eq_true, beq_iff_eq, Except.ok.injEq,
    List.cons.injEq, Prod.mk.injEq, Cell.mk.injEq, and_true, true_and]

/-- **derived quantities are interned**: two live derived quantities with the same composing map and
caption are the identical object -/
theorem derived_identical (db : Db) (g : Guard) (ops : List Op) (i j : Nat) (a b : Quantity)
    (ha : (reach db g ops).st.objs[i]? = some a) (hb : (reach db g ops).st.objs[j]? = some b)
    (hd : a.derived = true) (h : contentEq (reach db g ops).st.heap a b = true) : i = j :=
  derived_interned (reachable_invariant db g ops).inv ha hb hd h

/-- **a pickle round trip never fails and returns an equal quantity** (for a derived quantity the
identical object, with the state unchanged), for every quantity alive after any history: simple,
derived, empty, with or without caption -/
theorem pickle_roundtrip_eq (db : Db) (g : Guard) (ops : List Op) (i : Nat) (q : Quantity)
    (hq : (reach db g ops).st.objs[i]? = some q) :
    ∃ st s' j q', reduce (reach db g ops).st q = some st ∧
      obtainReduced db (reach db g ops).st st = (s', .ok j) ∧ s'.objs[j]? = some q' ∧
      qeq s'.heap q' q = true ∧ (q.derived = true → j = i ∧ s' = (reach db g ops).st) :=
  pickle_roundtrip (reachable_invariant db g ops).inv hq

/-! ### non-vacuity on the shipped table -/

section examples

def exG : Guard := ⟨8, 8⟩
def sM : Sym := 109
def sCm : Sym := 28003
def sLength : Sym := 114849160783212
def sS : Sym := 115
def sTime : Sym := 1701669236

/-- m [length]; cm [length] with caption ""; (m, 2)(s, -1) as lists; m * cm; pickle of step 3;
m + cm; SetUnknownCaption; ObtainQuantity('m') -/
def exOps : List Op := [
  .obtain (.str sM) (.str sLength) none,
  .obtain (.str sCm) (.str sLength) (some 0),
  .obtain (.seq [⟨sM, 2, true⟩, ⟨sS, -1, false⟩]) (.seq [sLength, sTime] false) none,
  .new false (.ref 0) (.ref 1),
  .pickle 3,
  .same (.ref 0) (.ref 1),
  .setcap 0 7364963,
  .obtain (.str sM) .none none]

def sVolume : Sym := 111520795881334
def sLegacy : Sym := 14483206056194097
def sMcf : Sym := 6710093
/-- a legacy spelling of a volume unit, then the current one -/
def exOps2 : List Op := [
  .obtain (.str sLegacy) (.str sVolume) none,
  .obtain (.str sMcf) (.str sVolume) (some 0)]
/-- (cm, -1)(h, 3) under (depth, time) — cm is a unit of depth, h of time; then the same with the
units swapped, which the dict form rejects -/
def sDepth : Sym := 448630121828
def exGoodOp : Op := .obtain (.seq [⟨28003, -1, false⟩, ⟨104, 3, true⟩]) (.seq [sDepth, sTime] false) none
def exBadOp : Op := .obtain (.seq [⟨104, -1, false⟩, ⟨28003, 3, true⟩]) (.seq [sDepth, sTime] false) none
def exOps4 : List Op := [exGoodOp, exBadOp]
/-- m * m (derived); `__init__('time', 's')` on it; `__init__(OrderedDict(), None)` on it; m * m again -/
def exOps5 : List Op := [
  .obtain (.str sM) (.str sLength) none,
  .new false (.ref 0) (.ref 0),
  .reinit 1 (.simple sTime (some sS)) none,
  .reinit 1 (.derived []) (some 7364963),
  .new false (.ref 0) (.ref 0),
  .reinit 0 (.derived [(sTime, ⟨sS, -1, false⟩)]) none]
/-- (m, 1)(s, -1) as TUPLES, then (that) * cm -/
def exOps3 : List Op := [
  .obtain (.seq [⟨sM, 1, true⟩, ⟨sS, -1, true⟩]) (.seq [sLength, sTime] true) none,
  .obtain (.str sCm) (.str sLength) none,
  .new false (.ref 0) (.ref 1)]
end examples

end Barril.Intern
