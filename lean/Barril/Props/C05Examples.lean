/- Non-vacuity examples of C05 (a module of their own: they evaluate
concrete instances, many over the regenerated tables, and must not be able to stop the theorem module from
building).  Not property theorems: the check builds this module separately and only records the outcome. -/
import Barril.Props.C05
import Barril.Gen.ThmFlat

namespace Barril.Fail

open Barril.Gen in
example : poscDb.convert (Sym.ofString "length") (Sym.ofString "m") (Sym.ofString "s") 1
    = .error .units := by rw [poscDb_flat]; decide +kernel
open Barril.Gen in
example : (step poscDb FState.empty (.create (Sym.ofString "length") (Sym.ofString "s"))).2
    = .error .units := by rw [poscDb_flat]; decide +kernel
open Barril.Gen in
example : (step poscDb FState.empty
    (.arith .add (Sym.ofString "length") (Sym.ofString "m") (Sym.ofString "time") (Sym.ofString "s") 1 2)).2
    = .error .units := by rw [poscDb_flat]; decide +kernel
open Barril.Gen in
example : (step poscDb FState.empty
    (.cmp .lt (Sym.ofString "length") (Sym.ofString "m") (Sym.ofString "time") (Sym.ofString "s") 1 2)).2
    = .error .type := by rw [poscDb_flat]; decide +kernel
open Barril.Gen in
example : (step poscDb FState.empty
    (.arith .add (Sym.ofString "length") (Sym.ofString "m") (Sym.ofString "depth") (Sym.ofString "cm") 1 200)).2
    = .ok (.qnumber ⟨Sym.ofString "length", Sym.ofString "m"⟩ 3) := by rw [poscDb_flat]; decide +kernel

/-! ordering across quantity types whose unit strings coincide -/

def okFlags (l : List (Except ErrKind XOut)) : List (Option ErrKind) :=
  l.map (fun r => match r with | .ok _ => none | .error e => some e)

/-- the square of a velocity in `m/s` is written `m/s2`, the unit of acceleration -/
def velSq : List Ent := [⟨Sym.ofString "velocity", Sym.ofString "m/s", 2⟩]
def acc : List Ent := [⟨Sym.ofString "acceleration linear", Sym.ofString "m/s2", 1⟩]

open Barril.Gen in
example : (match newDerived poscDb velSq with | .ok q => q.unit | .error _ => 0) = Sym.ofString "m/s2" := by
  rw [poscDb_flat]; decide +kernel
open Barril.Gen in
example : okFlags (xoutputs (XState.fresh poscDb)
    [.cmpq .lt velSq acc 3 2, .cmpq .ge acc velSq 2 3, .cmpq .le velSq velSq 3 4, .cmpq .gt acc acc 3 4])
    = [some .type, some .type, none, none] := by rw [poscDb_flat]; decide +kernel

/-! a category that moves to another quantity type in the middle of a history -/

def strokeSpeed : List Ent :=
  [⟨Sym.ofString "stroke", Sym.ofString "m", 1⟩, ⟨Sym.ofString "time", Sym.ofString "s", -1⟩]

open Barril.Gen in
example : okFlags (xoutputs (XState.fresh poscDb)
    [.reg (.addCategory (Sym.ofString "stroke") (Sym.ofString "length") false),
     .reg (.addUnit (Sym.ofString "length") (Sym.ofString "smoot") (Sym.ofString "smoot") (Sym.ofString "stroke") (17018/10000)),
     .createU (Sym.ofString "smoot"),
     .createDict false strokeSpeed,
     .reg (.addCategory (Sym.ofString "stroke") (Sym.ofString "time") false),     -- rejected: registered already
     .createDict false strokeSpeed,
     .reg (.addCategory (Sym.ofString "stroke") (Sym.ofString "time") true),
     .createU (Sym.ofString "smoot"),
     .createDict false strokeSpeed,
     .createDict true strokeSpeed,
     .plain (.create (Sym.ofString "stroke") (Sym.ofString "m")),
     .plain (.create (Sym.ofString "stroke") (Sym.ofString "s"))])
    = [none, none, none, none, some .units, none, none, some .units, some .units, some .units, some .units, none] := by
  rw [poscDb_flat]; decide +kernel
open Barril.Gen in
example : LegacyStable poscDb.legacy (Sym.ofString "smoot") ∧ LegacyStable poscDb.legacy (Sym.ofString "m3/d") := by
  decide +kernel

/-! sums and differences of derived operands of different dimensions -/

section sums
open Barril.Gen
private def S (s : String) : Sym := Sym.ofString s
/-- `Scalar(2,'m','length') * Scalar(300,'cm','depth')`: one quantity type through two categories -/
private def qLenDepth : Alg.Quantity := ⟨[⟨S "length", S "m", 1⟩, ⟨S "depth", S "m", 1⟩], 0, true⟩
private def qLen : Alg.Quantity := ⟨[⟨S "length", S "m", 1⟩], 0, false⟩
private def qLenSq : Alg.Quantity := ⟨[⟨S "length", S "m", 2⟩], 0, true⟩
private def qPerS : Alg.Quantity := ⟨[⟨S "time", S "s", -1⟩], 0, true⟩
private def qPerS2 : Alg.Quantity := ⟨[⟨S "time", S "s", -2⟩], 0, true⟩

example : Alg.opSame poscDb .add qLenDepth qLen 6 2 = .error .units := by rw [poscDb_flat]; decide +kernel
example : Alg.opSame poscDb .sub qLen qLenDepth 2 6 = .error .units := by rw [poscDb_flat]; decide +kernel
example : Alg.opSame poscDb .add qLenDepth qLenSq 6 2 = .ok (qLenDepth, 8) := by rw [poscDb_flat]; decide +kernel
example : Alg.opSame poscDb .add qPerS qPerS2 (1/2) (1/4) = .error .units := by rw [poscDb_flat]; decide +kernel
example : Alg.opSame poscDb .sub qPerS2 qPerS (1/4) (1/2) = .error .units := by rw [poscDb_flat]; decide +kernel
example : qPerS.eqv qPerS2 = false ∧ qPerS.eqv qPerS = true := by decide
/-- the hypotheses of `sum_of_different_dimensions_fails` are met by these operands -/
example : Alg.Operand poscDb qPerS ∧ Alg.Known poscDb qPerS2 :=
  ⟨⟨Alg.known_of_b (by rw [poscDb_flat]; decide +kernel), Alg.unified_of_single _ _, by decide⟩, Alg.known_of_b (by rw [poscDb_flat]; decide +kernel)⟩
example : Alg.dim poscDb (S "time") qPerS.entries ≠ Alg.dim poscDb (S "time") qPerS2.entries := by rw [poscDb_flat]; decide +kernel
example : Alg.Known poscDb qLenDepth ∧ Alg.Operand poscDb qLen :=
  ⟨Alg.known_of_b (by rw [poscDb_flat]; decide +kernel), ⟨Alg.known_of_b (by rw [poscDb_flat]; decide +kernel), Alg.unified_of_single _ _, by decide⟩⟩
example : Alg.dim poscDb (S "length") qLen.entries ≠ Alg.dim poscDb (S "length") qLenDepth.entries := by
  rw [poscDb_flat]; decide +kernel
/-- inside a history: the failed sums change no later answer -/
example : okFlags (xoutputs (XState.fresh poscDb)
    [.sumq .add qLenDepth qLen 6 2, .eqq qPerS qPerS2, .sumq .add qPerS qPerS2 (1/2) (1/4),
     .plain (.arith .add (S "length") (S "m") (S "depth") (S "cm") 1 200), .sumq .add qLenDepth qLenSq 6 2])
    = [some .units, none, some .units, none, none] := by rw [poscDb_flat]; decide +kernel
end sums

end Barril.Fail
