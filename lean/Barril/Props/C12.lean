/-
C12 — limit validation depends only on the physical amount.

The property theorems, the predicates they are stated in (`Sat`, `tuplesOf`, `runAdds`, `CatInfo.DefaultsOK`,
`rewriteIn`) and, at the end, the registry the examples of `C12Examples.lean` are evaluated in.
Model: `Barril/Model/Valid.lean` (`Quantity.CheckValue`, the Scalar /
FractionScalar / Array validation with the NaN-skipping scan, the tuple branch and the cached
verdict, `IsValid`, `UnitDatabase.AddCategory`); helper lemmas: `Barril/Proofs/ValidLemmas.lean`.
The hypothesis `RowsOK` on the unit table (every row well-formed and of the modelled formula shape)
is discharged for the POSC tables by the generated table theorems (`posc_rowsOK`, `nocat_rowsOK`).
-/
import Barril.Proofs.ValidLemmas
import Barril.Gen.ThmWfPosc
import Barril.Gen.ThmWfNocat
import Barril.Gen.ThmValshapePosc
import Barril.Gen.ThmValshapeNocat

namespace Barril.Valid
open Barril

/-! ### what "the amount satisfies the limits" means (IEEE semantics of the three special values) -/

/-- a value (already in the default unit) satisfies the limits of a category -/
def Sat (c : CatInfo) : Val → Prop
  | .fin y => (∀ m, c.minV = some m → if c.minExcl then m < y else m ≤ y)
              ∧ (∀ M, c.maxV = some M → if c.maxExcl then y < M else y ≤ M)
  | .posInf => c.maxV = none
  | .negInf => c.minV = none
  | .nan => c.minV = none ∧ c.maxV = none

/-- the two comparisons made by `CheckValue` accept exactly the values that satisfy the limits, in
all four exclusivity configurations -/
theorem checkLimits_iff_sat (c : CatInfo) (v : Val) : checkLimits c v = .ok () ↔ Sat c v := by
  rw [checkLimits_ok_iff, checkMin_ok_iff, checkMax_ok_iff]
  cases v with
  | fin y => simp only [Sat, Bool.ite_eq_true_distrib, Val.fin_lt_fin, Val.fin_le_fin]
  -- against a finite limit an infinity passes both tests on its own side and fails both on the other; NaN fails all
  | posInf => simp [Sat, Val.lt, Val.le, Option.eq_none_iff_forall_ne_some]
  | negInf => simp [Sat, Val.lt, Val.le, Option.eq_none_iff_forall_ne_some]
  | nan => simp [Sat, Val.lt, Val.le, Option.eq_none_iff_forall_ne_some]

/-- **`CheckValue` accepts exactly when the amount, converted to the default unit, satisfies the
limits** (a category with a limit; `convToDefault` is the identity when the unit is the default
unit) -/
theorem checkValue_spec (g : Reg) {c : CatInfo} (unit : Sym) (this : UnitRow) (v : Val)
    (hl : c.limited = true) :
    checkValue g (.simple c unit this) v = .ok () ↔
      ∃ v', convToDefault g c unit this v = .ok v' ∧ Sat c v' := by
  rw [checkValue_simple hl]
  cases h : convToDefault g c unit this v with
  | error e => simp
  | ok v' => simp [checkLimits_iff_sat]

/-- no limits, or a derived quantity: everything is accepted (NaN included) -/
theorem checkValue_unlimited (g : Reg) {c : CatInfo} (unit : Sym) (this : UnitRow) (v : Val)
    (hl : c.limited = false) : checkValue g (.simple c unit this) v = .ok () := by
  simp [checkValue, hl]

theorem checkValue_derived (g : Reg) (v : Val) : checkValue g .derived v = .ok () := rfl

/-- **a rejection reports the violated limit and operator** (and the converted amount); the minimum
is reported before the maximum -/
theorem checkValue_error_spec (g : Reg) {c : CatInfo} (unit : Sym) (this : UnitRow) (v : Val)
    {op : CmpOp} {m : Rat} {w : Val}
    (h : checkValue g (.simple c unit this) v = .error (.validation op m w)) :
    convToDefault g c unit this v = .ok w ∧ Violated c op m w ∧ ¬ Sat c w := by
  have hl : c.limited = true := by
    cases hl : c.limited with
    | true => rfl
    | false => rw [checkValue_unlimited g unit this v hl] at h; cases h
  rw [checkValue_simple hl] at h
  cases hc : convToDefault g c unit this v with
  | error e => rw [hc] at h; cases h
  | ok v' =>
    rw [hc] at h
    simp only at h
    obtain ⟨op', m', he, hv⟩ := checkLimits_error h
    cases he
    refine ⟨rfl, hv, ?_⟩
    rw [← checkLimits_iff_sat, h]
    intro hh; cases hh

/-- **a NaN Scalar satisfies no limit**: whatever the unit and the rows, it is never accepted by a
category that has a limit -/
theorem scalar_nan_rejected_when_limited (g : Reg) {c : CatInfo} (unit : Sym) (this : UnitRow)
    (hl : c.limited = true) : checkValue g (.simple c unit this) .nan ≠ .ok () := by
  rw [checkValue_simple hl]
  cases hc : convToDefault g c unit this .nan with
  | error e => intro hh; cases hh
  | ok w => rw [convToDefault_nan hc]; exact checkLimits_nan hl

/-- **the loop returns the minimum and the maximum of the non-NaN elements** (lists of any length);
it returns nothing exactly when every element is NaN -/
theorem scan_minmax (vs : List Val) :
    (scan vs = none ↔ ∀ v ∈ vs, v.isNan = true)
    ∧ ∀ mn mx, scan vs = some (mn, mx) →
        mn ∈ vs ∧ mx ∈ vs ∧ mn.isNan = false ∧ mx.isNan = false
        ∧ ∀ v ∈ vs, v.isNan = false → Val.le mn v = true ∧ Val.le v mx = true :=
  ⟨scan_none_iff vs, fun _ _ h =>
    let r := scan_some_spec h; ⟨r.mn_mem, r.mx_mem, r.mn_num, r.mx_num, r.bounds⟩⟩

/-- the scan does not depend on the order of the elements -/
theorem scan_perm {vs ws : List Val} (p : vs.Perm ws) : scan vs = scan ws := by
  cases h1 : scan vs with
  | none =>
    have := (scan_none_iff vs).mp h1
    exact ((scan_none_iff ws).mpr (fun v hv => this v (p.mem_iff.mpr hv))).symm
  | some ab =>
    obtain ⟨a, b⟩ := ab
    cases h2 : scan ws with
    | none =>
      have := (scan_none_iff ws).mp h2
      have r := scan_some_spec h1
      have := this a (p.mem_iff.mp r.mn_mem)
      rw [r.mn_num] at this; cases this
    | some ab' =>
      obtain ⟨a', b'⟩ := ab'
      obtain ⟨rfl, rfl⟩ := ((scan_some_spec h1).of_perm p).unique (scan_some_spec h2)
      rfl

/-- **a flat Array is valid iff every non-NaN element is valid as a Scalar** (any length; NaN
elements are skipped) -/
theorem array_valid_iff_all {g : Reg} (hg : RowsOK g.units) {c : CatInfo} {unit : Sym} {this : UnitRow}
    (ht : this ∈ g.units) (kind : Container) (vs : List Val) :
    doValidate g (.simple c unit this) (.flat kind vs) = .ok () ↔
      ∀ v ∈ vs, v.isNan = false → checkValue g (.simple c unit this) v = .ok () := by
  cases hl : c.limited with
  | false =>
    simp only [doValidate, hl, Bool.not_false, ↓reduceIte, true_iff]
    intro v _ _; exact checkValue_unlimited g unit this v hl
  | true =>
    simp only [doValidate, hl, Bool.not_true, Bool.false_eq_true, ↓reduceIte, checkFlat]
    cases hs : scan vs with
    | none =>
      simp only [true_iff]
      intro v hv hn
      rw [(scan_none_iff vs).mp hs v hv] at hn; cases hn
    | some ab =>
      obtain ⟨mn, mx⟩ := ab
      have r := scan_some_spec hs
      simp only
      constructor
      · intro h v hv hn
        cases h1 : checkValue g (.simple c unit this) mn with
        | error e => rw [h1] at h; cases h
        | ok u =>
          cases u
          rw [h1] at h
          simp only at h
          obtain ⟨b1, b2⟩ := r.bounds v hv hn
          exact checkValue_between hg ht hl h1 h b1 b2
      · intro h
        rw [h mn r.mn_mem r.mn_num]
        simp only
        exact h mx r.mx_mem r.mx_num

/-- **element order does not matter**: a permutation of the values gets the same verdict and, when
rejected, the same error -/
theorem valid_perm_invariant (g : Reg) (q : Quant) (kind : Container) {vs ws : List Val}
    (p : vs.Perm ws) : doValidate g q (.flat kind vs) = doValidate g q (.flat kind ws) := by
  cases q with
  | derived => rfl
  | simple c unit this => simp only [doValidate, checkFlat, scan_perm p]

/-- **the container kind does not matter** (list, tuple, numpy array) -/
theorem valid_container_invariant (g : Reg) (q : Quant) (k k' : Container) (vs : List Val) :
    doValidate g q (.flat k vs) = doValidate g q (.flat k' vs) := by
  cases q <;> rfl

/-- Scalar and FractionScalar with the same float value get the same answer, and it is the
`CheckValue` verdict of that value -/
theorem scalar_fraction_same (g : Reg) (q : Quant) (v : Val) :
    (checkValidity g q (.scalar v)).2 = checkValue g q v
    ∧ (checkValidity g q (.fraction v)).2 = checkValue g q v := ⟨rfl, rfl⟩

/-- an Array of one non-NaN value and the Scalar of that value get the same verdict -/
theorem singleton_array_as_scalar {g : Reg} (hg : RowsOK g.units) {c : CatInfo} {unit : Sym}
    {this : UnitRow} (ht : this ∈ g.units) (kind : Container) {v : Val} (hv : v.isNan = false) :
    doValidate g (.simple c unit this) (.flat kind [v]) = .ok () ↔
      checkValue g (.simple c unit this) v = .ok () := by
  rw [array_valid_iff_all hg ht]
  simp [hv]

def tuplesOf : List Item → List (List Val)
  | [] => []
  | .num _ :: r => tuplesOf r
  | .tup vs :: r => vs :: tuplesOf r

/-- **a container whose first element is a tuple is valid iff every element of every tuple is
valid as a Scalar** (NaN is not skipped here; elements that are not tuples are passed over by the
code, which the model reproduces) -/
theorem tuples_branch_spec (g : Reg) {c : CatInfo} (unit : Sym) (this : UnitRow) (hl : c.limited = true)
    (kind : Container) (first : List Val) (rest : List Item) :
    doValidate g (.simple c unit this) (.nested kind first rest) = .ok () ↔
      ∀ t ∈ first :: tuplesOf rest, ∀ v ∈ t, checkValue g (.simple c unit this) v = .ok () := by
  have hall : ∀ vs : List Val, checkAll g (.simple c unit this) vs = .ok () ↔
      ∀ v ∈ vs, checkValue g (.simple c unit this) v = .ok () := by
    intro vs
    induction vs with
    | nil => simp [checkAll]
    | cons v vs ih =>
      unfold checkAll
      cases h : checkValue g (.simple c unit this) v with
      | error e => simp [h]
      | ok u => cases u; simp [h, ih]
  have hitems : ∀ items : List Item, checkItems g (.simple c unit this) items = .ok () ↔
      ∀ t ∈ tuplesOf items, ∀ v ∈ t, checkValue g (.simple c unit this) v = .ok () := by
    intro items
    induction items with
    | nil => simp [checkItems, tuplesOf]
    | cons it r ih =>
      cases it with
      | num x => simp only [checkItems, tuplesOf, ih]
      | tup vs =>
        unfold checkItems
        simp only [tuplesOf, List.mem_cons, forall_eq_or_imp, ← hall]
        cases checkAll g (.simple c unit this) vs with
        | error e => simp
        | ok u => cases u; simp [ih, hall]
  simp only [doValidate, hl, Bool.not_true, Bool.false_eq_true, ↓reduceIte]
  rw [hitems]
  simp [tuplesOf]

/-- **cached verdicts are the real verdicts**: any sequence of `CheckValidity` / `IsValid` calls on
one Array answers every call as a fresh computation would (histories of any length) -/
theorem cached_verdict_stable (g : Reg) (q : Quant) (a : ArrVal) (cs : List Call) :
    calls g q (.array a Cache.fresh) cs = cs.map (uncached g q a) := by
  have main : ∀ cs k, CacheOK g q a k → calls g q (.array a k) cs = cs.map (uncached g q a) := by
    intro cs
    induction cs with
    | nil => intro k _; rfl
    | cons c cs ih =>
      intro k hk
      obtain ⟨k', hc, hk'⟩ := call_array hk c
      simp only [calls, hc, List.map_cons, ih k' hk']
  exact main cs _ (Or.inl rfl)

/-- **a copy does not depend on what was asked of its source**: `CreateCopy` after any sequence of
validity calls on the source (any memoised verdict) gives the same object as `CreateCopy` on the
untouched source -/
theorem copy_independent_of_source_history (g : Reg) (q : Quant) (a : ArrVal) (cs : List Call)
    (unit cat : Option Sym) :
    ∃ k', afterCalls g q (.array a Cache.fresh) cs = .array a k'
      ∧ createCopy g q a k' unit cat = createCopy g q a Cache.fresh unit cat := by
  obtain ⟨k', hk, _⟩ := afterCalls_array (g := g) (q := q) (a := a) cs (Or.inl rfl)
  exact ⟨k', hk, by cases q <;> rfl⟩

/-- **a copy is judged on its own amounts and its own category**: it holds the source's values
written in the requested unit, carries no memo, and every sequence of calls on it answers as a fresh
computation for the copy's quantity (so with the limits of the copy's category) -/
theorem copy_judged_on_its_own {g : Reg} {q q' : Quant} {a : ArrVal} {k : Cache} {unit cat : Option Sym}
    {o' : Obj} (h : createCopy g q a k unit cat = .ok (q', o')) :
    ∃ c u t a', q = .simple c u t ∧ valuesIn g c.name u unit a = .ok a' ∧ o' = .array a' Cache.fresh
      ∧ ∀ cs, calls g q' o' cs = cs.map (uncached g q' a') := by
  unfold createCopy at h
  split at h
  · cases h
  rename_i c u t
  split at h
  · cases h
  rename_i a' hv
  -- on every accepted path the object is a new array over `a'`
  have ho : o' = .array a' Cache.fresh := by
    split at h
    · cases h; rfl
    · cases h
    · split at h
      · cases h
      · cases h; rfl
    · split at h
      · cases h
      · split at h
        · cases h
        · cases h; rfl
  subst ho
  exact ⟨c, u, t, a', rfl, hv, rfl, fun cs => cached_verdict_stable g _ a' cs⟩

/-- `IsValid` answers True exactly when `CheckValidity` raises nothing -/
theorem isValid_iff_check (g : Reg) {c : CatInfo} (unit : Sym) (this : UnitRow) (o : Obj) :
    (isValid g (.simple c unit this) o).2 = .ok true ↔
      (checkValidity g (.simple c unit this) o).2 = .ok () := by
  unfold isValid
  cases h : checkValidity g (.simple c unit this) o with
  | mk o' r =>
    cases r with
    | ok u => simp
    | error e => cases he : e.isValueError <;> simp [he]

/-- an amount written in the first unit, rewritten in the second: `convVal r1 r2` (the exact
conversion of C01) on finite amounts; an infinity stays that infinity (every conversion is increasing),
NaN stays NaN -/
def rewriteIn (r1 r2 : UnitRow) : Val → Val := liftV (convVal r1 r2)

/-- **physically equal amounts get the same answer, whatever the units they are written in** — for ALL
values, the infinities and NaN included: same verdict and, when rejected, the same operator, limit and
reported amount -/
theorem valid_unit_invariant {g : Reg} (hg : RowsOK g.units) {c : CatInfo} {u1 u2 : Sym}
    {r1 r2 : UnitRow} (h1 : g.db.getInfo c.qtype u1 true = .ok r1)
    (h2 : g.db.getInfo c.qtype u2 true = .ok r2) (v : Val) :
    checkValue g (.simple c u1 r1) v = checkValue g (.simple c u2 r2) (rewriteIn r1 r2 v) := by
  cases hl : c.limited with
  | false => rw [checkValue_unlimited _ _ _ _ hl, checkValue_unlimited _ _ _ _ hl]
  | true =>
    rw [checkValue_simple hl, checkValue_simple hl]
    obtain ⟨w1, _⟩ := hg r1 (Db.getInfo_mem h1)
    obtain ⟨w2, _⟩ := hg r2 (Db.getInfo_mem h2)
    -- both conversions to the default unit are lifted exact conversions: compose them
    have key : convToDefault g c u1 r1 v = convToDefault g c u2 r2 (rewriteIn r1 r2 v) := by
      rw [convToDefault_eq hg c u1 (Db.getInfo_mem h1), convToDefault_eq hg c u2 (Db.getInfo_mem h2), rewriteIn]
      cases e1 : u1 == c.defaultUnit <;> cases e2 : u2 == c.defaultUnit <;>
        simp only [Bool.false_eq_true, ↓reduceIte]
      · cases hd : g.db.getInfo c.qtype c.defaultUnit true with
        | error e => rfl
        | ok other =>
          obtain ⟨wo, _⟩ := hg other (Db.getInfo_mem hd)
          simp only [liftV_liftV, convVal_trans w2]
      · rw [← beq_iff_eq.mp e2, h2]
      · rw [← beq_iff_eq.mp e1, h1]
        simp only [liftV_liftV, liftV_id (convVal_roundtrip w1 w2)]
      · rw [beq_iff_eq.mp e2, ← beq_iff_eq.mp e1, h1] at h2
        cases h2
        rw [liftV_id (convVal_self w1)]
    rw [key]

/-- the same for the verdict of `IsValid` of two Scalars -/
theorem scalar_isValid_unit_invariant {g : Reg} (hg : RowsOK g.units) {c : CatInfo} {u1 u2 : Sym}
    {r1 r2 : UnitRow} (h1 : g.db.getInfo c.qtype u1 true = .ok r1)
    (h2 : g.db.getInfo c.qtype u2 true = .ok r2) (v : Val) :
    (isValid g (.simple c u1 r1) (.scalar v)).2
      = (isValid g (.simple c u2 r2) (.scalar (rewriteIn r1 r2 v))).2 := by
  have key : ∀ (u : Sym) (r : UnitRow) (v : Val), (isValid g (.simple c u r) (.scalar v)).2 =
      (match checkValue g (.simple c u r) v with
       | .ok _ => .ok true
       | .error e => if e.isValueError then .ok false else .error e) := by
    intro u r v
    simp only [isValid, checkValidity]
    cases checkValue g (.simple c u r) v with
    | ok _ => rfl
    | error e => cases he : e.isValueError <;> simp [he]
  rw [key, key, valid_unit_invariant hg h1 h2 v]

/-- **an infinite amount is judged as an infinity in every unit**: accepted exactly when no limit
lies on its side — in the default unit and in any other unit of the type alike -/
theorem infinity_any_unit {g : Reg} (hg : RowsOK g.units) {c : CatInfo} {unit : Sym} {this other : UnitRow}
    (ht : this ∈ g.units) (hl : c.limited = true)
    (hd : g.db.getInfo c.qtype c.defaultUnit true = .ok other) :
    (checkValue g (.simple c unit this) .posInf = .ok () ↔ c.maxV = none)
    ∧ (checkValue g (.simple c unit this) .negInf = .ok () ↔ c.minV = none) := by
  have conv : ∀ w : Val, (∀ x, w ≠ .fin x) → convToDefault g c unit this w = .ok w := by
    intro w hw
    rw [convToDefault_eq hg c unit ht, hd]
    cases w with
    | fin x => exact absurd rfl (hw x)
    | _ => split <;> rfl
  constructor
  · rw [checkValue_spec g _ _ _ hl, conv _ (by intro x h; cases h)]
    simp [Sat]
  · rw [checkValue_spec g _ _ _ hl, conv _ (by intro x h; cases h)]
    simp [Sat]

/-- **registering a category never yields a default unit or a default value that violates the
category's own constraints**: whenever `AddCategory` accepts (any arguments, `from_category`
included), the default unit is a unit of the category's quantity type (and, when it was not given and a
non-empty list of valid units was, one of these), every valid unit is a unit of the type, and the
default value satisfies the limits that were registered (so the limits are not contradictory) -/
theorem addCategory_default_ok {g g' : Reg} {a : AddArgs} {info : CatInfo}
    (h : addCategory g a = .ok (g', info)) :
    (∃ qunits, g.unitsOf info.qtype = .ok qunits ∧ info.defaultUnit ∈ qunits
        ∧ (∀ vs, info.validUnits = some vs → ∀ u ∈ vs, u ∈ qunits))
    ∧ checkLimits info info.defaultValue = .ok ()
    ∧ Sat info info.defaultValue
    ∧ g'.cats = info :: g.cats ∧ g'.units = g.units ∧ info.name = a.category := by
  obtain ⟨a', qt, valid, du, dv, hcross, hm, hvalid, hdu, hdv, rfl, rfl⟩ := addCategory_inv h
  obtain ⟨hcat, hdef, _⟩ := mergeArgs_ok hm
  obtain ⟨qunits, hu, hmem⟩ := pickDefaultUnit_mem (fun _ _ hv hq => fixValidOpt_mem hvalid hv hq) hdu
  suffices lim : checkLimits _ _ = .ok () from
    ⟨⟨qunits, hu, hmem, fun vs hvs => fixValidOpt_mem hvalid hvs hu⟩, lim,
      (checkLimits_iff_sat _ _).mp lim, rfl, rfl, hcat⟩
  refine pickDefaultValue_ok hdv (fun h0 m M hm hM hlt => hcross ?_)
  -- without a default value nothing was merged: the guard on the arguments as passed applies
  rw [hdef h0] at hm hM
  simp only at hm hM
  simp [limitsCrossed, hm, hM, hlt]

/-- consequently `Scalar(category)` — default value in the default unit — is valid right after
the registration -/
theorem default_scalar_valid {g g' : Reg} {a : AddArgs} {info : CatInfo}
    (h : addCategory g a = .ok (g', info)) (this : UnitRow) :
    checkValue g' (.simple info info.defaultUnit this) info.defaultValue = .ok () := by
  obtain ⟨_, h2, _⟩ := addCategory_default_ok h
  cases hl : info.limited with
  | false => exact checkValue_unlimited _ _ _ _ hl
  | true =>
    rw [checkValue_simple hl]
    simp [convToDefault, h2]

/-- a history of `AddCategory` calls (rejected calls leave the registry as it is) -/
def runAdds (g : Reg) : List AddArgs → Reg
  | [] => g
  | a :: as =>
    match addCategory g a with
    | .ok (g', _) => runAdds g' as
    | .error _ => runAdds g as

/-- a category whose defaults respect its own constraints -/
def CatInfo.DefaultsOK (units : List UnitRow) (c : CatInfo) : Prop :=
  (∃ r ∈ units, r.qtype = c.qtype ∧ r.sym = c.defaultUnit) ∧ Sat c c.defaultValue

/-- **after any history of registrations (any length, accepted and rejected calls mixed,
overrides and `from_category` included) every category of the registry has a default unit that is a
unit of its quantity type and a default value inside its limits** -/
theorem registry_defaults_ok (as : List AddArgs) : ∀ (g : Reg),
    (∀ c ∈ g.cats, c.DefaultsOK g.units) →
    (runAdds g as).units = g.units ∧ ∀ c ∈ (runAdds g as).cats, c.DefaultsOK g.units := by
  induction as with
  | nil => intro g h; exact ⟨rfl, h⟩
  | cons a as ih =>
    intro g h
    unfold runAdds
    cases ha : addCategory g a with
    | error e => exact ih g h
    | ok r =>
      obtain ⟨g', info⟩ := r
      obtain ⟨⟨qunits, hq, hdu, _⟩, _, hsat, hcats, hunits, _⟩ := addCategory_default_ok ha
      have hinfo : info.DefaultsOK g.units := by
        refine ⟨?_, hsat⟩
        unfold Reg.unitsOf at hq
        split at hq
        · cases hq
          obtain ⟨r, hr, hs⟩ := List.mem_map.mp hdu
          have := List.mem_filter.mp hr
          exact ⟨r, this.1, by simpa using this.2, hs⟩
        · cases hq
      have h' : ∀ c ∈ g'.cats, c.DefaultsOK g'.units := by
        rw [hcats, hunits]
        intro c hc
        rcases List.mem_cons.mp hc with rfl | hc
        · exact hinfo
        · exact h c hc
      obtain ⟨i1, i2⟩ := ih g' h'
      rw [hunits] at i1 i2
      exact ⟨i1, i2⟩

/-- **the quantities the constructor builds meet the hypotheses of the theorems above**: the
category is the registered one and the stored row is the row of the stored unit, a row of the
table -/
theorem mkQuant_ok {g : Reg} {cn u : Sym} {q : Quant} (h : mkQuant g cn u = .ok q) :
    ∃ ci u' r, q = .simple ci u' r ∧ g.cat? cn = some ci
      ∧ g.db.getInfo ci.qtype u' true = .ok r ∧ r ∈ g.units := by
  obtain ⟨ci, u', r, hc, _, hi, rfl⟩ := mkQuant_inv h
  exact ⟨ci, u', r, rfl, hc, hi, Db.getInfo_mem hi⟩

/-- **the construction form does not matter**: an object built without naming a category
(`Scalar(v, unit)`, `Array(values, unit)`, …) gets exactly the quantity the named construction gives
for the default category of the unit, so every verdict is the same in both forms -/
theorem construction_form_irrelevant {g : Reg} {u : Sym} {q : Quant} (h : mkQuantNoCat g u = .ok q) :
    ∃ c u', mkQuant g c u' = .ok q ∧ (u' = u ∨ u' = fixLegacy g.legacy u)
      ∧ (defaultCategory g u = .ok (some c) ∨ defaultCategory g (fixLegacy g.legacy u) = .ok (some c)) := by
  unfold mkQuantNoCat at h
  cases hd : defaultCategory g u with
  | error e => rw [hd] at h; cases h
  | ok oc =>
    rw [hd] at h
    cases oc with
    | some c => exact ⟨c, u, h, Or.inl rfl, Or.inl rfl⟩
    | none =>
      simp only at h
      split at h
      · cases hd2 : defaultCategory g (fixLegacy g.legacy u) with
        | error e => rw [hd2] at h; cases h
        | ok oc2 =>
          rw [hd2] at h
          cases oc2 with
          | some c => exact ⟨c, _, h, Or.inr rfl, Or.inr rfl⟩
          | none => cases h
      · cases h

/-- **a re-registration is in force at once**: after an accepted `AddCategory` (with `override` or
not) every quantity created for that category name — named or through the default category of a unit —
carries the `CategoryInfo` just registered, whatever was registered under the name before -/
theorem addCategory_in_force {g g' : Reg} {a : AddArgs} {info : CatInfo}
    (h : addCategory g a = .ok (g', info)) :
    g'.cat? a.category = some info
    ∧ ∀ u q, mkQuant g' a.category u = .ok q → ∃ u' r, q = .simple info u' r := by
  obtain ⟨_, _, _, hcats, _, hname⟩ := addCategory_default_ok h
  have hc : g'.cat? a.category = some info := by
    unfold Reg.cat?
    rw [hcats]
    simp [List.find?, hname]
  refine ⟨hc, ?_⟩
  intro u q hq
  obtain ⟨ci, u', r, rfl, hci, _, _⟩ := mkQuant_ok hq
  rw [hc] at hci
  cases hci
  exact ⟨u', r, rfl⟩

/-- **validation does not depend on how the object was produced**: whatever production path — direct
construction, `ObtainQuantity` in its mapping or list form, arithmetic with a number (either side),
sums/differences of objects written in other units or belonging to another category of the quantity type,
pickle round trips, `CreateCopy`, nested in any order and depth — ends in an object whose quantity is the
quantity of ONE category `c` in unit `u` (exponent 1), the direct construction `X(c.name, values, u)`
succeeds and is the SAME model object (same `CategoryInfo`, same conversion row, same values, no memoised
verdict) -/
theorem validity_independent_of_provenance {g : Reg} {p : Prov} {c : CatInfo} {u : Sym} {r : UnitRow}
    {s : Shape} (h : build g p = .ok (.simple c u r, s)) :
    build g (.direct c.name u s) = .ok (.simple c u r, s) := by
  have hc := build_canon _ h c u r rfl
  unfold build
  rw [hc]

/-- hence two objects of the same category name, unit and values answer every sequence of
`CheckValidity` / `IsValid` calls alike, whatever their two production paths were -/
theorem provenance_calls_agree {g : Reg} {p p' : Prov} {c c' : CatInfo} {u : Sym} {r r' : UnitRow}
    {s : Shape} (h : build g p = .ok (.simple c u r, s)) (h' : build g p' = .ok (.simple c' u r', s))
    (hn : c.name = c'.name) (cs : List Call) :
    calls g (.simple c u r) s.obj cs = calls g (.simple c' u r') s.obj cs := by
  have h1 := build_canon _ h c u r rfl
  have h2 := build_canon _ h' c' u r' rfl
  rw [hn, h2] at h1
  cases h1
  rfl

/-- a produced object meets the hypotheses of the theorems above: its category is the registered one and
its row is the row of its unit, a row of the table -/
theorem produced_object_wellformed {g : Reg} {p : Prov} {c : CatInfo} {u : Sym} {r : UnitRow} {s : Shape}
    (h : build g p = .ok (.simple c u r, s)) :
    g.cat? c.name = some c ∧ g.db.getInfo c.qtype u true = .ok r ∧ r ∈ g.units := by
  obtain ⟨ci, u', r', hq, hc, hi, hm⟩ := mkQuant_ok (build_canon _ h c u r rfl)
  cases hq
  exact ⟨hc, hi, hm⟩

/-- **no produced object escapes the limits**: a Scalar that came out of any production path into a
limited category is accepted exactly when its amount, converted to the default unit, satisfies the limits;
a flat Array exactly when all its non-NaN amounts do -/
theorem produced_checked_by_amount {g : Reg} (hg : RowsOK g.units) {p : Prov} {c : CatInfo} {u : Sym}
    {r : UnitRow} (hl : c.limited = true) :
    (∀ v, build g p = .ok (.simple c u r, .scalar v) →
      ((checkValidity g (.simple c u r) (Shape.scalar v).obj).2 = .ok () ↔
        ∃ v', convToDefault g c u r v = .ok v' ∧ Sat c v'))
    ∧ (∀ kind vs, build g p = .ok (.simple c u r, .array (.flat kind vs)) →
      ((checkValidity g (.simple c u r) (Shape.array (.flat kind vs)).obj).2 = .ok () ↔
        ∀ v ∈ vs, v.isNan = false → ∃ v', convToDefault g c u r v = .ok v' ∧ Sat c v')) := by
  constructor
  · intro v _
    exact checkValue_spec g u r v hl
  · intro kind vs h
    obtain ⟨_, _, hm⟩ := produced_object_wellformed h
    have key : (checkValidity g (.simple c u r) (Shape.array (.flat kind vs)).obj).2 = .ok () ↔
        doValidate g (.simple c u r) (.flat kind vs) = .ok () := by
      simp only [Shape.obj, checkValidity, validateValues, Cache.fresh]
      cases hd : doValidate g (.simple c u r) (.flat kind vs) <;> simp
    rw [key, array_valid_iff_all hg hm kind vs]
    constructor
    · intro hv v hvm hn; exact (checkValue_spec g u r v hl).mp (hv v hvm hn)
    · intro hv v hvm hn; exact (checkValue_spec g u r v hl).mpr (hv v hvm hn)

/-- **the exclusivity flags and the caption of a registered category**: a value that was given is stored
as given; an explicit `None` is inherited from the `from_category` source when there is one, and is falsy
(an inclusive limit) otherwise -/
theorem addCategoryRaw_flags {g g' : Reg} {r : AddArgsRaw} {info : CatInfo}
    (h : addCategoryRaw g r = .ok (g', info)) :
    (∀ b, r.minExcl = some b → info.minExcl = b) ∧ (∀ b, r.maxExcl = some b → info.maxExcl = b)
    ∧ (∀ c, r.caption = some c → info.caption = c)
    ∧ (∀ src, rawSource g r = some src →
        (r.minExcl = none → info.minExcl = src.minExcl) ∧ (r.maxExcl = none → info.maxExcl = src.maxExcl)
        ∧ (r.caption = none → info.caption = src.caption))
    ∧ (rawSource g r = none →
        (r.minExcl = none → info.minExcl = false) ∧ (r.maxExcl = none → info.maxExcl = false)) := by
  obtain ⟨h1, h2, h3⟩ := addCategory_flags h
  simp only [resolveRaw] at h1 h2 h3
  refine ⟨?_, ?_, ?_, ?_, ?_⟩
  · intro b hb; rw [h1, hb]
  · intro b hb; rw [h2, hb]
  · intro c hc; rw [h3, hc]
  · intro src hs
    refine ⟨?_, ?_, ?_⟩
    · intro hn; rw [h1, hn, hs]
    · intro hn; rw [h2, hn, hs]
    · intro hn; rw [h3, hn, hs]
  · intro hs
    refine ⟨?_, ?_⟩
    · intro hn; rw [h1, hn, hs]
    · intro hn; rw [h2, hn, hs]

/-- after an accepted `AddCategory` with `None` flags the category is registered under its name, `GetDefaultValue`
returns the stored default, and that default satisfies the stored limits (`addCategoryRaw` IS `addCategory` with the
flags in force, so every theorem about `addCategory` applies) -/
theorem addCategoryRaw_default_scalar_valid {g g' : Reg} {r : AddArgsRaw} {info : CatInfo}
    (h : addCategoryRaw g r = .ok (g', info)) :
    g'.cat? r.base.category = some info ∧ getDefaultValue g' r.base.category = .ok info.defaultValue
      ∧ Sat info info.defaultValue := by
  have hf := (addCategory_in_force h).1
  obtain ⟨_, _, hsat, _⟩ := addCategory_default_ok h
  have hc : (resolveRaw g r).category = r.base.category := rfl
  rw [hc] at hf
  refine ⟨hf, ?_, hsat⟩
  unfold getDefaultValue
  rw [hf]

/-- **`CheckValueForCategory(category, value, unit)` is the validity check of `Scalar(category, value,
unit)`**; without a unit the default unit of the category is meant -/
theorem checkValueForCategory_as_scalar (g : Reg) (c : Sym) (v : Val) :
    (∀ u q, mkQuant g c u = .ok q →
      checkValueForCategory g c v (some u) = (checkValidity g q (.scalar v)).2)
    ∧ (∀ ci, g.cat? c = some ci →
      checkValueForCategory g c v none = checkValueForCategory g c v (some ci.defaultUnit)) := by
  constructor
  · intro u q h
    simp [checkValueForCategory, obtainFor, h, checkValidity]
  · intro ci h
    simp [checkValueForCategory, obtainFor, h]

/-- **`ScalarMinMaxValidator` complains exactly when `CheckValue` rejects, and its complaint is
`CheckValue`'s**: for the quantity of any constructed Scalar the predicate is `None` iff the value is
accepted, it carries operator `op`, limit `m` and amount `w` iff `CheckValue` raises exactly that — and
then `w` is the value converted to the default unit, `m` is a limit of the category that `w` violates with
that operator ("a rejection reports the violated limit and operator") -/
theorem validator_rejects_iff_checkValue {g : Reg} {cn u0 : Sym} {c : CatInfo} {u : Sym} {r : UnitRow}
    (h : mkQuant g cn u0 = .ok (.simple c u r)) (v : Val) :
    (validatorPredicate g (.simple c u r) v = .ok none ↔ checkValue g (.simple c u r) v = .ok ())
    ∧ (∀ op m w, validatorPredicate g (.simple c u r) v = .ok (some (.validation op m w)) ↔
        checkValue g (.simple c u r) v = .error (.validation op m w))
    ∧ (∀ op m w, validatorPredicate g (.simple c u r) v = .ok (some (.validation op m w)) →
        convToDefault g c u r v = .ok w ∧ Violated c op m w ∧ ¬ Sat c w) := by
  have hc := mkQuant_canon _ h c u r rfl
  -- the predicate re-obtains the same quantity and only repackages what `CheckValue` answers
  simp only [validatorPredicate, hc]
  cases hv : checkValue g (.simple c u r) v with
  | ok _ => simp
  | error e =>
    cases e with
    | validation op m w =>
      refine ⟨by simp, by simp, ?_⟩
      intro op' m' w' he
      simp only [Except.ok.injEq, Option.some.injEq, VErr.validation.injEq] at he
      obtain ⟨rfl, rfl, rfl⟩ := he
      exact checkValue_error_spec g u r v hv
    | other e' => by_cases he : e' = .value <;> simp [he]

/-! ### the shipped unit tables satisfy the hypothesis (regenerated and re-proved on every run) -/

theorem rowsOK_of_all {units : List UnitRow} (h1 : units.all UnitRow.wf = true)
    (h2 : units.all UnitRow.valShape = true) : RowsOK units := by
  intro r hr
  exact ⟨(UnitRow.wf_iff r).mp (List.all_eq_true.mp h1 r hr), List.all_eq_true.mp h2 r hr⟩

theorem posc_rowsOK : RowsOK Gen.poscDb.units :=
  rowsOK_of_all Gen.poscUnits_all_wf Gen.poscUnits_all_valshape

theorem nocat_rowsOK : RowsOK Gen.nocatDb.units :=
  rowsOK_of_all Gen.nocatUnits_all_wf Gen.nocatUnits_all_valshape

/-! ### non-vacuity: a registry with two limited categories (`depth`, `thickness`) over the POSC unit table -/

namespace Example

def len : Sym := Sym.ofString "length"
def m : Sym := Sym.ofString "m"
def cm : Sym := Sym.ofString "cm"
def km : Sym := Sym.ofString "km"

def reg0 : Reg := ⟨Gen.nocatDb.units, Gen.nocatDb.legacy, []⟩

/-- `AddCategory("depth", "length", default_unit="m", min_value=0.0, max_value=2000.0,
is_max_exclusive=True, default_value=10.0)` -/
def args : AddArgs :=
  { category := Sym.ofString "depth", qtype := some len, defaultUnit := some m, minV := some 0,
    maxV := some 2000, maxExcl := true, defaultValue := some (.fin 10) }

def cat : CatInfo :=
  { name := Sym.ofString "depth", qtype := len, validUnits := none, defaultUnit := m,
    defaultValue := .fin 10, minV := some 0, maxV := some 2000, minExcl := false, maxExcl := true,
    caption := 0 }

/-- `AddCategory("thickness", "length", default_unit="m", min_value=0.0)` -/
def catMin : CatInfo :=
  { name := Sym.ofString "thickness", qtype := len, validUnits := none, defaultUnit := m,
    defaultValue := .fin 0, minV := some 0, maxV := none, minExcl := false, maxExcl := false,
    caption := 0 }

def argsMin : AddArgs :=
  { category := Sym.ofString "thickness", qtype := some len, defaultUnit := some m, minV := some 0 }

def reg1 : Reg := { reg0 with cats := [cat, catMin] }

/-- what a check answers: `none` = accepted -/
def answer (r : Except VErr Unit) : Option VErr :=
  match r with
  | .ok _ => none
  | .error e => some e

def check (u : Sym) (v : Val) : Option (Option VErr) :=
  match mkQuant reg1 (Sym.ofString "depth") u with
  | .ok q => some (answer (checkValue reg1 q v))
  | .error _ => none

def checkMinOnly (u : Sym) (v : Val) : Option (Option VErr) :=
  match mkQuant reg1 (Sym.ofString "thickness") u with
  | .ok q => some (answer (checkValue reg1 q v))
  | .error _ => none

def checkArr (u : Sym) (vs : List Val) : Option (Option VErr) :=
  match mkQuant reg1 (Sym.ofString "depth") u with
  | .ok q => some (answer (doValidate reg1 q (.flat .list vs)))
  | .error _ => none

end Example

end Barril.Valid
