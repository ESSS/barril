/- Non-vacuity examples of C16, in a module of their own (tools/split_examples.py): they evaluate
concrete instances, many over the regenerated tables, and must not be able to stop the theorem module from
building.  Not property theorems: the check builds this module separately and only records the outcome. -/
import Barril.Props.C16
import Barril.Gen.ThmFlat

namespace Barril
open Barril.Gen

-- the derived list is inhabited and contains the spellings named in the property text
example : (Sym.ofString "1000ft3/d", Sym.ofString "Mcf/d") ∈ poscDb.derive :=
  Db.mem_derive (by rw [poscDb_flat]; decide +kernel) (by decide +kernel)
example : (Sym.ofString "lbmole/ft3", Sym.ofString "lbmol/ft3") ∈ poscDb.derive :=
  Db.mem_derive (by rw [poscDb_flat]; decide +kernel) (by decide +kernel)
-- a legacy spelling creates the quantity of the current spelling, in its default category
example : poscDb.obtainQuantity (Sym.ofString "1000ft3/d") none
    = .ok ⟨Sym.ofString "volume flow rate", Sym.ofString "Mcf/d"⟩ := by
  rw [poscDb_flat]; decide +kernel
example : poscDb.convert (Sym.ofString "volume") (Sym.ofString "1000m3") (Sym.ofString "m3") 2
    = .ok 2000 := by
  rw [poscDb_flat]; decide +kernel
-- the side condition of generic idempotence holds for a rewritten spelling …
example : noFragment legacyList (Sym.bytes (fixLegacy legacyList (Sym.ofString "bbl/k(ft3)"))) = true := by
  decide +kernel
-- … and unconditional idempotence is false (own fixed list, not the generated one)
example : let L := [(Sym.ofString "lbmole", Sym.ofString "lbmol")]
    fixLegacy L (fixLegacy L (Sym.ofString "lbmolee")) ≠ fixLegacy L (Sym.ofString "lbmolee") := by
  decide +kernel
-- registering a category with legacy spellings stores the current ones
example : (poscDb.addCategory (Sym.ofString "my cat") (Sym.ofString "volume")
      (some [Sym.ofString "1000m3", Sym.ofString "m3"]) (some (Sym.ofString "M(m3)")) 1 false).toOption.map
      (fun d => (d.catByName (Sym.ofString "my cat")).map (fun c => (c.validUnits, c.defaultUnit)))
    = some (some (some [Sym.ofString "Mm3", Sym.ofString "m3"], Sym.ofString "MMm3")) := by
  rw [poscDb_flat]; decide +kernel

-- a category registered with a NON-ZERO default value (1000 m3/d, minimum 0): the value-less scalar
-- in the legacy spelling '1000m3/d' carries the converted default (1 Mm3/d), like the current spelling
example : ((poscDb.addCategoryFull (Sym.ofString "c16 gas rate") (Sym.ofString "volume flow rate") none
      (some (Sym.ofString "m3/d")) 1 false (some 1000) (some 0) none false false).toOption.map
      (fun d => (d.createDefault (Sym.ofString "c16 gas rate") (some (Sym.ofString "1000m3/d")),
                 d.createDefault (Sym.ofString "c16 gas rate") (some (Sym.ofString "Mm3/d")),
                 d.createDefault (Sym.ofString "c16 gas rate") none)))
    = some (.ok (⟨Sym.ofString "c16 gas rate", Sym.ofString "Mm3/d"⟩, 1),
            .ok (⟨Sym.ofString "c16 gas rate", Sym.ofString "Mm3/d"⟩, 1),
            .ok (⟨Sym.ofString "c16 gas rate", Sym.ofString "m3/d"⟩, 1000)) := by
  rw [poscDb_flat]; decide +kernel
-- the hypotheses of `posc_registered_exact_alias` are met by that registration
example : (poscDb.addCategoryFull (Sym.ofString "c16 gas rate") (Sym.ofString "volume flow rate") none
      (some (Sym.ofString "1000m3/d")) 1 false (some 1000) (some 0) none false false).toOption.isSome = true
    ∧ poscDb.units.all (fun r => Sym.ofString "c16 gas rate" != r.qtype) = true := by
  rw [poscDb_flat]; decide +kernel
-- value-less FixedArray of dimension 3 in a legacy spelling
example : poscDb.createDefaultList 3 (Sym.ofString "volume") (some (Sym.ofString "1000ft3"))
    = .ok (⟨Sym.ofString "volume", Sym.ofString "Mcf"⟩, [0, 0, 0]) := by
  rw [poscDb_flat]; decide +kernel
-- registration with limits: default below the minimum is an AssertionError, crossed limits a ValueError,
-- an exclusive limit without default value a RuntimeError
example : ((poscDb.addCategoryFull 7 (Sym.ofString "volume") none none 1 false (some 1) (some 2) none false false).toOption.isSome,
           (poscDb.addCategoryFull 7 (Sym.ofString "volume") none none 1 false (some 1) (some 2) (some 1) false false).toOption.isSome,
           (poscDb.addCategoryFull 7 (Sym.ofString "volume") none none 1 false none (some 2) none true false).toOption.isSome,
           (poscDb.addCategoryFull 7 (Sym.ofString "volume") none none 1 false none (some 2) none false false).toOption.map
              (fun d => (d.catByName 7).map (·.defaultValue)))
    = (false, false, false, some (some 2)) := by
  rw [poscDb_flat]; decide +kernel
example : poscDb.getUnitName (Sym.ofString "volume") (Sym.ofString "1000ft3")
    = poscDb.getUnitName (Sym.ofString "volume") (Sym.ofString "Mcf")
    ∧ (poscDb.getUnitName (Sym.ofString "volume") (Sym.ofString "Mcf")).toOption.isSome = true := by
  rw [poscDb_flat]; decide +kernel

-- the composing-mapping forms of `ObtainQuantity`: one entry of exponent 1 with a legacy spelling is the plain
-- form (the hypotheses of `obtainQuantity_legacy_mapping_ok` are met), for an ordered dict and for a plain dict
example : poscDb.obtainFromMapping true [⟨Sym.ofString "volume flow rate", Sym.ofString "1000ft3/d", 1⟩]
      = .ok (.simple ⟨Sym.ofString "volume flow rate", Sym.ofString "Mcf/d"⟩)
    ∧ poscDb.obtainFromMapping false [⟨Sym.ofString "volume", Sym.ofString "M(m3)", 1⟩]
      = .ok (.simple ⟨Sym.ofString "volume", Sym.ofString "MMm3"⟩)
    ∧ poscDb.obtainFromMapping false [⟨Sym.ofString "volume", Sym.ofString "MMm3", 1⟩]
      = .ok (.simple ⟨Sym.ofString "volume", Sym.ofString "MMm3"⟩) := by
  rw [poscDb_flat]; decide +kernel
-- the parallel-lists form, with a category list, a category string and no category
example : poscDb.obtainFromLists [(Sym.ofString "1000ft3/d", 1)] (.list [Sym.ofString "volume flow rate"])
      = .ok (.simple ⟨Sym.ofString "volume flow rate", Sym.ofString "Mcf/d"⟩)
    ∧ poscDb.obtainFromLists [(Sym.ofString "1000ft3/d", 1)] (.str (Sym.ofString "volume flow rate"))
      = .ok (.simple ⟨Sym.ofString "volume flow rate", Sym.ofString "Mcf/d"⟩)
    ∧ poscDb.obtainFromLists [(Sym.ofString "1000ft3/d", 1)] .none
      = .ok (.simple ⟨Sym.ofString "volume flow rate", Sym.ofString "Mcf/d"⟩)
    ∧ poscDb.obtainFromLists [(Sym.ofString "1000ft3/d", 1)] (.list []) = .error .index := by
  rw [poscDb_flat]; decide +kernel
-- a really composing mapping: current symbols give the derived quantity (ordered dict) or a TypeError (plain
-- dict); a legacy spelling is rejected (`obtainFromMapping_rejects_legacy`: its hypotheses are met)
example : poscDb.obtainFromMapping true [⟨Sym.ofString "volume", Sym.ofString "MMm3", 1⟩, ⟨Sym.ofString "time", Sym.ofString "s", -1⟩]
      = .ok (.derived [⟨Sym.ofString "volume", Sym.ofString "MMm3", 1⟩, ⟨Sym.ofString "time", Sym.ofString "s", -1⟩])
    ∧ poscDb.obtainFromMapping false [⟨Sym.ofString "volume", Sym.ofString "MMm3", 2⟩] = .error .type
    ∧ poscDb.obtainFromMapping true [⟨Sym.ofString "volume", Sym.ofString "M(m3)", 2⟩] = .error .units
    ∧ simpleCell [⟨Sym.ofString "volume", Sym.ofString "M(m3)", 2⟩] = none := by
  rw [poscDb_flat]; decide +kernel
-- zip truncation and a repeated category make a two-pair list a one-entry mapping again
example : poscDb.obtainFromLists [(Sym.ofString "M(m3)", 1), (Sym.ofString "s", -1)] (.list [Sym.ofString "volume"])
      = .ok (.simple ⟨Sym.ofString "volume", Sym.ofString "MMm3"⟩)
    ∧ poscDb.obtainFromLists [(Sym.ofString "m3", 2), (Sym.ofString "M(m3)", 1)]
        (.list [Sym.ofString "volume", Sym.ofString "volume"])
      = .ok (.simple ⟨Sym.ofString "volume", Sym.ofString "MMm3"⟩)
    ∧ poscDb.obtainFromLists [(Sym.ofString "m3", 2), (Sym.ofString "s", -1)] (.str (Sym.ofString "volume"))
      = .error .assertion := by
  rw [poscDb_flat]; decide +kernel

end Barril
