/-
C06 — named compound units agree with the composition of their parts.

Property theorems only.  The rule (grammar, SI reading, written precision, judgement) is
`Barril/Model/Compound.lean`; helper lemmas are in `Barril/Proofs/CompoundLemmas.lean`; the table facts
`poscC_core` (the compact table is the default database's unit table, row by row) and `poscC_all_c06`
(the row predicate holds for every row but the recorded findings) are generated
(`Barril/Gen/ThmCore*.lean`, `Barril/Gen/ThmC06*.lean`) and proved by `decide +kernel` over rows the
translator reads from the database built by /repo's current source.
-/
import Barril.Proofs.CompoundAlgLemmas
import Barril.Proofs.CompoundIndexLemmas
import Barril.Gen.ThmC06Posc
import Barril.Gen.ThmIdxPosc
import Barril.Gen.ThmCorePosc
import Barril.Gen.Dbs

namespace Barril
open Barril.Gen

/-- What the row predicate asserts about a row the rule reads: the reading has a value `e` (the product
of the parts' factors, times the power of ten of an SI prefix), the base unit of the row's quantity
type has the value `be` under the same reading (1 unless the base unit is itself a compound of non-base
units), and `factor(row) · be` equals `e` within the written relative precision of the row (`c.prec`),
of its parts (`t`) and of the base unit's parts (`bt`). -/
def CompoundAgrees (look base : Sym → Option CRow) (c : CRow) : Prop :=
  ∀ rd, reading look c = some rd →
    ∃ e t be bt, expected rd = some (e, t) ∧ baseFactor look base c = some (be, bt)
      ∧ c.ok = true ∧ rd.partsOk = true
      ∧ absQ (c.slope * be - e) ≤ (c.prec + t + bt) * absQ e

/-- the decidable row predicate says exactly that -/
theorem compoundOk_iff (look base : Sym → Option CRow) (c : CRow) :
    compoundOk look base c = true ↔ CompoundAgrees look base c := by
  unfold compoundOk CompoundAgrees
  cases hr : reading look c with
  | none => simp
  | some rd =>
    simp only [Option.some.injEq, forall_eq']
    cases he : expected rd with
    | none => simp
    | some et =>
      obtain ⟨e, t⟩ := et
      cases hb : baseFactor look base c with
      | none => simp
      | some bb =>
        obtain ⟨be, bt⟩ := bb
        simp only [Bool.and_eq_true, decide_eq_true_eq, Option.some.injEq, Prod.mk.injEq]
        constructor
        · rintro ⟨⟨h1, h2⟩, h3⟩
          exact ⟨e, t, be, bt, ⟨rfl, rfl⟩, ⟨rfl, rfl⟩, h1, h2, h3⟩
        · rintro ⟨e', t', be', bt', ⟨rfl, rfl⟩, ⟨rfl, rfl⟩, h1, h2, h3⟩
          exact ⟨⟨h1, h2⟩, h3⟩

/-- **the table the rule works on is the unit table of the default database**: same rows in the same
order, with symbol, quantity type, registered name, factor to the base unit (slope of the executed
to-base formula) and translatability taken from the full rows -/
theorem posc_compact_is_table : poscC.map CRow.core = poscDb.units.map UnitRow.core := poscC_core

/-- a symbol is found in the compact table exactly when the default database registers it, and the row
found carries that unit's data -/
theorem posc_lookup_registered {s : Sym} {c : CRow} (h : lookL s poscC = some c) :
    ∃ r ∈ poscDb.units, r.sym = s ∧ r.qtype = c.qtype ∧ r.name = c.name
      ∧ r.toBase.q / r.toBase.r = c.slope ∧ r.ok = c.ok := by
  obtain ⟨hm, hs⟩ := lookL_some h
  obtain ⟨r, hr, e⟩ := mem_of_core_eq posc_compact_is_table hm
  simp only [UnitRow.core, CRow.core, Prod.mk.injEq] at e
  exact ⟨r, hr, e.1.trans hs, e.2.1, e.2.2.1, e.2.2.2.1, e.2.2.2.2.1⟩

theorem posc_lookup_unregistered {s : Sym} (h : lookL s poscC = none) : ∀ r ∈ poscDb.units, r.sym ≠ s := by
  intro r hr e
  obtain ⟨c, hc, hcore⟩ := mem_of_core_eq' posc_compact_is_table hr
  have : c.sym = s := by
    simp only [UnitRow.core, CRow.core, Prod.mk.injEq] at hcore
    exact hcore.1.trans e
  exact lookL_none h c hc this

/-- no symbol is listed twice in the default database (from the index facts: every row is found in the search
tree under its own symbol, and the rows carry their positions), so the row the database finds under the symbol
of one of its rows is that row -/
theorem posc_unitBySym_self {w : UnitRow} (hw : w ∈ poscDb.units) : poscDb.unitBySym w.sym = some w :=
  find?_sym_self_of_index posc_compact_is_table poscTree_complete poscC_pos hw

/-- **C06, table theorem.**  Every row of the default database that the unit grammar decomposes into
registered units, or that is an SI-prefixed form of another row by symbol and registered name — except
exactly the rows recorded as known findings — has the factor its parts demand, to the precision the
table is written in. -/
theorem compound_rows_ok :
    ∀ c ∈ poscC, c.sym ∉ c06KnownBad →
      CompoundAgrees (fun s => lookL s poscC) (fun q => baseL q poscC) c := by
  intro c hc hk
  have h := List.all_eq_true.mp poscC_all_c06 c hc
  unfold compoundOkOrKnown at h
  rcases Bool.or_eq_true_iff.mp h with h | h
  · exact absurd (List.contains_iff_mem.mp h) hk
  · exact (compoundOk_iff _ _ c).mp h

/-- the same, for the rows of the database itself: the compact row of every registered unit agrees -/
theorem registered_units_ok {r : UnitRow} (hr : r ∈ poscDb.units) (hk : r.sym ∉ c06KnownBad) :
    ∃ c ∈ poscC, c.core = r.core ∧ CompoundAgrees (fun s => lookL s poscC) (fun q => baseL q poscC) c := by
  obtain ⟨c, hc, hcore⟩ := mem_of_core_eq' posc_compact_is_table hr
  have hs : c.sym = r.sym := by
    simp only [UnitRow.core, CRow.core, Prod.mk.injEq] at hcore
    exact hcore.1
  exact ⟨c, hc, hcore, compound_rows_ok c hc (hs ▸ hk)⟩

/-! ### what a reading is (the grammar never invents a factor) -/

/-- A compound reading of a row cuts the row's own symbol: it is `n/d` with exactly one `/` or contains
none, each side is cut at its `.`s (a piece `1` is the empty product), and every piece is
`[decimal multiplier] registered-symbol [decimal exponent ≥ 1]` with the recorded multiplier and
exponent; for any lookup function. -/
theorem compound_reading_cuts_symbol {look : Sym → Option CRow} {c : CRow} {a b : List Factor}
    (h : reading look c = some (.compound a b)) :
    (∃ n d, Sym.bytes c.sym = n ++ [47] ++ d ∧ 47 ∉ n ∧ 47 ∉ d ∧ b ≠ []
        ∧ Forall2 (FactorText look) ((splitOnB 46 n).filter (fun f => f != [49])) a
        ∧ Forall2 (FactorText look) ((splitOnB 46 d).filter (fun f => f != [49])) b)
    ∨ (47 ∉ Sym.bytes c.sym ∧ b = [] ∧ a ≠ []
        ∧ Forall2 (FactorText look) ((splitOnB 46 (Sym.bytes c.sym)).filter (fun f => f != [49])) a) := by
  unfold reading at h
  split at h
  · rename_i a' b' hd
    cases h
    exact decompose_text hd
  · split at h <;> cases h

/-- an SI reading is `prefix ++ registered symbol` of the same quantity type, the registered names
saying so too -/
theorem si_reading_is_prefixed {look : Sym → Option CRow} {c b : CRow} {ex : Int}
    (h : siReading look c = some (b, ex)) :
    ∃ pre, (pre, ex) ∈ siPrefixes ∧ isPrefixB pre (Sym.bytes c.sym) = true
      ∧ look (Sym.ofBytes ((Sym.bytes c.sym).drop pre.length)) = some b
      ∧ b.qtype = c.qtype ∧ nameSaysPrefix ex (Sym.bytes c.name) (Sym.bytes b.name) = true := by
  unfold siReading at h
  split at h
  · cases h
  · obtain ⟨pe, hmem, hpe⟩ := List.exists_of_findSome?_eq_some h
    split at hpe
    · rename_i hp
      split at hpe
      · rename_i b' hl
        split at hpe
        · rename_i hq
          cases hpe
          simp only [Bool.and_eq_true, beq_iff_eq] at hq
          exact ⟨pe.1, hmem, hp, hl, hq.1, hq.2⟩
        · cases hpe
      · cases hpe
    · cases hpe

/-- the value of a side is the product of `multiplier · factor ^ exponent` over its factors, and its
precision the exponent-weighted sum of the parts' written precisions -/
theorem sideValue_cons (f : Factor) (fs : List Factor) :
    sideValue (f :: fs) = ((f.pre : Rat) * f.unit.slope ^ f.exp * (sideValue fs).1,
      (f.exp : Rat) * f.unit.prec + (sideValue fs).2) := rfl

theorem sideValue_nil : sideValue [] = (1, 0) := rfl

/-! ### the "equivalently" sentence: the product of the parts IS the magnitude of the composed Scalar -/

/-- the factor of a row of the compact table is the arithmetic engine's `slope` of its symbol, i.e. (by
`baseMag_simple`) what `Scalar(1, symbol)` amounts to in base units -/
theorem posc_slope_is_engine_slope {s : Sym} {c : CRow} (h : lookL s poscC = some c) :
    Alg.slope poscDb s = c.slope := slope_of_lookL posc_compact_is_table h

/-- **C06, second sentence.**  For every row the grammar reads as a compound (recorded findings excepted),
`factor(row) · E(base)` agrees, within the written precision, with
`multipliers · Alg.mag poscDb (parts with their signed exponents)`.  `Alg.mag` of a composing-unit list is
the amount in base units per unit of value of ANY Scalar with those composing units, and by C04's
`mul_mag` / `div_mag` (closed under products and quotients by `opNew_closed`) that is what multiplying and
dividing Scalars given in the component units produces; the left side is the amount of `Scalar(1, row)`
(`posc_slope_is_engine_slope`, `baseMag_simple`).  So the named Scalar and the composed Scalar describe the
same physical amount, to the precision the table is written in. -/
theorem named_eq_composed {c : CRow} (hc : c ∈ poscC) (hk : c.sym ∉ c06KnownBad) {a b : List Factor}
    (hr : reading (fun s => lookL s poscC) c = some (.compound a b)) :
    ∃ t be bt, baseFactor (fun s => lookL s poscC) (fun q => baseL q poscC) c = some (be, bt) ∧
      absQ (c.slope * be
          - sidePre a / sidePre b * Alg.mag poscDb (sideEntries 1 a ++ sideEntries (-1) b))
        ≤ (c.prec + t + bt)
          * absQ (sidePre a / sidePre b * Alg.mag poscDb (sideEntries 1 a ++ sideEntries (-1) b)) := by
  obtain ⟨e, t, be, bt, he, hb, _, _, hle⟩ := compound_rows_ok c hc hk _ hr
  have hl := reading_factors_looked hr
  have ha : ∀ f ∈ a, Alg.slope poscDb f.unit.sym = f.unit.slope :=
    fun f hf => posc_slope_is_engine_slope (hl f (Or.inl hf))
  have hb' : ∀ f ∈ b, Alg.slope poscDb f.unit.sym = f.unit.slope :=
    fun f hf => posc_slope_is_engine_slope (hl f (Or.inr hf))
  have := expected_eq_mag ha hb' he
  exact ⟨t, be, bt, hb, this ▸ hle⟩

private def look0 : Sym → Option CRow := fun s => lookL s poscC
private def rowOf (s : String) : Option CRow := lookL (Sym.ofString s) poscC

end Barril
