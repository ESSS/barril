/-
C04 — multiply/divide: dimension exponents add, base-unit magnitudes multiply.

Property theorems about `Alg.opNew` (`_DoOperationResultingInNewQuantity`: Multiply, Divide,
FloorDivide) and `Alg.pow` (`Scalar.__pow__`) of Barril/Model/Alg.lean, for EVERY database whose rows are
well-formed (`Db.AllWF`, proved for the three shipped databases in Props/C01 from the regenerated tables), all
operand shapes (entry lists of any length, several categories and several units per quantity type, any
integer exponents) and all rational values.  Helper lemmas: Barril/Proofs/AlgLemmas.lean; the key one is
`matchOne_spec`/`matchQuantities_spec`, the invariant of the matching loop by induction over the entry list.

Vocabulary (AlgLemmas): `dim db qt es` = sum of the exponents of the categories of quantity type `qt`;
`mag db es` = Π slope(unit)^exp; `baseMag db q v` = v · mag; `Known db q` = every unit of `q` is a table unit
of the quantity type of its category; `ScaleOnlyQ db q` = no unit of `q` has an offset (the property speaks
about scale-only units); `Scales db q1 q2` = the right operand is not of the simple shape (one entry with
exponent 1) or neither operand has a unit with an offset: then the matching scales
(`_ConvertMatchingExp` scales every entry of a derived operand, offsets or not); `unitTotal u es` = the joined exponent of unit `u`;
`typeExps db es` (Model/AlgType.lean) = `rep_and_exp` of `Quantity.__init__`, the list the quantity-type string
(`GetQuantityType()`) is written from; `expOf qt l` = the exponent that list holds for `qt`; `reportedTypes` = its
entries with a non-zero exponent (what `_MakeStr` writes).
-/
import Barril.Proofs.AlgLemmas
import Barril.Proofs.AlgTypeLemmas
import Barril.Props.C01

namespace Barril.Alg
open Barril Barril.Gen

/-! ### exponents add -/

/-- **a*b: the exponent of every quantity type is the sum of the operands' exponents** -/
theorem mul_dim {db : Db} (hdb : db.AllWF) {q1 q2 q : Quantity} {v1 v2 v : Rat} (h1 : Known db q1) (h2 : Known db q2)
    (h : opNew db .mul q1 q2 v1 v2 = .ok (q, v)) (qt : Sym) :
    dim db qt q.entries = dim db qt q1.entries + dim db qt q2.entries := by
  simpa [sgn] using (opNew_known hdb h1 h2 h).1 qt

/-- **a/b: the exponent of every quantity type is the difference of the operands' exponents** -/
theorem div_dim {db : Db} (hdb : db.AllWF) {q1 q2 q : Quantity} {v1 v2 v : Rat} (h1 : Known db q1) (h2 : Known db q2)
    (h : opNew db .div q1 q2 v1 v2 = .ok (q, v)) (qt : Sym) :
    dim db qt q.entries = dim db qt q1.entries - dim db qt q2.entries := by
  simpa [sgn, sub_eq_add_neg] using (opNew_known hdb h1 h2 h).1 qt

/-- **a//b: the same quantity as a/b** (same matching, same merge, same deletion: only the value differs) -/
theorem floordiv_quantity (db : Db) (q1 q2 : Quantity) (v1 v2 : Rat) :
    (opNew db .floordiv q1 q2 v1 v2).map Prod.fst = (opNew db .div q1 q2 v1 v2).map Prod.fst := by
  have he : expOp .floordiv = expOp .div := by funext a b; rfl
  unfold opNew
  rw [he]
  cases matchQuantities db q1.entries q2.entries v1 v2 with
  | error e => rfl
  | ok r =>
    obtain ⟨e1, e2, w1, w2⟩ := r
    simp only
    cases mergeAll (expOp .div) e1 e2 with
    | error e => rfl
    | ok m =>
      simp only
      cases createDerived db (dropZero m) with
      | error e => rfl
      | ok q =>
        simp only [applyNew]
        by_cases hw : w2 = 0 <;> simp [hw, Except.map]

/-- **zero exponents disappear**: in a result no entry has exponent 0, no unit has joined exponent 0 … -/
theorem no_zero_exponent {db : Db} (hdb : db.AllWF) {op : NewOp} {q1 q2 q : Quantity} {v1 v2 v : Rat}
    (h1 : Known db q1) (h2 : Known db q2) (h : opNew db op q1 q2 v1 v2 = .ok (q, v)) :
    ∀ e ∈ q.entries, e.exp ≠ 0 ∧ unitTotal e.unit q.entries ≠ 0 :=
  (opNew_known hdb h1 h2 h).2.2.2.1

/-- … **and every quantity type that still occurs has a non-zero exponent** (the per-unit total of the code
coincides with the per-type total because after matching a quantity type has one unit and a unit one type) -/
theorem no_zero_dimension {db : Db} (hdb : db.AllWF) {op : NewOp} {q1 q2 q : Quantity} {v1 v2 v : Rat}
    (h1 : Known db q1) (h2 : Known db q2) (h : opNew db op q1 q2 v1 v2 = .ok (q, v)) :
    ∀ e ∈ q.entries, ∀ qt, hasType db qt e = true → dim db qt q.entries ≠ 0 := by
  obtain ⟨_, _, hU, hnz, _⟩ := opNew_known hdb h1 h2 h
  intro e he qt ht
  rw [dim_eq_unitTotal q.entries (hU.hasType_eq he ht)]
  exact (hnz e he).2

/-- the result of `* / //` is again an operand of the kind the theorems speak about (known units, scale-only
when the operands are, no caption), so the theorems chain over expression trees of any depth -/
theorem opNew_closed {db : Db} (hdb : db.AllWF) {op : NewOp} {q1 q2 q : Quantity} {v1 v2 v : Rat}
    (h1 : Known db q1) (h2 : Known db q2) (h : opNew db op q1 q2 v1 v2 = .ok (q, v)) :
    Known db q ∧ q.caption = 0 ∧ (ScaleOnlyQ db q1 → ScaleOnlyQ db q2 → ScaleOnlyQ db q) := by
  obtain ⟨_, hk, _, _, hcap⟩ := opNew_known hdb h1 h2 h
  exact ⟨hk, hcap, fun s1 s2 => (opNew_spec hdb (ScaleOnly db) h1 h2 s1 s2 h).2.2.1⟩

/-- with known units the only way `* / //` can fail is a zero divisor (`ZeroDivisionError`): the
"This should've been covered already" `RuntimeError` and the validation in `CreateDerived` are unreachable -/
theorem opNew_total {db : Db} (hdb : db.AllWF) (op : NewOp) (q1 q2 : Quantity) (v1 v2 : Rat)
    (h1 : Known db q1) (h2 : Known db q2) :
    (∃ q v, opNew db op q1 q2 v1 v2 = .ok (q, v)) ∨ (op ≠ .mul ∧ opNew db op q1 q2 v1 v2 = .error .other) := by
  obtain ⟨used, e1, e2, w1, w2, hm, _, _, hgood, _⟩ :=
    matchQuantities_spec hdb (fun _ => True) q1.entries q2.entries v1 v2 h1 h2 (fun _ _ => trivial) (fun _ _ => trivial)
  obtain ⟨m, _, _, heq⟩ := opNew_eq (op := op) hm hgood
  rw [heq]
  cases op
  · exact Or.inl ⟨_, _, rfl⟩
  all_goals by_cases hw : w2 = 0 <;> simp [applyNew, hw]

/-! ### base magnitudes multiply (scale-only units; and any units when the right operand is derived) -/

/-- **a*b: the base magnitude is the product** -/
theorem mul_mag {db : Db} (hdb : db.AllWF) {q1 q2 q : Quantity} {v1 v2 v : Rat} (h1 : Known db q1) (h2 : Known db q2)
    (hs : Scales db q1 q2) (h : opNew db .mul q1 q2 v1 v2 = .ok (q, v)) :
    baseMag db q v = baseMag db q1 v1 * baseMag db q2 v2 := by
  obtain ⟨w1, w2, hv, hb⟩ := opNew_mag hdb h1 h2 hs h
  cases hv
  simpa [sgn] using hb

/-- **a/b: the base magnitude is the quotient** -/
theorem div_mag {db : Db} (hdb : db.AllWF) {q1 q2 q : Quantity} {v1 v2 v : Rat} (h1 : Known db q1) (h2 : Known db q2)
    (hs : Scales db q1 q2) (h : opNew db .div q1 q2 v1 v2 = .ok (q, v)) :
    baseMag db q v = baseMag db q1 v1 / baseMag db q2 v2 := by
  obtain ⟨w1, w2, hv, hb⟩ := opNew_mag hdb h1 h2 hs h
  simp only [applyNew] at hv
  split at hv
  · cases hv
  · cases hv
    simpa [sgn, div_eq_mul_inv] using hb

/-- **a//b: the floor of a quotient whose base magnitude is the quotient of the base magnitudes** -/
theorem floordiv_mag {db : Db} (hdb : db.AllWF) {q1 q2 q : Quantity} {v1 v2 v : Rat} (h1 : Known db q1) (h2 : Known db q2)
    (hs : Scales db q1 q2) (h : opNew db .floordiv q1 q2 v1 v2 = .ok (q, v)) :
    ∃ quot : Rat, v = (quot.floor : Int) ∧ baseMag db q quot = baseMag db q1 v1 / baseMag db q2 v2 := by
  obtain ⟨w1, w2, hv, hb⟩ := opNew_mag hdb h1 h2 hs h
  simp only [applyNew] at hv
  split at hv
  · cases hv
  · cases hv
    exact ⟨w1 / w2, rfl, by simpa [sgn, div_eq_mul_inv] using hb⟩

/-! ### corollaries: commutativity, cancellation, a/a -/

/-- **a*b and b*a are physically equal** (same exponents, same base magnitude) -/
theorem mul_comm_phys {db : Db} (hdb : db.AllWF) {q1 q2 q q' : Quantity} {v1 v2 v v' : Rat}
    (h1 : Known db q1) (h2 : Known db q2) (s12 : Scales db q1 q2) (s21 : Scales db q2 q1)
    (hab : opNew db .mul q1 q2 v1 v2 = .ok (q, v)) (hba : opNew db .mul q2 q1 v2 v1 = .ok (q', v')) :
    (∀ qt, dim db qt q.entries = dim db qt q'.entries) ∧ baseMag db q v = baseMag db q' v' := by
  refine ⟨fun qt => ?_, ?_⟩
  · rw [mul_dim hdb h1 h2 hab, mul_dim hdb h2 h1 hba, add_comm]
  · rw [mul_mag hdb h1 h2 s12 hab, mul_mag hdb h2 h1 s21 hba, mul_comm]

/-- **(a*b)/b is physically equal to a** -/
theorem mul_div_cancel_phys {db : Db} (hdb : db.AllWF) {q1 q2 q q' : Quantity} {v1 v2 v v' : Rat}
    (h1 : Known db q1) (h2 : Known db q2) (hs : Scales db q1 q2) (hv2 : v2 ≠ 0)
    (hab : opNew db .mul q1 q2 v1 v2 = .ok (q, v)) (hdiv : opNew db .div q q2 v v2 = .ok (q', v')) :
    (∀ qt, dim db qt q'.entries = dim db qt q1.entries) ∧ baseMag db q' v' = baseMag db q1 v1 := by
  obtain ⟨hk, _, hcl⟩ := opNew_closed hdb h1 h2 hab
  have hs' : Scales db q q2 := hs.imp id (fun ⟨s1, s2⟩ => ⟨hcl s1 s2, s2⟩)
  refine ⟨fun qt => ?_, ?_⟩
  · rw [div_dim hdb hk h2 hdiv, mul_dim hdb h1 h2 hab]; ring
  · rw [div_mag hdb hk h2 hs' hdiv, mul_mag hdb h1 h2 hs hab]
    have : baseMag db q2 v2 ≠ 0 := mul_ne_zero hv2 (h2.mag_ne_zero hdb)
    field_simp

/-- **a/a is dimensionless**: no entry is left (hence the empty unit string) and the value is 1 -/
theorem div_self_dimensionless {db : Db} (hdb : db.AllWF) {q q' : Quantity} {v v' : Rat} (hq : Known db q)
    (hs : Scales db q q) (hv : v ≠ 0) (h : opNew db .div q q v v = .ok (q', v')) :
    q'.entries = [] ∧ q'.caption = 0 ∧ v' = 1 := by
  have hent : q'.entries = [] := by
    cases he : q'.entries with
    | nil => rfl
    | cons e es =>
      exfalso
      have hmem : e ∈ q'.entries := by rw [he]; exact List.mem_cons_self ..
      obtain ⟨r, _, hc⟩ := (opNew_closed hdb hq hq h).1 e hmem
      have ht : hasType db r.qtype e = true := hasType_iff.mpr hc
      have := no_zero_dimension hdb hq hq h e hmem r.qtype ht
      rw [div_dim hdb hq hq h] at this
      exact this (sub_self _)
  refine ⟨hent, (opNew_closed hdb hq hq h).2.1, ?_⟩
  have hm := div_mag hdb hq hq hs h
  have hb : baseMag db q v ≠ 0 := mul_ne_zero hv (hq.mag_ne_zero hdb)
  rw [div_self hb] at hm
  unfold baseMag at hm
  rw [hent] at hm
  simpa [mag] using hm

/-! ### powers -/

/-- `a ** n` for n ≤ 1 is `a` itself (`range(n - 1)` is empty) -/
theorem pow_le_one (db : Db) (q : Quantity) (v : Rat) {n : Int} (hn : n ≤ 1) : pow db q v n = .ok (q, v) := by
  unfold pow
  have : (n - 1).toNat = 0 := by omega
  rw [this]; rfl

/-- **a ** (n+1) = (a ** n) * a** for n ≥ 1: the n-fold product, built from the left -/
theorem pow_succ {db : Db} (q : Quantity) (v : Rat) {n : Int} (hn : 1 ≤ n) :
    pow db q v (n + 1) = (match pow db q v n with
      | .error e => .error e
      | .ok (rq, rv) => opNew db .mul rq q rv v) := by
  unfold pow
  obtain ⟨k, rfl⟩ : ∃ k : Nat, n = k + 1 := ⟨(n - 1).toNat, by omega⟩
  have e1 : ((k : Int) + 1 + 1 - 1).toNat = k + 1 := by omega
  have e2 : ((k : Int) + 1 - 1).toNat = k := by omega
  rw [e1, e2]
  -- one more turn of the loop at the end = one more turn at the start
  have snoc : ∀ (k : Nat) (rq : Quantity) (rv : Rat),
      powLoop db q v (k + 1) rq rv = (match powLoop db q v k rq rv with
        | .error e => .error e
        | .ok (rq', rv') => opNew db .mul rq' q rv' v) := by
    intro k
    induction k with
    | zero =>
      intro rq rv
      simp only [powLoop]
      cases opNew db .mul rq q rv v with
      | error e => rfl
      | ok r => rfl
    | succ k ih =>
      intro rq rv
      rw [powLoop]
      cases h : opNew db .mul rq q rv v with
      | error e => simp only [powLoop, h]
      | ok r =>
        obtain ⟨rq1, rv1⟩ := r
        simp only
        rw [ih rq1 rv1]
        conv => rhs; rw [powLoop, h]
  exact snoc k q v

/-- **a ** n: exponents are n times those of a, the base magnitude is the n-th power** (n ≥ 1) -/
theorem pow_dim_mag {db : Db} (hdb : db.AllWF) {q q' : Quantity} {v v' : Rat} {n : Int} (hn : 1 ≤ n)
    (hq : Known db q) (hs : Scales db q q) (h : pow db q v n = .ok (q', v')) :
    (∀ qt, dim db qt q'.entries = n * dim db qt q.entries) ∧ baseMag db q' v' = baseMag db q v ^ n.toNat := by
  unfold pow at h
  obtain ⟨k, rfl⟩ : ∃ k : Nat, n = k + 1 := ⟨(n - 1).toNat, by omega⟩
  have e2 : ((k : Int) + 1 - 1).toNat = k := by omega
  rw [e2] at h
  obtain ⟨hd, hm⟩ : (∀ qt, dim db qt q'.entries = dim db qt q.entries + k * dim db qt q.entries)
      ∧ baseMag db q' v' = baseMag db q v * baseMag db q v ^ k := by
    obtain ⟨P, p, _, hc⟩ := hs.pred
    exact powLoop_spec hdb P hq p hc k q v q' v' hq p h
  refine ⟨fun qt => ?_, ?_⟩
  · rw [hd qt]; ring
  · have : ((k : Int) + 1).toNat = k + 1 := by omega
    rw [hm, this, _root_.pow_succ]; ring

/-! ### the shipped POSC table satisfies the hypothesis `AllWF` (regenerated and re-proved on every run) -/

theorem posc_mul_dim {q1 q2 q : Quantity} {v1 v2 v : Rat} (h1 : Known poscDb q1) (h2 : Known poscDb q2)
    (h : opNew poscDb .mul q1 q2 v1 v2 = .ok (q, v)) (qt : Sym) :
    dim poscDb qt q.entries = dim poscDb qt q1.entries + dim poscDb qt q2.entries := mul_dim posc_allWF h1 h2 h qt

theorem posc_mul_mag {q1 q2 q : Quantity} {v1 v2 v : Rat} (h1 : Known poscDb q1) (h2 : Known poscDb q2)
    (hs : Scales poscDb q1 q2) (h : opNew poscDb .mul q1 q2 v1 v2 = .ok (q, v)) :
    baseMag poscDb q v = baseMag poscDb q1 v1 * baseMag poscDb q2 v2 := mul_mag posc_allWF h1 h2 hs h

theorem posc_div_mag {q1 q2 q : Quantity} {v1 v2 v : Rat} (h1 : Known poscDb q1) (h2 : Known poscDb q2)
    (hs : Scales poscDb q1 q2) (h : opNew poscDb .div q1 q2 v1 v2 = .ok (q, v)) :
    baseMag poscDb q v = baseMag poscDb q1 v1 / baseMag poscDb q2 v2 := div_mag posc_allWF h1 h2 hs h

/-! ### the exponent per quantity type as the result REPORTS it (its quantity-type string)

The Array operators apply the same per-number functions element by element (C10's theorems); nothing here depends
on the container. -/

/-- **the list the quantity-type string is written from holds, for every quantity type, exactly `dim`**: the sum
of the exponents of ALL categories of that type (two categories of one type are added, not overwritten) -/
theorem reported_type_exponent_eq_dim {db : Db} {es : List Entry} {l : List (Sym × Int)}
    (h : typeExps db es = .ok l) (qt : Sym) : expOf qt l = dim db qt es := by
  have := typeExpsFrom_expOf qt es [] l h
  simpa [expOf] using this

/-- every quantity type is listed at most once -/
theorem reported_types_distinct {db : Db} {es : List Entry} {l : List (Sym × Int)}
    (h : typeExps db es = .ok l) : (l.map Prod.fst).Nodup :=
  typeExpsFrom_keysNodup es [] l (by simp [KeysNodup]) h

/-- **what is written: exactly the quantity types whose `dim` is not 0, each with its `dim`** -/
theorem reported_types_iff {db : Db} {es : List Entry} {r : List (Sym × Int)}
    (h : reportedTypes db es = .ok r) (qt : Sym) (x : Int) :
    (qt, x) ∈ r ↔ x = dim db qt es ∧ x ≠ 0 := by
  unfold reportedTypes at h
  cases hl : typeExps db es with
  | error e => rw [hl] at h; cases h
  | ok l =>
    rw [hl] at h
    cases h
    have hn : KeysNodup l := typeExpsFrom_keysNodup es [] l (by simp [KeysNodup]) hl
    have hd := reported_type_exponent_eq_dim hl qt
    simp only [List.mem_filter, Bool.not_eq_true', beq_eq_false_iff_ne, ne_eq]
    constructor
    · rintro ⟨hm, hx⟩
      exact ⟨by rw [← hd, expOf_of_mem hn hm], hx⟩
    · rintro ⟨hx, h0⟩
      refine ⟨?_, h0⟩
      subst hx
      rw [← hd] at h0 ⊢
      exact mem_of_expOf_ne_zero h0

/-- **a*b reports, for every quantity type, the sum of what the operands report** -/
theorem mul_reported_types {db : Db} (hdb : db.AllWF) {q1 q2 q : Quantity} {v1 v2 v : Rat}
    (h1 : Known db q1) (h2 : Known db q2) (h : opNew db .mul q1 q2 v1 v2 = .ok (q, v))
    {l1 l2 l : List (Sym × Int)} (t1 : typeExps db q1.entries = .ok l1) (t2 : typeExps db q2.entries = .ok l2)
    (t : typeExps db q.entries = .ok l) (qt : Sym) : expOf qt l = expOf qt l1 + expOf qt l2 := by
  rw [reported_type_exponent_eq_dim t, reported_type_exponent_eq_dim t1, reported_type_exponent_eq_dim t2]
  exact mul_dim hdb h1 h2 h qt

/-- **a/b reports, for every quantity type, the difference of what the operands report** -/
theorem div_reported_types {db : Db} (hdb : db.AllWF) {q1 q2 q : Quantity} {v1 v2 v : Rat}
    (h1 : Known db q1) (h2 : Known db q2) (h : opNew db .div q1 q2 v1 v2 = .ok (q, v))
    {l1 l2 l : List (Sym × Int)} (t1 : typeExps db q1.entries = .ok l1) (t2 : typeExps db q2.entries = .ok l2)
    (t : typeExps db q.entries = .ok l) (qt : Sym) : expOf qt l = expOf qt l1 - expOf qt l2 := by
  rw [reported_type_exponent_eq_dim t, reported_type_exponent_eq_dim t1, reported_type_exponent_eq_dim t2]
  exact div_dim hdb h1 h2 h qt

section examples
private def S (s : String) : Sym := Sym.ofString s
private def qM : Quantity := ⟨[⟨S "length", S "m", 1⟩], 0, false⟩
private def qCm : Quantity := ⟨[⟨S "length", S "cm", 1⟩], 0, false⟩
private def qM2 : Quantity := ⟨[⟨S "length", S "m", 2⟩], 0, true⟩
private def qDepthFt : Quantity := ⟨[⟨S "depth", S "ft", 1⟩], 0, false⟩
private def qS : Quantity := ⟨[⟨S "time", S "s", 1⟩], 0, false⟩
end examples

end Barril.Alg
