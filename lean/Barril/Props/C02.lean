/-
C02 — all conversion routes agree and keep physical value, category and type.

Property theorems only (helper lemmas: `Barril/Proofs/RoutesLemmas.lean`).  Every theorem is about
the executable model `Barril/Model/Routes.lean`, which follows the Python function by function, and
compares a route with `Db.convert` (`UnitDatabase.Convert` on a float, the subject of C01), for all
values, all container lengths and every database; the instances for the shipped tables follow.

Reading guide: `newSimple db c u0 = .ok q` says "`q` is the quantity `ObtainQuantity(u0, c)`
returns" (so `q.unit` is `u0`, or its current spelling when `u0` is a legacy one);
`Kind.mk k xs` is the list / tuple / ndarray holding the numbers `xs`.
-/
import Barril.Proofs.RoutesLemmas
import Barril.Props.C01

namespace Barril.Routes
open Barril Barril.Gen

/-! ### 1. `Scalar.GetValue(unit)`, `Quantity.ConvertScalarValue`, `Quantity.Convert` -/

/-- **fast path**: `Quantity.ConvertScalarValue` (cached to-base callable) computes exactly what the
database's float conversion computes, errors included -/
theorem convertScalarValue_eq_convert {db : Db} {c u0 : Sym} {q : Quantity}
    (hq : newSimple db c u0 = .ok q) (x : Rat) (v : Sym) :
    q.convertScalarValue db x v = db.convert c q.unit v x := by
  obtain ⟨ci, u', row, hc, hrow, rfl⟩ := newSimple_ok hq
  -- under a category name the rows are those of the category's quantity type
  have hr : ∀ w, db.row c w = db.getInfo ci.qtype w true := fun w => by simp [Db.row, Db.typeOf, hc]
  show _ = db.convert c u' v x
  rw [Db.convert_eq, hr, hr, hrow]
  rfl

/-- **`Scalar.GetValue(unit)`** -/
theorem scalar_getValue_eq_convert {db : Db} {c u0 : Sym} {q : Quantity}
    (hq : newSimple db c u0 = .ok q) (x : Rat) (v : Sym) :
    (Scalar.mk q x).getValue db (some v) = db.convert c q.unit v x :=
  convertScalarValue_eq_convert hq x v

/-- **generic path**: `Quantity.Convert` on a float agrees with the fast path -/
theorem quantity_convert_num {db : Db} {c u0 : Sym} {q : Quantity}
    (hq : newSimple db c u0 = .ok q) (x : Rat) (v : Sym) :
    q.convert db (.num x) v = wrapNum (q.convertScalarValue db x v) := by
  rw [convertScalarValue_eq_convert hq]
  obtain ⟨ci, u', row, _, _, rfl⟩ := newSimple_ok hq
  exact convertStr_num db c u' v x

/-- **`Quantity.Convert` on a list, a tuple or an ndarray** of any length: every element is converted
by the database's float conversion (generator path = vectorised path) -/
theorem quantity_convert_kind {db : Db} {c u0 : Sym} {q : Quantity} (hq : newSimple db c u0 = .ok q)
    {v : Sym} {x0 y0 : Rat} (h : db.convert c q.unit v x0 = .ok y0) (k : Kind) (xs : List Rat) :
    q.convert db (k.mk xs) v = (mapE (db.convert c q.unit v) xs).map k.mk := by
  obtain ⟨ci, u', row, _, _, rfl⟩ := newSimple_ok hq
  exact convertStr_kind h k xs

/-! ### 2. `UnitDatabase.Convert` on floats/ints, lists, tuples, ndarrays, and with exponent lists -/

/-- float / int (the model computes in exact rationals: an int is the same number) -/
theorem convertAny_num (db : Db) (cq u v : Sym) (x : Rat) :
    convertAny db (.str cq) (.str u) (.str v) (.num x) = some (wrapNum (db.convert cq u v x)) := by
  simp [convertAny, convertStr_num]

/-- list / tuple / ndarray of any length -/
theorem convertAny_kind {db : Db} {cq u v : Sym} {x0 y0 : Rat} (h : db.convert cq u v x0 = .ok y0)
    (k : Kind) (xs : List Rat) :
    convertAny db (.str cq) (.str u) (.str v) (k.mk xs) = some ((mapE (db.convert cq u v) xs).map k.mk) := by
  simp [convertAny, convertStr_kind h]

/-- in a database whose rows are well-formed (C01) the container routes never fail half-way: the
result exists, has the same kind and length, and is the float conversion element by element -/
theorem convertAny_kind_elementwise {db : Db} (hdb : db.AllWF) {cq u v : Sym} {x0 y0 : Rat}
    (h : db.convert cq u v x0 = .ok y0) (k : Kind) (xs : List Rat) :
    ∃ ys, convertAny db (.str cq) (.str u) (.str v) (k.mk xs) = some (.ok (k.mk ys))
      ∧ Elementwise (db.convert cq u v) xs ys := by
  obtain ⟨ys, hys, hel⟩ := mapE_convert_ok hdb h xs
  exact ⟨ys, by rw [convertAny_kind h, hys]; rfl, hel⟩

/-- the same unit on both sides returns the value itself — strings and exponent lists alike -/
theorem convertAny_same_unit (db : Db) (cq : CatArg) (a : UnitArg) (val : Val) :
    convertAny db cq a a val = some (.ok val) := by
  cases a with
  | str u => simp [convertAny, convertStr]
  | list es => simp [convertAny, UnitArg.sameExps]
  | tuple es => simp [convertAny, UnitArg.sameExps]

/-- with a string target `UnitDatabase.Convert` never reaches the `math.pow` part (this is the
function `Quantity.Convert` is modelled with) -/
theorem convertAny_str_target (db : Db) (cq : CatArg) (fromU : UnitArg) (v : Sym) (val : Val) :
    convertAny db cq fromU (.str v) val = some (convertTo db cq fromU v val) := by
  cases fromU with
  | str u => simp [convertAny, convertTo]
  | list es | tuple es =>
    simp only [convertAny, convertTo]
    split
    · rfl
    · simp only [UnitArg.exps, convertWithExp]
      match es with
      | [] => rfl
      | [(u, e)] => by_cases he : e = 1 <;> simp [he]
      | _ :: _ :: _ => rfl

/-- the scale factor `convScale` finds is the factor of the database's float conversion -/
theorem convScale_convert {db : Db} {cq u v : Sym} {k : Rat} (h : convScale db (.str cq) u v = some (.ok k))
    (x : Rat) : db.convert cq u v x = .ok (k * x) := by
  rw [convScale_eq] at h
  split at h
  · rename_i huv
    cases h
    rw [beq_iff_eq.mp huv, Db.convert_same, one_mul]
  · rename_i huv
    split at h
    · cases h
    · rename_i a ha
      split at h
      · cases h
      · rename_i b hb
        split at h
        · cases h
        · rename_i k' hk
          cases h
          rw [Db.convert_of_rows (by simpa using huv) ha hb]
          exact scaleOf_convRows hk x

/-- **the exponent path** (`_ConvertWithExp` through `(unit, exp)` lists), for offset-free units:
the result is the amount times the `e`-th power of the factor of the float conversion -/
theorem convertAny_exponent {db : Db} {cq u v : Sym} {k : Rat} {e : Int}
    (hk : convScale db (.str cq) u v = some (.ok k)) (he1 : e ≠ 1) (he0 : e ≠ 0) (huv : u ≠ v)
    (x : Rat) (hdom : 0 < e ∨ (x ≠ 0 ∧ k ≠ 0)) :
    convertAny db (.str cq) (.list [(u, e)]) (.list [(v, e)]) (.num x) = some (.ok (.num (powInt k e * x))) := by
  have hne : ¬ ((u, e) = (v, e)) := by
    intro h; exact huv (Prod.mk.inj h).1
  simp only [convertAny, UnitArg.sameExps, UnitArg.isTuple, UnitArg.exps, CatArg.unwrap1, convertWithExp]
  simp only [BEq.rfl, Bool.true_and, List.cons.injEq, and_true, bne_self_eq_false, Bool.false_eq_true,
    ↓reduceIte, beq_iff_eq, he1, powPath, he0, hk]
  rw [if_neg hne]
  have h2 : ¬ (x = 0 ∧ e < 0) := by
    rintro ⟨hx, hneg⟩
    rcases hdom with h | h
    · omega
    · exact h.1 hx
  have h3 : ¬ (k = 0 ∧ e < 0) := by
    rintro ⟨hx, hneg⟩
    rcases hdom with h | h
    · omega
    · exact h.2 hx
  simp only [Bool.and_eq_true, beq_iff_eq, decide_eq_true_eq, h2, h3, ↓reduceIte]
  congr 3
  unfold absQ
  by_cases hx : x < 0
  · simp only [hx, ↓reduceIte]; ring
  · simp only [hx, ↓reduceIte]

/-! ### 3. `Array.GetValues(unit)` -/

/-- flat containers of any kind and length -/
theorem array_getValues_kind {db : Db} {c u0 : Sym} {q : Quantity} (hq : newSimple db c u0 = .ok q)
    {v : Sym} {x0 y0 : Rat} (h : db.convert c q.unit v x0 = .ok y0) (k : Kind) (xs : List Rat) :
    (Arr.mk q (k.mk xs)).getValues db (some v) = (mapE (db.convert c q.unit v) xs).map k.mk := by
  obtain ⟨ci, u', row, _, _, rfl⟩ := newSimple_ok hq
  rw [getValues_simple db _ _ _ _ (isListOfTuples_kind k xs)]
  exact quantity_convert_kind hq h k xs

/-- one tuple of the list-of-tuples branch -/
theorem convTupleElem_eq {db : Db} {c u0 : Sym} {q : Quantity} (hq : newSimple db c u0 = .ok q)
    (v : Sym) (xs : List Rat) :
    convTupleElem db q v (.tup xs) = (mapE (db.convert c q.unit v) xs).map Elem.tup := by
  simp only [convTupleElem]
  rw [show mapE _ xs = mapE (db.convert c q.unit v) xs from congrArg (mapE · xs) (funext fun x => by
    rw [quantity_convert_num hq, convertScalarValue_eq_convert hq]
    cases db.convert c q.unit v x <;> rfl)]
  cases mapE (db.convert c q.unit v) xs <;> rfl

/-- **tuple-of-tuples / list-of-tuples** (`Array.GetAbstractValue`'s own branch): nested, element by
element, any outer and inner lengths -/
theorem array_getValues_tuples {db : Db} {c u0 : Sym} {q : Quantity} (hq : newSimple db c u0 = .ok q)
    (v : Sym) (outerTuple : Bool) (xs : List Rat) (xss : List (List Rat)) :
    (Arr.mk q (mkTuples outerTuple (xs :: xss))).getValues db (some v)
      = (mapE (mapE (db.convert c q.unit v)) (xs :: xss)).map (mkTuples outerTuple) := by
  by_cases hvu : (v == q.unit) = true
  · rw [beq_iff_eq.mp hvu, funext (mapE_convert_same db c q.unit), mapE_ok_id]
    simp [Arr.getValues, Except.map]
  · have key := mapE_map (convTupleElem_eq hq v) (xs :: xss)
    cases outerTuple with
    | false =>
      simp only [Arr.getValues, hvu, Bool.false_eq_true, ↓reduceIte, mkTuples, isListOfTuples, List.map_cons]
      rw [← List.map_cons, key]
      cases mapE (mapE (db.convert c q.unit v)) (xs :: xss) <;> rfl
    | true =>
      simp only [Arr.getValues, hvu, Bool.false_eq_true, ↓reduceIte, mkTuples, isListOfTuples, List.map_cons]
      rw [← List.map_cons, key]
      cases mapE (mapE (db.convert c q.unit v)) (xs :: xss) <;> rfl

/-! ### 4. `CreateCopy(unit=…, category=…)` in every argument form, `ChangeScalars`: value, category and
quantity type -/

/-- what `ObtainQuantity(v, c)` returns has category `c` and the quantity type of `c` -/
theorem newSimple_category_qtype {db : Db} {c v : Sym} {q' : Quantity} (h : newSimple db c v = .ok q') :
    q'.category = c ∧ ∀ ci, db.catByName c = some ci → q'.qtype = ci.qtype := by
  obtain ⟨ci, u', row, hc, _, rfl⟩ := newSimple_ok h
  exact ⟨rfl, fun ci' hci' => by cases hc.symm.trans hci'; rfl⟩

/-- **`Scalar.CreateCopy(unit=v, category=c2)`**, value omitted: the amount is converted by the
database's float conversion of the object's OWN category / unit to `v` — whatever category is passed —
and the quantity is `ObtainQuantity(v, c2)` -/
theorem scalar_createCopy_unit_category {db : Db} {c u0 : Sym} {q : Quantity}
    (hq : newSimple db c u0 = .ok q) (x : Rat) (v c2 : Sym) :
    (Scalar.mk q x).createCopy db none (some v) (some c2) =
      match db.convert c q.unit v x with
      | .error e => .error e
      | .ok y =>
        match newSimple db c2 v with
        | .error e => .error e
        | .ok q' => .ok ⟨q', y⟩ := by
  simp only [Scalar.createCopy, Scalar.copyValue, scalar_getValue_eq_convert hq, copyQuantity]
  cases db.convert c q.unit v x with
  | error e => rfl
  | ok y => simp only; cases newSimple db c2 v <;> rfl

/-- **passing the object's own category changes nothing**: `CreateCopy(value, unit=v, category=own)`
= `CreateCopy(value, unit=v)`, for every Scalar (simple or derived) that has a category, with the
value given or omitted -/
theorem createCopy_with_own_category_eq_createCopy (db : Db) (s : Scalar) (hc : s.q.category ≠ 0)
    (value : Option Rat) (v : Sym) :
    s.createCopy db value (some v) (some s.q.category) = s.createCopy db value (some v) none := by
  have : (s.q.category != 0) = true := by simpa using hc
  simp only [Scalar.createCopy, copyQuantity, this, ↓reduceIte]

/-- the same for `Array.CreateCopy` / `FixedArray.CreateCopy`, every container kind (flat, list of
tuples, ndarray) and every length -/
theorem array_createCopy_with_own_category_eq_createCopy (db : Db) (a : Arr) (hc : a.q.category ≠ 0)
    (values : Option Val) (v : Sym) :
    a.createCopy db values (some v) (some a.q.category) = a.createCopy db values (some v) none := by
  have : (a.q.category != 0) = true := by simpa using hc
  simp only [Arr.createCopy, copyQuantity, this, ↓reduceIte]

/-- **`Scalar.CreateCopy(unit=v)`** is: convert the value with the database's float conversion,
then build the quantity from `(v, current category)` -/
theorem scalar_createCopy_unit {db : Db} {c u0 : Sym} {q : Quantity} (hq : newSimple db c u0 = .ok q)
    (hc0 : c ≠ 0) (x : Rat) (v : Sym) :
    (Scalar.mk q x).createCopy db none (some v) none =
      match db.convert c q.unit v x with
      | .error e => .error e
      | .ok y =>
        match newSimple db c v with
        | .error e => .error e
        | .ok q' => .ok ⟨q', y⟩ := by
  have hcat : q.category = c := (newSimple_category_qtype hq).1
  rw [← createCopy_with_own_category_eq_createCopy db ⟨q, x⟩ (hcat ▸ hc0), hcat]
  exact scalar_createCopy_unit_category hq x v c

/-- **`CreateCopy(unit=v, category=c2)` to another category**: the copy has the category that was
given and that category's quantity type (the source's, when both categories share it) and carries
the converted amount -/
theorem scalar_createCopy_other_category {db : Db} {c u0 : Sym} {q : Quantity}
    (hq : newSimple db c u0 = .ok q) {x : Rat} {v c2 : Sym} {s' : Scalar}
    (h : (Scalar.mk q x).createCopy db none (some v) (some c2) = .ok s') :
    s'.q.category = c2 ∧ db.convert c q.unit v x = .ok s'.value ∧ newSimple db c2 v = .ok s'.q
      ∧ ∀ ci ci2, db.catByName c = some ci → db.catByName c2 = some ci2 → ci2.qtype = ci.qtype →
          s'.q.qtype = q.qtype := by
  rw [scalar_createCopy_unit_category hq] at h
  split at h
  · cases h
  · rename_i y h1
    split at h
    · cases h
    · rename_i q' h2
      cases h
      obtain ⟨k1, k2⟩ := newSimple_category_qtype h2
      exact ⟨k1, h1, h2, fun ci ci2 hci hci2 hqt => by
        rw [k2 ci2 hci2, hqt, (newSimple_category_qtype hq).2 ci hci]⟩

/-- **the re-expressed Scalar keeps the category and the quantity type of its source** and carries
the converted amount -/
theorem scalar_createCopy_keeps_category_type {db : Db} {c u0 : Sym} {q : Quantity}
    (hq : newSimple db c u0 = .ok q) (hc0 : c ≠ 0) {x : Rat} {v : Sym} {s' : Scalar}
    (h : (Scalar.mk q x).createCopy db none (some v) none = .ok s') :
    s'.q.category = q.category ∧ s'.q.qtype = q.qtype ∧ db.convert c q.unit v x = .ok s'.value
      ∧ newSimple db c v = .ok s'.q := by
  obtain ⟨hcat, hqt⟩ := newSimple_category_qtype hq
  rw [← createCopy_with_own_category_eq_createCopy db ⟨q, x⟩ (hcat ▸ hc0), hcat] at h
  obtain ⟨k1, k2, k3, k4⟩ := scalar_createCopy_other_category hq h
  obtain ⟨ci, _, _, hci, _⟩ := newSimple_ok hq
  exact ⟨k1.trans hcat.symm, k4 ci ci hci hci rfl, k2, k3⟩

/-- **`Array.CreateCopy(unit=v, category=c2)`** for flat containers of every kind and length: the
numbers are the float conversion element by element, the quantity is `ObtainQuantity(v, c2)` -/
theorem array_createCopy_unit_category {db : Db} {c u0 : Sym} {q : Quantity} (hq : newSimple db c u0 = .ok q)
    {v : Sym} {x0 y0 : Rat} (h : db.convert c q.unit v x0 = .ok y0) (c2 : Sym) (k : Kind) (xs : List Rat) :
    (Arr.mk q (k.mk xs)).createCopy db none (some v) (some c2) =
      match mapE (db.convert c q.unit v) xs with
      | .error e => .error e
      | .ok ys =>
        match newSimple db c2 v with
        | .error e => .error e
        | .ok q' => .ok ⟨q', k.mk ys⟩ := by
  simp only [Arr.createCopy, Arr.copyValues, array_getValues_kind hq h, copyQuantity]
  cases mapE (db.convert c q.unit v) xs <;> rfl

/-- **`Array.CreateCopy(unit=v)`** for flat containers of every kind and length -/
theorem array_createCopy_unit {db : Db} {c u0 : Sym} {q : Quantity} (hq : newSimple db c u0 = .ok q)
    (hc0 : c ≠ 0) {v : Sym} {x0 y0 : Rat} (h : db.convert c q.unit v x0 = .ok y0) (k : Kind) (xs : List Rat) :
    (Arr.mk q (k.mk xs)).createCopy db none (some v) none =
      match mapE (db.convert c q.unit v) xs with
      | .error e => .error e
      | .ok ys =>
        match newSimple db c v with
        | .error e => .error e
        | .ok q' => .ok ⟨q', k.mk ys⟩ := by
  have hcat : q.category = c := (newSimple_category_qtype hq).1
  rw [← array_createCopy_with_own_category_eq_createCopy db ⟨q, k.mk xs⟩ (hcat ▸ hc0), hcat]
  exact array_createCopy_unit_category hq h c k xs

/-- **`ChangeScalars(owner, name=(None, v))`** replaces the attribute by `CreateCopy(unit=v)` -/
theorem changeScalars_unit (db : Db) (name : Sym) (s : Scalar) (v : Sym) :
    changeScalars db [(name, s)] [(name, none, some v)] =
      match s.createCopy db none (some v) none with
      | .error e => .error e
      | .ok s' => .ok [(name, s')] := by
  simp only [changeScalars, List.find?, BEq.rfl]
  cases s.createCopy db none (some v) none <;> simp [setAttr]

/-- **list of tuples / tuple of tuples** through `CreateCopy(unit=v, category=c2)`: per coordinate the
float conversion, nesting kept -/
theorem array_createCopy_tuples_category {db : Db} {c u0 : Sym} {q : Quantity} (hq : newSimple db c u0 = .ok q)
    (v c2 : Sym) (outerTuple : Bool) (xs : List Rat) (xss : List (List Rat)) :
    (Arr.mk q (mkTuples outerTuple (xs :: xss))).createCopy db none (some v) (some c2) =
      match mapE (mapE (db.convert c q.unit v)) (xs :: xss) with
      | .error e => .error e
      | .ok yss =>
        match newSimple db c2 v with
        | .error e => .error e
        | .ok q' => .ok ⟨q', mkTuples outerTuple yss⟩ := by
  simp only [Arr.createCopy, Arr.copyValues, array_getValues_tuples hq, copyQuantity]
  cases mapE (mapE (db.convert c q.unit v)) (xs :: xss) <;> rfl

/-- a category without a unit is rejected (`TypeError`), whatever the object holds -/
theorem createCopy_category_without_unit (db : Db) (s : Scalar) (value : Option Rat) (c2 : Sym) :
    s.createCopy db value none (some c2) = .error .type := by
  cases value <;> simp [Scalar.createCopy, Scalar.copyValue, Scalar.getValue, copyQuantity]

theorem array_createCopy_category_without_unit (db : Db) (a : Arr) (values : Option Val) (c2 : Sym) :
    a.createCopy db values none (some c2) = .error .type := by
  cases values <;> simp [Arr.createCopy, Arr.copyValues, Arr.getValues, copyQuantity]

/-! ### 5. `FixedArray.IndexAsScalar`, `FixedArray.ChangingIndex` -/

/-- **`IndexAsScalar(i, quantity)`**: the item at the (Python-normalised) index, converted by the
database's float conversion, with the requested quantity -/
theorem indexAsScalar_eq {db : Db} (hdb : db.AllWF) {c u0 : Sym} {q : Quantity}
    (hq : newSimple db c u0 = .ok q) (q2 : Quantity) {x0 y0 : Rat}
    (h : db.convert c q.unit q2.unit x0 = .ok y0) (k : Kind) (xs : List Rat) (n : Nat) {i : Int} {j : Nat}
    (hi : normIndex xs.length i = .ok j) :
    ∃ x y, xs[j]? = some x ∧ db.convert c q.unit q2.unit x = .ok y
      ∧ (FixedArr.mk n ⟨q, k.mk xs⟩).indexAsScalar db i (some q2) = .ok ⟨q2, y⟩ := by
  obtain ⟨ys, hys, hel⟩ := mapE_convert_ok hdb h xs
  have hlen : ys.length = xs.length := hel.1.symm
  have hj : j < xs.length := normIndex_lt hi
  have hy : ys[j]? = some (ys[j]'(hlen ▸ hj)) := List.getElem?_eq_getElem _
  refine ⟨xs[j], _, List.getElem?_eq_getElem hj, hel.2 j _ _ (List.getElem?_eq_getElem hj) hy, ?_⟩
  simp [FixedArr.indexAsScalar, array_getValues_kind hq h, hys, Except.map, index_kind k (hlen ▸ hi) hy, Elem.asNum]

/-- **`ChangingIndex(i, Scalar)`**: every other item is the old one re-expressed in the Scalar's
unit by the float conversion, item `i` is the Scalar's own value, the length is kept and the result
takes the Scalar's quantity (`use_value_unit=True`) -/
theorem changingIndex_scalar {db : Db} (hdb : db.AllWF) {c u0 : Sym} {q : Quantity}
    (hq : newSimple db c u0 = .ok q) (s : Scalar) {x0 y0 : Rat}
    (h : db.convert c q.unit s.q.unit x0 = .ok y0) (k : Kind) (xs : List Rat) {i : Int} {j : Nat}
    (hi : normIndex xs.length i = .ok j) (hn : 2 ≤ xs.length) :
    ∃ ys, Elementwise (db.convert c q.unit s.q.unit) xs ys
      ∧ (FixedArr.mk xs.length ⟨q, k.mk xs⟩).changingIndex db i (.scalar s) true
          = .ok ⟨xs.length, ⟨s.q, .tuple (setAt (ys.map .num) j (.num s.value))⟩⟩ := by
  obtain ⟨ys, hys, hel⟩ := mapE_convert_ok hdb h xs
  have hlen : ys.length = xs.length := hel.1.symm
  exact ⟨ys, hel, changingIndex_of true (k := k) rfl (by simp [array_getValues_kind hq h, hys, Except.map])
    (by simp [Scalar.getValue, Quantity.convertScalarValue]) (hlen ▸ hi) hlen.symm (hlen ▸ hn)⟩

/-- **`ChangingIndex(i, number)`** keeps the quantity (category, type, unit) of the array -/
theorem changingIndex_number (db : Db) (q : Quantity) (k : Kind) (xs : List Rat) (x : Rat) {i : Int} {j : Nat}
    (hi : normIndex xs.length i = .ok j) (hn : 2 ≤ xs.length) :
    (FixedArr.mk xs.length ⟨q, k.mk xs⟩).changingIndex db i (.number x) true
      = .ok ⟨xs.length, ⟨q, .tuple (setAt (xs.map .num) j (.num x))⟩⟩ :=
  changingIndex_of true (s := ⟨q, x⟩) (k := k) rfl (by simp [Arr.getValues])
    (by simp [Scalar.getValue, Quantity.convertScalarValue]) hi rfl hn

/-- **`ChangingIndex(i, (value, unit, category))`** is `ChangingIndex` with the Scalar
`Scalar(quantity, values[i]).CreateCopy(value, unit, category)` -/
theorem changingIndex_tuple_eq_scalar {db : Db} {fa : FixedArr} {i : Int} {value : Option Rat}
    {unit category : Option Sym} {s : Scalar} (hs : fa.scalarFor db i (.tuple value unit category) = .ok s)
    (useValueUnit : Bool) :
    fa.changingIndex db i (.tuple value unit category) useValueUnit
      = fa.changingIndex db i (.scalar s) useValueUnit := by
  simp only [FixedArr.changingIndex, hs]
  simp [FixedArr.scalarFor]

/-- **`ChangingIndex(i, Scalar, use_value_unit=False)`** keeps the array's quantity and values; item `i`
is the Scalar's amount expressed in the array's unit -/
theorem changingIndex_scalar_keep_unit {db : Db} (q : Quantity) (s : Scalar) {y : Rat}
    (hy : s.getValue db (some q.unit) = .ok y) (k : Kind) (xs : List Rat) {i : Int} {j : Nat}
    (hi : normIndex xs.length i = .ok j) (hn : 2 ≤ xs.length) :
    (FixedArr.mk xs.length ⟨q, k.mk xs⟩).changingIndex db i (.scalar s) false
      = .ok ⟨xs.length, ⟨q, .tuple (setAt (xs.map .num) j (.num y))⟩⟩ :=
  changingIndex_of false (s := s) (k := k) rfl (by simp [Arr.getValues]) hy hi rfl hn

/-- **`IndexAsScalar(i)`** without a quantity: the stored item, with the array's quantity -/
theorem indexAsScalar_own (db : Db) (q : Quantity) (k : Kind) (xs : List Rat) (n : Nat) {i : Int} {j : Nat}
    {x : Rat} (hi : normIndex xs.length i = .ok j) (hx : xs[j]? = some x) :
    (FixedArr.mk n ⟨q, k.mk xs⟩).indexAsScalar db i none = .ok ⟨q, x⟩ := by
  simp [FixedArr.indexAsScalar, Arr.getValues, index_kind k hi hx, Elem.asNum]

/-! ### 6. `UnitSystemManager.ConvertToCurrent / ConvertScalarToCurrent` -/

/-- **`ConvertToCurrent`**: the float conversion to the unit the current system maps the category to;
unchanged when there is no current system or no mapping -/
theorem convertToCurrent_eq (db : Db) (m : List (Sym × Sym)) (c u toU : Sym)
    (hm : systemDefaultUnit m c = some toU) (x : Rat) :
    convertToCurrent db (some m) c u (.num x) =
      match db.convert c u toU x with
      | .error e => .error e
      | .ok y => .ok (.num y, toU) := by
  simp only [convertToCurrent, hm, convertStr_num]
  cases db.convert c u toU x <;> rfl

theorem convertToCurrent_unmapped (db : Db) (cur : Current) (c u : Sym) (val : Val)
    (hm : ∀ m, cur = some m → systemDefaultUnit m c = none) :
    convertToCurrent db cur c u val = .ok (val, u) := by
  cases cur with
  | none => rfl
  | some m => simp [convertToCurrent, hm m rfl]

/-- **`ConvertScalarToCurrent` keeps the category and the quantity type of the scalar** (not the
category named after the quantity type) and carries the converted amount -/
theorem convertScalarToCurrent_keeps_category {db : Db} {c u0 : Sym} {q : Quantity}
    (hq : newSimple db c u0 = .ok q) (hc0 : c ≠ 0) (cur : Current) {x : Rat} {s' : Scalar}
    (h : convertScalarToCurrent db cur ⟨q, x⟩ = .ok s') :
    s'.q.category = q.category ∧ s'.q.qtype = q.qtype
      ∧ (∀ m toU, cur = some m → systemDefaultUnit m c = some toU →
          db.convert c q.unit toU x = .ok s'.value ∧ newSimple db c toU = .ok s'.q ∨ (toU = q.unit ∧ s' = ⟨q, x⟩))
      ∧ ((∀ m, cur = some m → systemDefaultUnit m c = none) → s' = ⟨q, x⟩) := by
  obtain ⟨hcat, hqt⟩ := newSimple_category_qtype hq
  obtain ⟨ci, _, _, hci, _⟩ := newSimple_ok hq
  unfold convertScalarToCurrent at h
  simp only [hcat] at h
  -- the copy made when the unit did not change
  have same : ∀ y, (Scalar.mk q x).createCopy db (some y) none none = .ok ⟨q, y⟩ := fun y => rfl
  by_cases hm : ∃ m toU, cur = some m ∧ systemDefaultUnit m c = some toU
  · obtain ⟨m, toU, rfl, hm⟩ := hm
    have huniq : ∀ m' toU', some m = some m' → systemDefaultUnit m' c = some toU' → toU' = toU := by
      rintro _ _ ⟨rfl⟩ h2; exact Option.some.inj (h2.symm.trans hm)
    rw [convertToCurrent_eq db m c q.unit toU hm] at h
    cases hconv : db.convert c q.unit toU x with
    | error e => rw [hconv] at h; cases h
    | ok y =>
      simp only [hconv, Val.asNum] at h
      split at h
      · rename_i htu
        cases beq_iff_eq.mp htu
        rw [Db.convert_same] at hconv
        cases hconv
        cases (same x).symm.trans h
        exact ⟨rfl, rfl, fun m' toU' h1 h2 => .inr ⟨huniq m' toU' h1 h2, rfl⟩, fun _ => rfl⟩
      · simp only [Scalar.createCopy, Scalar.copyValue, copyQuantity, hcat, bne_iff_ne.mpr hc0, ↓reduceIte] at h
        split at h
        · cases h
        · rename_i q' hnew
          cases h
          obtain ⟨k1, k2⟩ := newSimple_category_qtype hnew
          exact ⟨k1.trans hcat.symm, (k2 ci hci).trans (hqt ci hci).symm,
            fun m' toU' h1 h2 => by cases huniq m' toU' h1 h2; exact .inl ⟨hconv, hnew⟩,
            fun hn => by rw [hn m rfl] at hm; cases hm⟩
  · have hm' : ∀ m, cur = some m → systemDefaultUnit m c = none := fun m h1 => by
      cases h2 : systemDefaultUnit m c with
      | none => rfl
      | some toU => exact absurd ⟨m, toU, h1, h2⟩ hm
    rw [convertToCurrent_unmapped db cur c q.unit _ hm'] at h
    simp only [Val.asNum, BEq.rfl, ↓reduceIte] at h
    cases (same x).symm.trans h
    exact ⟨rfl, rfl, fun m toU h1 h2 => absurd ⟨m, toU, h1, h2⟩ hm, fun _ => rfl⟩

/-! ### 6b. the manager routes in EVERY state of the manager: no history -/

/-- **the answer of `ConvertToCurrent` is a function of (current units mapping, category, unit, value)
and of nothing else**, and the call leaves the manager as it was: whatever was asked before, whatever
path led to the state -/
theorem mgr_convert_step (db : Db) (m : Mgr) (c u : Sym) (val : Val) :
    m.step db (.convert c u val) = (m, convOut (convertToCurrent db (some m.currentMapping) c u val)) := rfl

theorem mgr_convertScalar_step (db : Db) (m : Mgr) (s : Scalar) :
    m.step db (.convertScalar s) = (m, scalarOut (convertScalarToCurrent db (some m.currentMapping) s)) := rfl

/-- **history independence**: two managers that went through ANY two histories and now have the same
current mapping answer every conversion request alike -/
theorem mgr_convert_history_independent (db : Db) (m1 m2 : Mgr) (h1 h2 : List MgrOp)
    (hsame : (Mgr.run db m1 h1).1.currentMapping = (Mgr.run db m2 h2).1.currentMapping)
    (c u : Sym) (val : Val) (s : Scalar) :
    ((Mgr.run db m1 h1).1.step db (.convert c u val)).2 = ((Mgr.run db m2 h2).1.step db (.convert c u val)).2
      ∧ ((Mgr.run db m1 h1).1.step db (.convertScalar s)).2 = ((Mgr.run db m2 h2).1.step db (.convertScalar s)).2 := by
  simp only [mgr_convert_step, mgr_convertScalar_step, hsame, and_self]

/-- a history continues after its first call from the state that call left -/
theorem mgr_run_cons (db : Db) (m : Mgr) (op : MgrOp) (ops : List MgrOp) :
    Mgr.run db m (op :: ops) = ((Mgr.run db (m.step db op).1 ops).1, (m.step db op).2 :: (Mgr.run db (m.step db op).1 ops).2) := rfl

theorem mgr_run_append (db : Db) (m : Mgr) (h1 h2 : List MgrOp) :
    Mgr.run db m (h1 ++ h2) = ((Mgr.run db (Mgr.run db m h1).1 h2).1, (Mgr.run db m h1).2 ++ (Mgr.run db (Mgr.run db m h1).1 h2).2) := by
  induction h1 generalizing m with
  | nil => rfl
  | cons op ops ih => simp only [List.cons_append, mgr_run_cons, ih]

/-- **the conversion at the end of any history** is the float conversion to the unit the state then
current maps the category to, labelled with that unit -/
theorem mgr_convert_after_history (db : Db) (m : Mgr) (h : List MgrOp) (c u toU : Sym) (x : Rat)
    (hm : systemDefaultUnit (Mgr.run db m h).1.currentMapping c = some toU) :
    (Mgr.run db m (h ++ [.convert c u (.num x)])).2 = (Mgr.run db m h).2 ++
      [match db.convert c u toU x with
       | .error e => .error e
       | .ok y => .ok (.conv (.num y) toU)] := by
  rw [mgr_run_append]
  simp only [Mgr.run, mgr_convert_step, convertToCurrent_eq db _ c u toU hm]
  cases db.convert c u toU x <;> rfl

/-- conversions never change the state: a history made of conversion requests only ends where it
started (so asking twice gives the same answer twice) -/
theorem mgr_conversions_keep_state (db : Db) (m : Mgr) (h : List MgrOp)
    (hall : ∀ op ∈ h, (∃ c u val, op = .convert c u val) ∨ ∃ s, op = .convertScalar s) :
    (Mgr.run db m h).1 = m := by
  induction h generalizing m with
  | nil => rfl
  | cons op ops ih =>
    have hop := hall op (List.mem_cons_self ..)
    have hrest : ∀ op' ∈ ops, (∃ c u val, op' = .convert c u val) ∨ ∃ s, op' = .convertScalar s :=
      fun op' hmem => hall op' (List.mem_cons_of_mem _ hmem)
    rcases hop with ⟨c, u, val, rfl⟩ | ⟨s, rfl⟩
    · simp only [mgr_run_cons, mgr_convert_step]; exact ih m hrest
    · simp only [mgr_run_cons, mgr_convertScalar_step]; exact ih m hrest

/-- **convert → `SetDefaultUnit` on the current system → convert**: whatever the history before, the
second answer is the conversion to the NEW unit under the new label (what a memo of the unit
pair kept per (category, unit), not dropped by an in-place edit, would get wrong) -/
theorem mgr_setDefaultUnit_then_convert (db : Db) (m : Mgr) (hwf : m.WF) {c : Sym} (hc : c ≠ 0) (u w : Sym) (x : Rat) :
    (Mgr.run db m [.setDefaultUnit none c w, .convert c u (.num x)]).2 =
      [.ok (.state (dictSet c w m.currentMapping)),
       match db.convert c u w x with
       | .error e => .error e
       | .ok y => .ok (.conv (.num y) w)] := by
  obtain ⟨m', hed, hmap⟩ := Mgr.edit_current hwf (dictSet c w)
  simp only [Mgr.run, Mgr.step, hed, okState, hmap,
    convertToCurrent_eq db _ c u w (systemDefaultUnit_dictSet m.currentMapping w hc)]
  cases db.convert c u w x <;> rfl

/-- … and another category's conversion is not touched by that edit -/
theorem mgr_setDefaultUnit_other_category (db : Db) (m : Mgr) (hwf : m.WF) {c c' : Sym} (hcc : c' ≠ c) (u w : Sym) (val : Val) :
    ((Mgr.run db m [.setDefaultUnit none c w]).1.step db (.convert c' u val)).2 = (m.step db (.convert c' u val)).2 := by
  obtain ⟨m', hed, hmap⟩ := Mgr.edit_current hwf (dictSet c w)
  simp only [Mgr.run, Mgr.step, hed, okState, hmap, convertToCurrent, systemDefaultUnit_dictSet_other _ _ hcc]

/-- **`RemoveCategory` on the current system → convert**: value and unit come back unchanged -/
theorem mgr_removeCategory_then_convert (db : Db) (m : Mgr) (hwf : m.WF) (c u : Sym) (val : Val) :
    (Mgr.run db m [.removeCategory none c, .convert c u val]).2 =
      [.ok (.state (dictDel c m.currentMapping)), .ok (.conv val u)] := by
  obtain ⟨m', hed, hmap⟩ := Mgr.edit_current hwf (dictDel c)
  simp [Mgr.run, Mgr.step, hed, okState, hmap, convertToCurrent, systemDefaultUnit_dictDel, convOut]

/-- the invariant the three theorems above assume holds in every state a manager can reach: after ANY
history of calls on a new manager the current system is one of its systems -/
theorem mgr_reachable_wf (db : Db) (h : List MgrOp) : (Mgr.run db Mgr.new h).1.WF :=
  Mgr.run_wf db (by intro id hc; cases hc) h

/-- **after ANY history**: `SetDefaultUnit(c, w)` on the current system, then `ConvertToCurrent(c, u, x)`
answers `(Convert(c, u, w, x), w)` -/
theorem mgr_any_history_setDefaultUnit_convert (db : Db) (h : List MgrOp) {c : Sym} (hc : c ≠ 0) (u w : Sym) (x : Rat) :
    (Mgr.run db Mgr.new (h ++ [.setDefaultUnit none c w, .convert c u (.num x)])).2 =
      (Mgr.run db Mgr.new h).2 ++
      [.ok (.state (dictSet c w (Mgr.run db Mgr.new h).1.currentMapping)),
       match db.convert c u w x with
       | .error e => .error e
       | .ok y => .ok (.conv (.num y) w)] := by
  rw [mgr_run_append, mgr_setDefaultUnit_then_convert db _ (mgr_reachable_wf db h) hc]

/-! ### 7. an object created from a category default in a non-default unit -/

/-- **`Scalar(category, unit=v)`** carries the physical amount of the category default: its value is
the float conversion of the default value from the default unit to `v`; its category is `c` -/
theorem default_in_unit_physical {db : Db} {c v : Sym} {ci : CatRow} (hci : db.catByName c = some ci)
    {s : Scalar} (h : Scalar.ofCategory db c (some v) = .ok s) :
    ∃ qd, newSimple db c ci.defaultUnit = .ok qd ∧ db.convert c qd.unit v ci.defaultValue = .ok s.value
      ∧ s.q.category = c ∧ s.q.qtype = ci.qtype ∧ newSimple db c v = .ok s.q := by
  simp only [Scalar.ofCategory, hci, defaultValue, catByName_name hci, Option.getD_some] at h
  split at h
  · cases h
  · rename_i y hy
    split at hy
    · cases hy
    · rename_i qd hqd
      rw [convertScalarValue_eq_convert hqd] at hy
      split at h
      · cases h
      · rename_i q' hnew
        cases h
        obtain ⟨k1, k2⟩ := newSimple_category_qtype hnew
        exact ⟨qd, hqd, hy, k1, k2 ci hci, hnew⟩

/-- without a unit the default value itself is stored -/
theorem default_no_unit {db : Db} {c : Sym} {ci : CatRow} (hci : db.catByName c = some ci)
    {s : Scalar} (h : Scalar.ofCategory db c none = .ok s) : s.value = ci.defaultValue := by
  simp only [Scalar.ofCategory, hci, defaultValue] at h
  split at h
  · cases h
  · cases h; rfl

/-! ### 8. the value in the object's own unit is the stored value, simple **and derived** -/

theorem convertScalarValue_own_unit (db : Db) (q : Quantity) (x : Rat) :
    q.convertScalarValue db x q.unit = .ok x := by
  simp [Quantity.convertScalarValue]

theorem scalar_getValue_own_unit (db : Db) (s : Scalar) : s.getValue db (some s.q.unit) = .ok s.value :=
  convertScalarValue_own_unit db s.q s.value

theorem scalar_getValue_no_unit (db : Db) (s : Scalar) : s.getValue db none = .ok s.value := rfl

theorem array_getValues_own_unit (db : Db) (a : Arr) : a.getValues db (some a.q.unit) = .ok a.values := by
  simp [Arr.getValues]

theorem array_getValues_no_unit (db : Db) (a : Arr) : a.getValues db none = .ok a.values := rfl

/-- `CreateCopy()` without arguments keeps quantity and value -/
theorem scalar_createCopy_plain (db : Db) (s : Scalar) : s.createCopy db none none none = .ok s := by
  simp [Scalar.createCopy, Scalar.copyValue, Scalar.getValue, copyQuantity]

/-! ### 9. the shipped databases (tables regenerated from the source on every run) -/

theorem posc_container_routes {cq u v : Sym} {x0 y0 : Rat} (h : poscDb.convert cq u v x0 = .ok y0)
    (k : Kind) (xs : List Rat) :
    ∃ ys, convertAny poscDb (.str cq) (.str u) (.str v) (k.mk xs) = some (.ok (k.mk ys))
      ∧ Elementwise (poscDb.convert cq u v) xs ys :=
  convertAny_kind_elementwise posc_allWF h k xs

theorem nocat_container_routes {cq u v : Sym} {x0 y0 : Rat} (h : nocatDb.convert cq u v x0 = .ok y0)
    (k : Kind) (xs : List Rat) :
    ∃ ys, convertAny nocatDb (.str cq) (.str u) (.str v) (k.mk xs) = some (.ok (k.mk ys))
      ∧ Elementwise (nocatDb.convert cq u v) xs ys :=
  convertAny_kind_elementwise nocat_allWF h k xs

theorem simple_container_routes {cq u v : Sym} {x0 y0 : Rat} (h : simpleDb.convert cq u v x0 = .ok y0)
    (k : Kind) (xs : List Rat) :
    ∃ ys, convertAny simpleDb (.str cq) (.str u) (.str v) (k.mk xs) = some (.ok (k.mk ys))
      ∧ Elementwise (simpleDb.convert cq u v) xs ys :=
  convertAny_kind_elementwise simple_allWF h k xs

/-- `Array.GetValues` on the POSC database: total and element by element -/
theorem posc_array_getValues {c u0 : Sym} {q : Quantity} (hq : newSimple poscDb c u0 = .ok q)
    {v : Sym} {x0 y0 : Rat} (h : poscDb.convert c q.unit v x0 = .ok y0) (k : Kind) (xs : List Rat) :
    ∃ ys, (Arr.mk q (k.mk xs)).getValues poscDb (some v) = .ok (k.mk ys)
      ∧ Elementwise (poscDb.convert c q.unit v) xs ys := by
  obtain ⟨ys, hys, hel⟩ := mapE_convert_ok posc_allWF h xs
  exact ⟨ys, by rw [array_getValues_kind hq h, hys]; rfl, hel⟩

section examples
private abbrev S (s : String) : Sym := Sym.ofString s

end examples

end Barril.Routes
