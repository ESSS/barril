/-
C10 — Array results equal elementwise Scalar results for every container kind.

Model: `Barril/Model/Ops.lean`.  Lemmas: `Barril/Proofs/OpsLemmas.lean` (`array_op_array_ok_iff` is the
characterisation of `Array op Array` by the database operation and `mapE` over the zipped values).

Every statement is for ALL databases `env` (the law `env.Lawful` is assumed only where a plain number or a registry
is involved: `array_num_elementwise` and the `registry_*` theorems), ALL pairs of quantities — simple, derived,
matched or not: Scalar and Array call the same database function, which is why the property holds —
all five operators, all nine container combinations, lists of ANY length and all values.
`d` (`numpyDefers`) is irrelevant here because the left operand is a barril object.
-/
import Barril.Proofs.OpsRegistryLemmas
import Barril.Props.C09

namespace Barril.Ops
open Barril

/-! ### elementwise = Scalar arithmetic (per-element branch and vectorised branch alike) -/

/-- **If `Array op Array` returns, then** the operands have the same length, the result has that
length, its container is `resultKind`, and every element AND the result's quantity are exactly what
the same operator returns on the corresponding Scalars. -/
theorem array_op_elementwise (env : Env) (d : Bool) (op : Op) (q1 q2 : Quantity) (k1 k2 : Kind)
    (xs ys : List Rat) (q : Quantity) (k : Kind) (zs : List Rat)
    (h : binop env d op (.array q1 k1 xs) (.array q2 k2 ys) = .ok (.array q k zs)) :
    xs.length = ys.length ∧ zs.length = xs.length ∧ k = resultKind k1 k2 ∧
    ∀ i (h1 : i < xs.length) (h2 : i < ys.length) (h3 : i < zs.length),
      binop env d op (.scalar q1 xs[i]) (.scalar q2 ys[i]) = .ok (.scalar q zs[i]) := by
  obtain ⟨hlen, q', t1, t2, zs', hf, _, hm, heq⟩ := (array_op_array_ok_iff env d op q1 q2 k1 k2 xs ys _).mp h
  cases heq
  obtain ⟨hl, hall⟩ := (mapE_eq_ok_iff _ _ _).mp hm
  have hzl : zs.length = xs.length := by rw [hl, List.length_zip]; omega
  refine ⟨hlen, hzl, rfl, fun i h1 h2 h3 => ?_⟩
  have := hall i (by rw [List.length_zip]; omega) h3
  rw [List.getElem_zip] at this
  exact (scalar_op_scalar_ok_iff env d op q1 q2 _ _ q zs[i]).mpr ⟨t1, t2, hf, this⟩

/-- **Conversely**: equal lengths, the Scalar operator succeeds with one quantity `q` on every pair of
corresponding elements ⇒ the Array operator succeeds with exactly those elements, that quantity and the
container `resultKind`.  Nothing is dropped, reordered or truncated.  Only for operands WITHOUT values the
Scalar operator must also succeed on `(1.0, 1.0)` (the per-element branch evaluates these dummy amounts only when
there is no value to take the quantity from). -/
theorem array_op_of_scalars (env : Env) (d : Bool) (op : Op) (q1 q2 : Quantity) (k1 k2 : Kind)
    (xs ys : List Rat) (q : Quantity) (zs : List Rat)
    (hlen : xs.length = ys.length) (hz : zs.length = xs.length)
    (hprobe : xs = [] → ∃ z1, binop env d op (.scalar q1 1) (.scalar q2 1) = .ok (.scalar q z1))
    (hall : ∀ i (h1 : i < xs.length) (h2 : i < ys.length) (h3 : i < zs.length),
      binop env d op (.scalar q1 xs[i]) (.scalar q2 ys[i]) = .ok (.scalar q zs[i])) :
    binop env d op (.array q1 k1 xs) (.array q2 k2 ys) = .ok (.array q (resultKind k1 k2) zs) := by
  -- the database operation: from the first pair of values, or from the dummy amounts when there is none
  have hf : ∃ t1 t2, opFunc env op q1 q2 = .ok (q, t1, t2) ∧ (xs = [] → ∃ z, applyOp op t1 t2 1 1 = .ok z) := by
    cases xs with
    | nil =>
      obtain ⟨z1, hp⟩ := hprobe rfl
      obtain ⟨t1, t2, hf, hp1⟩ := (scalar_op_scalar_ok_iff env d op q1 q2 1 1 q z1).mp hp
      exact ⟨t1, t2, hf, fun _ => ⟨z1, hp1⟩⟩
    | cons x xs' =>
      have h0 := hall 0 (by simp) (by simp at hlen; omega) (by simp at hz; omega)
      obtain ⟨t1, t2, hf, _⟩ := (scalar_op_scalar_ok_iff env d op q1 q2 _ _ q _).mp h0
      exact ⟨t1, t2, hf, fun h => by simp at h⟩
  obtain ⟨t1, t2, hf, hp⟩ := hf
  refine (array_op_array_ok_iff env d op q1 q2 k1 k2 xs ys _).mpr
    ⟨hlen, q, t1, t2, zs, hf, fun _ hx => hp hx, ?_, rfl⟩
  refine (mapE_eq_ok_iff _ _ _).mpr ⟨by rw [List.length_zip]; omega, fun i h1 h2 => ?_⟩
  rw [List.length_zip] at h1
  obtain ⟨t1', t2', hf', ha⟩ := (scalar_op_scalar_ok_iff env d op q1 q2 _ _ q _).mp
    (hall i (by omega) (by omega) h2)
  rw [hf] at hf'
  cases hf'
  rw [List.getElem_zip]
  exact ha

/-- the same with a plain number as the second operand (`x op k`, quantities in normal form, see C09):
every element of `Array op k` is `Scalar op k` on the corresponding Scalar, with the same quantity -/
theorem array_num_elementwise {env : Env} (hl : env.Lawful) (d : Bool) (op : Op) {q : Quantity} (hq : Normal env q)
    (kind : Kind) (vs : List Rat) (np : Bool) (k : Rat) (o : Out)
    (h : binop env d op (.array q kind vs) (.num np k) = .ok o) :
    ∃ zs, o = .array q kind zs ∧ zs.length = vs.length ∧
      ∀ i (h1 : i < vs.length) (h2 : i < zs.length),
        binop env d op (.scalar q vs[i]) (.num np k) = .ok (.scalar q zs[i]) := by
  rw [array_op_num hl d op hq] at h
  cases hm : mapE (fun x => vop op x k) vs with
  | error e => simp [hm, Except.map] at h
  | ok zs =>
    simp only [hm, Except.map, Except.ok.injEq] at h
    obtain ⟨hlen, hall⟩ := (mapE_eq_ok_iff _ _ _).mp hm
    refine ⟨zs, h.symm, hlen, fun i h1 h2 => ?_⟩
    rw [scalar_op_num, hall i h1 h2]
    rfl

/-- the quantity and the values of the result do not depend on the container kinds of the operands -/
theorem array_op_kind_independent (env : Env) (d : Bool) (op : Op) (q1 q2 : Quantity)
    (k1 k2 k1' k2' : Kind) (xs ys : List Rat) (o o' : Out)
    (h : binop env d op (.array q1 k1 xs) (.array q2 k2 ys) = .ok o)
    (h' : binop env d op (.array q1 k1' xs) (.array q2 k2' ys) = .ok o') :
    o.quantity? = o'.quantity? ∧ o.values? = o'.values? := by
  obtain ⟨_, q, t1, t2, zs, hf, _, hm, rfl⟩ := (array_op_array_ok_iff env d op q1 q2 k1 k2 xs ys _).mp h
  obtain ⟨_, q', t1', t2', zs', hf', _, hm', rfl⟩ := (array_op_array_ok_iff env d op q1 q2 k1' k2' xs ys _).mp h'
  rw [hf] at hf'
  cases hf'
  rw [hm] at hm'
  cases hm'
  exact ⟨rfl, rfl⟩

/-- neither does success; only for operands WITHOUT values the operation must be defined on `(1.0, 1.0)` (the dummy
amounts of the per-element branch, which the vectorised branch does not evaluate) -/
theorem array_op_kind_independent_success (env : Env) (d : Bool) (op : Op) (q1 q2 : Quantity)
    (k1 k2 k1' k2' : Kind) (xs ys : List Rat) (o : Out)
    (hprobe : xs = [] → ∃ p, binop env d op (.scalar q1 1) (.scalar q2 1) = .ok p)
    (h : binop env d op (.array q1 k1 xs) (.array q2 k2 ys) = .ok o) :
    ∃ o', binop env d op (.array q1 k1' xs) (.array q2 k2' ys) = .ok o' := by
  obtain ⟨hlen, q, t1, t2, zs, hf, _, hm, rfl⟩ := (array_op_array_ok_iff env d op q1 q2 k1 k2 xs ys _).mp h
  refine ⟨_, (array_op_array_ok_iff env d op q1 q2 k1' k2' xs ys _).mpr
    ⟨hlen, q, t1, t2, zs, hf, fun _ hx => ?_, hm, rfl⟩⟩
  obtain ⟨p, hp⟩ := hprobe hx
  obtain ⟨qp, zp, rfl⟩ : ∃ qp zp, p = .scalar qp zp := by
    simp only [binop] at hp
    exact scalarDoOp_quantity hp
  obtain ⟨t1', t2', hf', hp1⟩ := (scalar_op_scalar_ok_iff env d op q1 q2 1 1 qp zp).mp hp
  rw [hf] at hf'
  cases hf'
  exact ⟨zp, hp1⟩

/-! ### different lengths are rejected, never truncated or broadcast -/

theorem array_len_mismatch_error (env : Env) (d : Bool) (op : Op) (q1 q2 : Quantity) (k1 k2 : Kind)
    (xs ys : List Rat) (h : xs.length ≠ ys.length) :
    binop env d op (.array q1 k1 xs) (.array q2 k2 ys) = .error .value := by
  rw [array_op_array]
  simp [h]

/-- two empty Arrays: an empty Array whose quantity is the quantity of the Scalar operation -/
theorem array_op_empty (env : Env) (d : Bool) (op : Op) (q1 q2 : Quantity) (k1 k2 : Kind) :
    (∀ q z, binop env d op (.scalar q1 1) (.scalar q2 1) = .ok (.scalar q z) →
      binop env d op (.array q1 k1 []) (.array q2 k2 []) = .ok (.array q (resultKind k1 k2) [])) ∧
    (∀ o, binop env d op (.array q1 k1 []) (.array q2 k2 []) = .ok o →
      o.values? = some [] ∧
      ∀ x y p, binop env d op (.scalar q1 x) (.scalar q2 y) = .ok p → p.quantity? = o.quantity?) := by
  constructor
  · intro q z hp
    exact array_op_of_scalars env d op q1 q2 k1 k2 [] [] q [] rfl rfl (fun _ => ⟨z, hp⟩) (fun i h1 => by simp at h1)
  · intro o h
    obtain ⟨_, q, t1, t2, zs, hf, _, hm, rfl⟩ := (array_op_array_ok_iff env d op q1 q2 k1 k2 [] [] _).mp h
    simp only [List.zip_nil_right, mapE, Except.ok.injEq] at hm
    subst hm
    refine ⟨rfl, fun x y p hp => ?_⟩
    obtain ⟨qp, zp, rfl⟩ : ∃ qp zp, p = .scalar qp zp := by
      simp only [binop] at hp
      exact scalarDoOp_quantity hp
    obtain ⟨t1', t2', hf', _⟩ := (scalar_op_scalar_ok_iff env d op q1 q2 x y qp zp).mp hp
    rw [hf] at hf'
    cases hf'
    rfl

theorem fromScalars_empty (env : Env) : fromScalars env [] = .ok (.array emptyQ .list []) := rfl

/-- the Array has the category and unit of the first Scalar, one value per Scalar, and position `i`
holds the amount of the `i`-th Scalar expressed in that unit (`Scalar.GetValue(unit)`); positions past
the end raise `IndexError` -/
theorem fromScalars_index (env : Env) (s0 : SimpleScalar) (ss : List SimpleScalar) (o : Out)
    (h : fromScalars env (s0 :: ss) = .ok o) :
    o.quantity? = some [⟨s0.cat, s0.unit, 1⟩] ∧
    (∀ i (hi : i < (s0 :: ss).length), ∃ v, o.index i = .ok v ∧ ((s0 :: ss)[i]).getValue env s0.unit = .ok v) ∧
    (∀ i, (s0 :: ss).length ≤ i → o.index i = .error .index) := by
  simp only [fromScalars] at h
  split at h
  · cases h
  · rename_i vs hm
    split at h
    · cases h
    · cases h
      exact ⟨rfl, index_of_mapE hm _ _⟩

/-- Scalars that already carry the unit of the first one come back unchanged: exactly the original amounts -/
theorem fromScalars_index_same_unit (env : Env) (s0 : SimpleScalar) (ss : List SimpleScalar) (o : Out)
    (h : fromScalars env (s0 :: ss) = .ok o) (i : Nat) (hi : i < (s0 :: ss).length)
    (hu : ((s0 :: ss)[i]).unit = s0.unit) : o.index i = .ok ((s0 :: ss)[i]).v := by
  obtain ⟨v, h1, h2⟩ := (fromScalars_index env s0 ss o h).2.1 i hi
  simp only [SimpleScalar.getValue, hu, beq_self_eq_true, ↓reduceIte, Except.ok.injEq] at h2
  rw [h1, h2]

/-! ### `Array.FromScalars(scalars, unit=…, category=…)`: every argument form, simple, derived and empty quantities -/

/-- no Scalar and no keyword: `CreateEmptyArray()` -/
theorem fromScalarsKw_empty (env : Env) : fromScalarsKw env [] none none = .ok (.array emptyQ .list []) := rfl

/-- no Scalar, only `unit`: an empty Array of the unit's default category (when it has one and the pair is valid) -/
theorem fromScalarsKw_empty_unit (env : Env) (u c u' : Sym)
    (hc : env.defaultCategory u = .ok (some c)) (hq : env.obtainSimple c u = .ok u') :
    fromScalarsKw env [] (some u) none = .ok (.array [⟨c, u', 1⟩] .list []) := by
  simp [fromScalarsKw, fromScalarsNone, newArray, hc, hq]

/-- no Scalar but a `category`: rejected (with and without `unit`), never an Array of a guessed unit -/
theorem fromScalarsKw_empty_category (env : Env) (unit : Option Sym) (c : Sym) :
    fromScalarsKw env [] unit (some c) = .error .assertion := by
  cases unit <;> rfl

/-- **every argument form**: with `u = unit or first.unit`, `c = category or first.category`, a successful
`FromScalars` returns a list Array of the simple quantity `ObtainQuantity(u, c)`, one value per Scalar, and position `i`
holds the amount of the `i`-th Scalar re-expressed in `u` (`Scalar.GetValue(u)`); positions past the end raise
`IndexError`.  Scalars of simple, derived and empty quantities alike. -/
theorem fromScalarsKw_index (env : Env) (s0 : QScalar) (ss : List QScalar) (unit category : Option Sym) (o : Out)
    (h : fromScalarsKw env (s0 :: ss) unit category = .ok o) :
    ∃ u', env.obtainSimple (pyOr category (quantityCategory s0.q)) (pyOr unit (quantityUnit s0.q)) = .ok u' ∧
    o.quantity? = some [⟨pyOr category (quantityCategory s0.q), u', 1⟩] ∧
    (∀ i (hi : i < (s0 :: ss).length), ∃ v, o.index i = .ok v ∧
      ((s0 :: ss)[i]).getValue env (pyOr unit (quantityUnit s0.q)) = .ok v) ∧
    (∀ i, (s0 :: ss).length ≤ i → o.index i = .error .index) := by
  simp only [fromScalarsKw, newArray] at h
  split at h
  · cases h
  · rename_i vs hm
    split at h
    · cases h
    · rename_i u' hc
      cases h
      exact ⟨u', hc, rfl, index_of_mapE hm _ _⟩

/-- a Scalar whose unit string is the Array's unit comes back unchanged: exactly the original amount (this is the
only way a Scalar of a derived quantity is accepted) -/
theorem fromScalarsKw_index_same_unit (env : Env) (s0 : QScalar) (ss : List QScalar) (unit category : Option Sym)
    (o : Out) (h : fromScalarsKw env (s0 :: ss) unit category = .ok o) (i : Nat) (hi : i < (s0 :: ss).length)
    (hu : quantityUnit ((s0 :: ss)[i]).q = pyOr unit (quantityUnit s0.q)) : o.index i = .ok ((s0 :: ss)[i]).v := by
  obtain ⟨_, _, _, hidx, _⟩ := fromScalarsKw_index env s0 ss unit category o h
  obtain ⟨v, h1, h2⟩ := hidx i hi
  simp only [QScalar.getValue, hu, beq_self_eq_true, ↓reduceIte, Except.ok.injEq] at h2
  rw [h1, h2]

/-- without keywords the first Scalar always comes back unchanged, and the Array carries its unit and category -/
theorem fromScalarsKw_first (env : Env) (s0 : QScalar) (ss : List QScalar) (o : Out)
    (h : fromScalarsKw env (s0 :: ss) none none = .ok o) : o.index 0 = .ok s0.v :=
  fromScalarsKw_index_same_unit env s0 ss none none o h 0 (by simp) rfl

/-- Scalars of simple quantities: the amount at position `i` is the conversion of the `i`-th value from its own unit
to the Array's unit within its quantity type -/
theorem fromScalarsKw_index_simple (env : Env) (s0 : QScalar) (ss : List QScalar) (unit category : Option Sym)
    (o : Out) (h : fromScalarsKw env (s0 :: ss) unit category = .ok o) (i : Nat) (hi : i < (s0 :: ss).length)
    (c u : Sym) (hq : ((s0 :: ss)[i]).q = [⟨c, u, 1⟩]) :
    ∃ v, o.index i = .ok v ∧
      (⟨c, u, ((s0 :: ss)[i]).v⟩ : SimpleScalar).getValue env (pyOr unit (quantityUnit s0.q)) = .ok v := by
  obtain ⟨_, _, _, hidx, _⟩ := fromScalarsKw_index env s0 ss unit category o h
  obtain ⟨v, h1, h2⟩ := hidx i hi
  refine ⟨v, h1, ?_⟩
  simpa [QScalar.getValue, SimpleScalar.getValue, hq, quantityUnit] using h2

/-- Scalars of derived quantities are never converted: one whose unit string differs from the Array's unit makes
`FromScalars` fail (several composing units: `ComposedUnitError`; one with an exponent: `ValueError`) -/
theorem fromScalarsKw_derived_other_unit (env : Env) (s0 : QScalar) (ss : List QScalar) (unit category : Option Sym)
    (i : Nat) (hi : i < (s0 :: ss).length) (hd : isSimpleQ ((s0 :: ss)[i]).q = false) (hne : ((s0 :: ss)[i]).q ≠ [])
    (hu : quantityUnit ((s0 :: ss)[i]).q ≠ pyOr unit (quantityUnit s0.q)) :
    ∃ e, fromScalarsKw env (s0 :: ss) unit category = .error e := by
  cases h : fromScalarsKw env (s0 :: ss) unit category with
  | error e => exact ⟨e, rfl⟩
  | ok o =>
    exfalso
    obtain ⟨_, _, _, hidx, _⟩ := fromScalarsKw_index env s0 ss unit category o h
    obtain ⟨v, _, h2⟩ := hidx i hi
    have hb : (quantityUnit ((s0 :: ss)[i]).q == pyOr unit (quantityUnit s0.q)) = false := by simpa using hu
    simp only [QScalar.getValue, hb, Bool.false_eq_true, ↓reduceIte] at h2
    generalize ((s0 :: ss)[i]).q = q at hd hne h2
    match q, hd, hne, h2 with
    | [], _, hne, _ => exact hne rfl
    | [e], hd, _, h2 =>
      simp only [isSimpleQ] at hd
      simp [hd] at h2
    | _ :: _ :: _, _, _, h2 => simp at h2

/-! ### unit conversion of an Array is the conversion of its Scalars -/

/-- `Array.GetValues(u)` keeps the container kind and the length, and position `i` is
`Scalar(vs[i], unit, category).GetValue(u)`.  (`hcq`: converting under the category name and under
its quantity type are the same thing — `ofDb_convert_of_typeOf` for table databases.) -/
theorem getValues_elementwise (env : Env) (cat unit u qt : Sym) (kind kind' : Kind) (vs ws : List Rat)
    (hqt : env.qtype cat = .ok qt) (hcq : ∀ x, env.convert cat unit u x = env.convert qt unit u x)
    (h : arrayGetValues env cat unit kind vs u = .ok (kind', ws)) :
    kind' = kind ∧ ws.length = vs.length ∧
    ∀ i (h1 : i < vs.length) (h2 : i < ws.length),
      (⟨cat, unit, vs[i]⟩ : SimpleScalar).getValue env u = .ok ws[i] := by
  unfold arrayGetValues at h
  split at h
  · rename_i hu
    cases h
    exact ⟨rfl, rfl, fun i h1 h2 => by rw [SimpleScalar.getValue_eq hqt hcq, if_pos hu]⟩
  · rename_i hu
    split at h
    · cases h
    · split at h
      · cases h
      · rename_i ws' hm
        cases h
        obtain ⟨hl, hall⟩ := (mapE_eq_ok_iff _ _ _).mp hm
        exact ⟨rfl, hl, fun i h1 h2 => by rw [SimpleScalar.getValue_eq hqt hcq, if_neg hu]; exact hall i h1 h2⟩

/-- the same for an Array over a list / tuple of tuples (`IsListOfTuples`): the rows keep their number and their
lengths, and element `j` of row `i` is `Scalar(rows[i][j], unit, category).GetValue(u)` -/
theorem getValuesRows_elementwise (env : Env) (cat unit u qt : Sym) (rows out : List (List Rat))
    (hqt : env.qtype cat = .ok qt) (hcq : ∀ x, env.convert cat unit u x = env.convert qt unit u x)
    (h : arrayGetValuesRows env cat unit rows u = .ok out) :
    out.length = rows.length ∧
    ∀ i (h1 : i < rows.length) (h2 : i < out.length), (out[i]).length = (rows[i]).length ∧
      ∀ j (h3 : j < (rows[i]).length) (h4 : j < (out[i]).length),
        (⟨cat, unit, (rows[i])[j]⟩ : SimpleScalar).getValue env u = .ok (out[i])[j] := by
  unfold arrayGetValuesRows at h
  split at h
  · rename_i hu
    cases h
    exact ⟨rfl, fun i h1 h2 => ⟨rfl, fun j h3 h4 => by rw [SimpleScalar.getValue_eq hqt hcq, if_pos hu]⟩⟩
  · rename_i hu
    obtain ⟨hl, hall⟩ := (mapE_eq_ok_iff _ _ _).mp h
    refine ⟨hl, fun i h1 h2 => ?_⟩
    obtain ⟨hl2, hall2⟩ := (mapE_eq_ok_iff _ _ _).mp (hall i h1 h2)
    refine ⟨hl2, fun j h3 h4 => ?_⟩
    have hj := hall2 j h3 h4
    rw [SimpleScalar.getValue_eq hqt hcq, if_neg hu]
    split at hj
    · cases hj
    · exact hj

/-! ### a database on which additional conversion types have been registered

`UnitDatabase.RegisterAdditionalConversionType` is public and its registry is shared by every database of the
process.  Model: `Barril/Model/OpsRegistry.lean` (`Registry.dispatch` = Python's `isinstance` loop at the head of
`UnitDatabase.Convert`; `arrayComputeReg`, `arrayOpArrayReg`, `arrayGetValuesReg` = the Array operations with the
registry as a parameter). -/

/-- **Registering a conversion for a class that is not a base class of the value's class changes nothing**: an entry
for a SUBCLASS of the container's class (an ndarray subclass, a list subclass) or for an unrelated class, put ANYWHERE
into the registry with ANY function, leaves every result of the operations of `Array._DoOperation` as it was (all
operators, quantities, containers, values; `c1`, `c2`: the classes of the two value containers, `numClass`: of their
elements). -/
theorem register_unrelated_invisible (env : Env) (r1 r2 : Registry) (e : RegEntry) (c1 c2 : PyClass) (op : Op)
    (q1 q2 : Quantity) (ra rb : Raw)
    (h1 : c1.isSub e.cls = false) (h2 : c2.isSub e.cls = false) (hn : numClass.isSub e.cls = false) :
    arrayComputeReg env (r1 ++ e :: r2) c1 c2 op q1 q2 ra rb = arrayComputeReg env (r1 ++ r2) c1 c2 op q1 q2 ra rb := by
  simp only [arrayComputeReg, convertReg_skip env r1 r2 e _ h1, convertReg_skip env r1 r2 e _ h2,
    convertReg_skip env r1 r2 e _ hn]

/-- the same for the unit conversion `Array.GetValues(unit)` / `CreateCopy(unit=…)` -/
theorem register_unrelated_invisible_getvalues (env : Env) (r1 r2 : Registry) (e : RegEntry) (c : PyClass)
    (cat unit u : Sym) (kind : Kind) (vs : List Rat) (h : c.isSub e.cls = false) :
    arrayGetValuesReg env (r1 ++ e :: r2) c cat unit kind vs u = arrayGetValuesReg env (r1 ++ r2) c cat unit kind vs u := by
  simp only [arrayGetValuesReg, convertReg_skip env r1 r2 e _ h]

/-- the two-step history: `RegisterAdditionalConversionType(k, fn)` succeeded, THEN the operation runs -/
theorem register_then_operate (env : Env) (reg reg' : Registry) (k : Nat) (fn : ConvFn) (c1 c2 : PyClass) (op : Op)
    (q1 q2 : Quantity) (ra rb : Raw) (hr : reg.register k fn = .ok reg')
    (h1 : c1.isSub k = false) (h2 : c2.isSub k = false) (hn : numClass.isSub k = false) :
    arrayComputeReg env reg' c1 c2 op q1 q2 ra rb = arrayComputeReg env reg c1 c2 op q1 q2 ra rb := by
  unfold Registry.register at hr
  cases hlk : reg.lookup k with
  | none =>
    simp only [hlk, Except.ok.injEq] at hr
    subst hr
    have := register_unrelated_invisible env reg [] ⟨k, fn⟩ c1 c2 op q1 q2 ra rb h1 h2 hn
    simpa using this
  | some g =>
    simp only [hlk] at hr
    split at hr
    · cases hr; rfl
    · cases hr

/-- **With a registry that values of the operands' classes cannot see** (no registered class is a base class, or the
first one that is carries the elementwise number conversion — after import: `numpy.ndarray` ↦ `ConvertNumpyArray`;
whatever has been registered for subclasses and unrelated classes), `Array op Array` IS the operation of the
registry-free model, so every C10 theorem above holds on such a database. -/
theorem registry_invisible_array_op {env : Env} (hl : env.Lawful) (d : Bool) (reg : Registry) (ndc : PyClass) (op : Op)
    (q1 q2 : Quantity) (k1 k2 : Kind) (xs ys : List Rat)
    (h1 : reg.Invisible (kindClass ndc k1)) (h2 : reg.Invisible (kindClass ndc k2)) (hn : reg.Invisible numClass) :
    arrayOpArrayReg env reg ndc op q1 k1 xs q2 k2 ys = binop env d op (.array q1 k1 xs) (.array q2 k2 ys) := by
  rw [array_op_array, arrayOpArrayReg, arrayComputeReg_plain hl h1 h2 hn]

theorem registry_invisible_getvalues {env : Env} (hl : env.Lawful) (reg : Registry) (c : PyClass)
    (cat unit u : Sym) (kind : Kind) (vs : List Rat) (h : reg.Invisible c) :
    arrayGetValuesReg env reg c cat unit kind vs u = arrayGetValues env cat unit kind vs u := by
  rw [arrayGetValuesReg, arrayGetValues, convertReg_plain hl h]
  split
  · rfl
  · cases env.convertLookup cat unit u with
    | error e => rfl
    | ok _ => simp only; cases mapE (env.convert cat unit u) vs <;> rfl

/-- elementwise = Scalar arithmetic on a database with registrations (Scalars never reach the registry) -/
theorem array_op_elementwise_registry {env : Env} (hl : env.Lawful) (d : Bool) (reg : Registry) (ndc : PyClass) (op : Op)
    (q1 q2 : Quantity) (k1 k2 : Kind) (xs ys : List Rat) (q : Quantity) (k : Kind) (zs : List Rat)
    (h1 : reg.Invisible (kindClass ndc k1)) (h2 : reg.Invisible (kindClass ndc k2)) (hn : reg.Invisible numClass)
    (h : arrayOpArrayReg env reg ndc op q1 k1 xs q2 k2 ys = .ok (.array q k zs)) :
    xs.length = ys.length ∧ zs.length = xs.length ∧ k = resultKind k1 k2 ∧
    ∀ i (h1 : i < xs.length) (h2 : i < ys.length) (h3 : i < zs.length),
      binop env d op (.scalar q1 xs[i]) (.scalar q2 ys[i]) = .ok (.scalar q zs[i]) := by
  rw [registry_invisible_array_op hl d reg ndc op q1 q2 k1 k2 xs ys h1 h2 hn] at h
  exact array_op_elementwise env d op q1 q2 k1 k2 xs ys q k zs h

/-- "neither depends on the container kind" on a database with registrations: whatever the registry holds for
subclasses and unrelated classes, list / tuple / ndarray operands give the same quantity and the same values -/
theorem array_op_kind_independent_registry {env : Env} (hl : env.Lawful) (reg : Registry) (ndc : PyClass) (op : Op)
    (q1 q2 : Quantity) (k1 k2 k1' k2' : Kind) (xs ys : List Rat) (o o' : Out)
    (hl' : reg.Invisible listClass) (ht : reg.Invisible tupleClass) (hnd : reg.Invisible ndc) (hn : reg.Invisible numClass)
    (h : arrayOpArrayReg env reg ndc op q1 k1 xs q2 k2 ys = .ok o)
    (h' : arrayOpArrayReg env reg ndc op q1 k1' xs q2 k2' ys = .ok o') :
    o.quantity? = o'.quantity? ∧ o.values? = o'.values? := by
  have hk : ∀ k, reg.Invisible (kindClass ndc k) := fun k => by cases k <;> assumption
  rw [registry_invisible_array_op hl true reg ndc op q1 q2 k1 k2 xs ys (hk _) (hk _) hn] at h
  rw [registry_invisible_array_op hl true reg ndc op q1 q2 k1' k2' xs ys (hk _) (hk _) hn] at h'
  exact array_op_kind_independent env true op q1 q2 k1 k2 k1' k2' xs ys o o' h h'

end Barril.Ops
