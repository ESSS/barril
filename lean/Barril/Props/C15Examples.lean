/- Non-vacuity examples of C15, in a module of their own (tools/split_examples.py): they evaluate
concrete instances and must not be able to stop the theorem module from
building.  Not property theorems: the check builds this module separately and only records the outcome. -/
import Barril.Props.C15

namespace Barril.Reg

variable (lg : List (Sym × Sym))

example : negativeVerdictHistory.all (opClean []) = true := by decide +kernel
example : coutputs [] (CState.fresh Registry.empty) negativeVerdictHistory
    = [.ok (.reg .unit), .ok (.reg .unit), .error .units, .error .units,
       .ok (.reg (.cat ⟨5, 1, none, 2, 0, none, none, false, false, 5⟩)),
       .ok (.ans .unit), .ok (.ans (.quantity 5 3)), .error .units, .error .units] := by decide +kernel
/-- the memo tables really are populated (and then emptied by the registration) -/
example : (crun [] (CState.fresh Registry.empty) (negativeVerdictHistory.take 4)).memo = [((5, 3), false)] := by
  decide +kernel
example : (crun [] (CState.fresh Registry.empty) (negativeVerdictHistory.take 7)).cache.length = 1 := by
  decide +kernel

example : (coutputs [] (CState.fresh Registry.empty) bothOrdersHistory).drop 3
    = [.ok (.ans (.descValue ⟨[(5, 2, 1), (7, 2, 1)], [(1, 2)]⟩ 6)),
       .ok (.ans (.descValue ⟨[(7, 2, 1), (5, 2, 1)], [(1, 2)]⟩ 6)),
       .ok (.ans (.desc ⟨[(7, 2, 1), (5, 2, -1)], [(1, 0)]⟩)),
       .ok (.ans (.desc ⟨[(5, 2, -1), (7, 2, 1)], [(1, 0)]⟩)),
       .ok (.ans (.descValue ⟨[], []⟩ 2))] := by decide +kernel
example : (crun [] (CState.fresh Registry.empty) bothOrdersHistory).dcache.length = 5 := by decide +kernel

/-- the repeated sum answers the same both times (201/100 m.m), the cached first operand still
says cm for its second category -/
example : (coutputs [] (CState.fresh Registry.empty) repeatedSumHistory).drop 4
    = [.ok (.ans (.descValue ⟨[(7, 2, 1), (5, 2, 1)], [(1, 2)]⟩ (201 / 100))),
       .ok (.ans (.descValue ⟨[(7, 2, 1), (5, 2, 1)], [(1, 2)]⟩ (201 / 100))),
       .ok (.ans (.descValue ⟨[(7, 2, 1), (5, 2, 1)], [(1, 2)]⟩ (-95 / 100))),
       .ok (.ans (.desc ⟨[(7, 2, 1), (5, 3, 1)], [(1, 2)]⟩))] := by decide +kernel

/-- the hypotheses of `xwarm_eq_fresh_partial` are met by a history with arithmetic questions, and with a
(toy) meaning of the arithmetic that does look at the registry the outcomes are not trivial -/
example : arithHistory.all (xopClean []) = true := by decide +kernel
example : ((xoutputs [] (fun r _ => r.cats.length) (CState.fresh Registry.empty) arithHistory).map
    (fun o => match o with | .val n => n | .base _ => 100)) = [100, 100, 100, 1, 1, 100, 1] := by decide +kernel
example : (xrun [] (fun r _ => r.cats.length) (CState.fresh Registry.empty) arithHistory).memo = [((5, 3), true)] := by
  decide +kernel

/-- the hypotheses of `ywarm_eq_fresh_partial` / `error_detail_ignores_caches` are met by a history that asks a failing
question twice and once more after a registration (`negativeVerdictHistory`: check(5, 3) with the category 5 not
registered, memoised negatively); with a (toy) failure detail that does look at the registry — the number of
registered categories — the details are present exactly at the failing queries, and the second asking, a memo HIT,
reports what the first one, a memo MISS, reported -/
example : (negativeVerdictHistory.map XOp.base).all (xopClean []) = true := by decide +kernel
example : ((youtputs [] (fun _ _ => ()) (fun r (_ : Query) => r.cats.length) (CState.fresh Registry.empty)
      (negativeVerdictHistory.map XOp.base)).map (·.2))
    = [none, none, some 0, some 0, none, none, none, some 1, some 1] := by decide +kernel
example : ((youtputs [] (fun _ _ => ()) (fun r (_ : Query) => r.cats.length) (CState.fresh Registry.empty)
      [.base (.reg (.addUnitBase (.str 1) 10 (.str 2))), .base (.query (.check 5 2)), .base (.query (.check 5 2)),
       .base (.query (.create 5 2)), .base (.query (.check 5 2))]).map (·.2))
    = [none, some 0, some 0, some 0, some 0] := by decide +kernel
example : (xrun [] (fun _ _ => ()) (CState.fresh Registry.empty)
      [.base (.reg (.addUnitBase (.str 1) 10 (.str 2))), .base (.query (.check 5 2)), .base (.query (.check 5 2))]).memo
    = [((5, 2), false)] := by decide +kernel

end Barril.Reg
