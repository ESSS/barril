/- Non-vacuity examples of C01 (moved out of Props/C01.lean by tools/split_examples.py: they evaluate
concrete instances, many over the regenerated tables, and must not be able to stop the theorem module from
building).  Not property theorems: the check builds this module separately and only records the outcome. -/
import Barril.Props.C01
import Barril.Proofs.ConvLemmas
import Barril.Gen.ThmWfPosc
import Barril.Gen.ThmWfNocat
import Barril.Gen.ThmWfSimple
import Barril.Gen.ThmAnnPosc
import Barril.Gen.ThmAnnNocat
import Barril.Gen.ThmAnnSimple
import Barril.Gen.ThmFlat

namespace Barril
open Barril.Gen

example : poscDb.convert (Sym.ofString "length") (Sym.ofString "ft") (Sym.ofString "m") 1
    = .ok (R 3048 10000) := by rw [Gen.poscDb_flat]; decide +kernel
example : poscDb.convert (Sym.ofString "temperature") (Sym.ofString "degF") (Sym.ofString "degC") 212
    = .ok 100 := by rw [Gen.poscDb_flat]; decide +kernel
example : poscDb.convert (Sym.ofString "pressure") (Sym.ofString "psig") (Sym.ofString "Pa") 0
    = .ok 101325 := by rw [Gen.poscDb_flat]; decide +kernel
example : simpleDb.convert (Sym.ofString "length") (Sym.ofString "km") (Sym.ofString "cm") 2
    = .ok 200000 := by decide +kernel

end Barril
