/-
C15 — queries are pure and caches are semantically invisible.

Model: `Barril/Model/RegCache.lean` — a session `(registry, _category_unit_valid, quantities_cache)`
over the registry state machine of `Barril/Model/Reg.lean`; an accepted registration empties both
memo tables, a rejected one leaves everything as it was.  Helper lemmas (`answer_good`: every query is a good
block), the session invariant `Inv` (well-formed registry, memo tables that agree with it: `SInv`, `DInv`, and
`NoLegacySyms`), `regClean`: `Barril/Proofs/RegCacheLemmas.lean`.

Property theorems, and the histories their counterexample and examples run.  `query_pure` holds without any hypothesis.  The refinement ("the answer in
any reachable state is the answer of a freshly built database") is FALSE at full strength on the
real code — `warm_fresh_counterexample`: when units are registered under legacy spellings
(`lbmolee`, `lbmole`, `lbmol`), `Scalar(1.0, 'lbmolee')` raises on a fresh database and returns a
quantity after `Scalar(1.0, 'lbmole')` — so it is proved in the `_partial` form "for registries
none of whose unit symbols is itself a legacy spelling" (true of every shipped database).
-/
import Barril.Proofs.RegCacheLemmas

namespace Barril.Reg

variable (lg : List (Sym × Sym))

/-! ### queries are pure -/

/-- **no query, in any state, changes the registry** (units, base units, categories with their
valid and default units, limits): lookups, conversions, validity checks, arithmetic and object
construction only ever add entries to the two memo tables -/
theorem query_pure (s : CState) (q : Query) : (answer lg s q).1.reg = s.reg := answer_reg lg s q

/-- … so the registry after any interleaving of queries, failing operations and registrations is
the registry built by the registrations alone -/
theorem registry_after_history (s : CState) (ops : List COp) :
    (crun lg s ops).reg = run lg s.reg (registrations ops) := by
  induction ops generalizing s with
  | nil => rfl
  | cons op ops ih =>
    cases op with
    | query q =>
      simp only [crun, registrations]
      rw [ih]
      simp only [cstep, answer_reg]
    | reg op =>
      simp only [crun, registrations, run]
      rw [ih]
      simp only [cstep]
      cases (step lg s.reg op).2 <;> rfl

/-- object-level `GetValidUnits` leaves the database's list for the category as it was (it must not append the
object's unit to the database's own list) -/
theorem objValidUnits_leaves_database_list (s : CState) (c u c' : Sym) :
    getValidUnits (answer lg s (.objValidUnits c u)).1.reg c' = getValidUnits s.reg c' := by
  rw [query_pure]

/-! ### the cache invariant -/

/-- **every step — query, accepted registration, rejected registration — keeps the invariant**
(after an accepted registration trivially, because both tables are emptied: without fix 94d655e
this is the obligation that fails) -/
theorem cstep_preserves_Inv {s : CState} (h : Inv lg s) {op : COp} (hc : opClean lg op = true) :
    Inv lg (cstep lg s op).1 := by
  obtain ⟨hr, hs⟩ := h
  cases op with
  | query q =>
    obtain ⟨r, i, _⟩ := answer_good lg q s.reg s s rfl rfl
    exact ⟨(show (cstep lg s (.query q)).1.reg = s.reg from r) ▸ hr, i hs⟩
  | reg op =>
    simp only [cstep]
    cases ho : (step lg s.reg op).2 with
    | ok o => exact ⟨step_inv lg hr op, queryInv_fresh lg (step_noLegacy lg hr hs.2.1 hc)⟩
    | error e =>
      have : (step lg s.reg op).1 = s.reg :=
        rejected_id lg hr (show step lg s.reg op = ((step lg s.reg op).1, .error e) by rw [← ho])
      simp only
      rw [this]
      exact ⟨hr, hs⟩

theorem crun_preserves_Inv {s : CState} (h : Inv lg s) (ops : List COp) (hc : ops.all (opClean lg) = true) :
    Inv lg (crun lg s ops) := by
  induction ops generalizing s with
  | nil => exact h
  | cons op ops ih =>
    simp only [List.all_cons, Bool.and_eq_true] at hc
    exact ih (cstep_preserves_Inv lg h hc.1) hc.2

/-! ### refinement: caches are semantically invisible -/

/- full statement (false, see `warm_fresh_counterexample`):
   theorem refinement {s} (h : RegInv s.reg ∧ SInv lg s) (q) : (answer lg s q).2 = spec lg s.reg q -/
/-- **the answer to any query in a state that satisfies the invariant is the answer of a freshly
built database over the same registry** (`spec` = empty memo tables).  Partial: for registries
without units registered under legacy spellings. -/
theorem refinement_partial {s : CState} (h : Inv lg s) (q : Query) : (answer lg s q).2 = spec lg s.reg q :=
  (answer_good lg q s.reg s (CState.fresh s.reg) rfl rfl).2.2 h.2 (queryInv_fresh lg h.2.2.1)

/-- **warm = fresh for every history**: each step of any interleaving of queries, failing
operations and registrations (over symbols that are not legacy spellings) has the outcome it has on
a database freshly built from the registrations made before it -/
theorem warm_eq_fresh_partial {s : CState} (h : Inv lg s) (ops : List COp) (hc : ops.all (opClean lg) = true) :
    coutputs lg s ops = freshOutputs lg s.reg ops := by
  induction ops generalizing s with
  | nil => rfl
  | cons op ops ih =>
    simp only [List.all_cons, Bool.and_eq_true] at hc
    have hi := cstep_preserves_Inv lg h hc.1
    cases op with
    | query q =>
      simp only [coutputs, freshOutputs]
      rw [ih hi hc.2]
      simp only [cstep, refinement_partial lg h q, answer_reg]
    | reg op =>
      simp only [coutputs, freshOutputs]
      rw [ih hi hc.2, (cstep_reg_out lg s op).1, (cstep_reg_out lg s op).2]

theorem warm_eq_fresh_from_empty_partial (ops : List COp) (hc : ops.all (opClean lg) = true) :
    coutputs lg (CState.fresh Registry.empty) ops = freshOutputs lg Registry.empty ops :=
  warm_eq_fresh_partial lg ⟨regInv_empty, queryInv_fresh lg fun u w h => by simp [Registry.empty, ixGet] at h⟩ ops hc

/-- a failed lookup is invisible: whatever was asked (and failed, or not) before, later steps
answer the same -/
theorem earlier_queries_invisible {s : CState} (h : Inv lg s) (q : Query) (later : List COp)
    (hc : later.all (opClean lg) = true) :
    coutputs lg (answer lg s q).1 later = coutputs lg s later := by
  have hi : Inv lg (cstep lg s (.query q)).1 := cstep_preserves_Inv lg h (op := .query q) rfl
  have e : (cstep lg s (.query q)).1 = (answer lg s q).1 := rfl
  rw [e] at hi
  rw [warm_eq_fresh_partial lg hi later hc, warm_eq_fresh_partial lg h later hc, answer_reg]

/-! ### derived quantities: the composition order of a request is never taken from an earlier one -/

/-- **an `ObtainQuantity(OrderedDict)` / `CreateDerived` request is answered as on a freshly built database**,
whatever compositions, in whatever order, were asked for before: the derived part of `quantities_cache` is keyed
by the entries in request order, so it is invisible too (two instances of `refinement_partial`; that the fresh
answer carries the composing map in the order of THIS request is `derived_keeps_request_order`) -/
theorem derived_request_order_independent {s : CState} (h : Inv lg s) (entries : List (Sym × Sym × Int)) :
    (answer lg s (.derived entries)).2 = spec lg s.reg (.derived entries)
    ∧ (answer lg s (.createDerived entries)).2 = spec lg s.reg (.createDerived entries) :=
  ⟨refinement_partial lg h _, refinement_partial lg h _⟩

/-- a derived quantity that is created keeps exactly the composing map it was asked with -/
theorem derived_keeps_request_order (r : Registry) (entries : List (Sym × Sym × Int)) (d : DObj)
    (hns : simpleCase entries = none) (h : spec lg r (.derived entries) = .ok (.desc d)) : d.entries = entries := by
  unfold spec answer obtainDict at h
  simp only [hns, CState.fresh, dcacheGet] at h
  unfold newDerivedChecked at h
  cases hv : validateEntries lg r entries with
  | error e => rw [hv] at h; simp [exMap] at h
  | ok _ =>
    rw [hv] at h
    simp only at h
    unfold newDerived at h
    cases ht : typePairs r entries [] with
    | error e => rw [ht] at h; simp [exMap] at h
    | ok qts =>
      rw [ht] at h
      simp only [exMap, Except.ok.injEq, Ans.desc.injEq] at h
      rw [← h]

/-! ### the counterexample to the unrestricted refinement, and non-vacuity -/

/-- `_LEGACY_TO_CURRENT` restricted to the pair that matters here -/
def lgMole : List (Sym × Sym) := [(Sym.ofString "lbmole", Sym.ofString "lbmol")]

/-- a database with units registered under the spellings `lbmol` (default category `depth`),
`lbmole` and `lbmolee`, then `Scalar(1.0, 'lbmole')` -/
def legacyNamedHistory : List COp :=
  [.reg (.addUnitBase (.str 1) 2 (.str 3)),
   .reg (.addUnit (.str 1) 2 (.str (Sym.ofString "lbmol")) (.mob ⟨0, 3, 1, 0⟩) (.mob ⟨0, 1, 3, 0⟩) (Sym.ofString "depth")),
   .reg (.addUnit (.str 1) 2 (.str (Sym.ofString "lbmole")) (.mob ⟨0, 2, 1, 0⟩) (.mob ⟨0, 1, 2, 0⟩) 0),
   .reg (.addUnit (.str 1) 2 (.str (Sym.ofString "lbmolee")) (.mob ⟨0, 4, 1, 0⟩) (.mob ⟨0, 1, 4, 0⟩) 0),
   .reg (.addCategory ⟨.str (Sym.ofString "depth"), some 1, none, false, none, none, none, none, false, false, 0, none⟩),
   .query (.createU (Sym.ofString "lbmole"))]

/-- **the unrestricted refinement is false** (the model reproduces the real code here): after
`Scalar(1.0, 'lbmole')` the query `Scalar(1.0, 'lbmolee')` returns the quantity `(depth, lbmol)`,
on a freshly built database it raises `TypeError` -/
theorem warm_fresh_counterexample :
    (answer lgMole (crun lgMole (CState.fresh Registry.empty) legacyNamedHistory) (.createU (Sym.ofString "lbmolee"))).2
      = .ok (.quantity (Sym.ofString "depth") (Sym.ofString "lbmol"))
    ∧ spec lgMole (crun lgMole (CState.fresh Registry.empty) legacyNamedHistory).reg (.createU (Sym.ofString "lbmolee"))
      = .error .type := by
  constructor <;> decide +kernel

/-- a failing lookup, then the registration that makes it valid, then the same lookup: the memoised negative
verdict must not survive the registration (symbols 1 = length, 2 = m, 3 = cm, 5 = depth) -/
def negativeVerdictHistory : List COp :=
  [.reg (.addUnitBase (.str 1) 10 (.str 2)),
   .reg (.addUnit (.str 1) 11 (.str 3) (.mob ⟨0, 100, 1, 0⟩) (.mob ⟨0, 1, 100, 0⟩) 0),
   .query (.check 5 3),
   .query (.create 5 3),
   .reg (.addCategory ⟨.str 5, some 1, none, false, none, none, none, none, false, false, 0, none⟩),
   .query (.check 5 3),
   .query (.create 5 3),
   .query (.objValidUnits 5 3),
   .query (.validUnits 5)]

/-- the same composition in both orders inside one history (1 = length, 2 = m, 5 = depth,
7 = second category of the same type): each product reports its own order -/
def bothOrdersHistory : List COp :=
  [.reg (.addUnitBase (.str 1) 10 (.str 2)),
   .reg (.addCategory ⟨.str 5, some 1, none, false, none, none, none, none, false, false, 0, none⟩),
   .reg (.addCategory ⟨.str 7, some 1, none, false, none, none, none, none, false, false, 0, none⟩),
   .query (.prod .mul 5 2 7 2 2 3),
   .query (.prod .mul 7 2 5 2 3 2),
   .query (.derived [(7, 2, 1), (5, 2, -1)]),
   .query (.derived [(5, 2, -1), (7, 2, 1)]),
   .query (.prod .div 5 2 7 2 6 3)]

/-- a sum whose first operand is a derived quantity with two categories of one quantity type in
different units (1 = length, 2 = m, 3 = cm = m/100, 5 and 7 categories of length), asked twice,
then the subtraction: `1 [m.cm] + 2 [m.m]`, the same again, `5 [m.cm] - 1 [m.m]` -/
def repeatedSumHistory : List COp :=
  [.reg (.addUnitBase (.str 1) 10 (.str 2)),
   .reg (.addUnit (.str 1) 11 (.str 3) (.mob ⟨0, 100, 1, 0⟩) (.mob ⟨0, 1, 100, 0⟩) 0),
   .reg (.addCategory ⟨.str 5, some 1, none, false, none, none, none, none, false, false, 0, none⟩),
   .reg (.addCategory ⟨.str 7, some 1, none, false, none, none, none, none, false, false, 0, none⟩),
   .query (.sumd .add [(7, 2, 1), (5, 3, 1)] [(7, 2, 1), (5, 2, 1)] 1 2),
   .query (.sumd .add [(7, 2, 1), (5, 3, 1)] [(7, 2, 1), (5, 2, 1)] 1 2),
   .query (.sumd .sub [(7, 2, 1), (5, 3, 1)] [(7, 2, 1), (5, 2, 1)] 5 1),
   .query (.derived [(7, 2, 1), (5, 3, 1)])]

/-! ### value-bearing arithmetic on derived operands: an uninterpreted function of (registry, expression) -/

/-- **an arithmetic question is answered from the registry alone**: for EVERY function `ar` giving the
meaning of expressions over a registry, two sessions over the same registry — whatever their memo
tables hold — give the same answer, and the step leaves the registry as it was -/
theorem arith_answer_ignores_caches {α : Type} (ar : Registry → VExpr → α) (s s' : CState) (h : s.reg = s'.reg)
    (e : VExpr) :
    (xstep lg ar s (.arith e)).2 = (xstep lg ar s' (.arith e)).2 ∧ (xstep lg ar s (.arith e)).1.reg = s.reg := by
  simp only [xstep, h, and_self]

/-- every step of a session with arithmetic questions keeps the session invariant -/
theorem xstep_preserves_Inv {α : Type} (ar : Registry → VExpr → α) {s : CState} (h : Inv lg s) {op : XOp}
    (hc : xopClean lg op = true) : Inv lg (xstep lg ar s op).1 := by
  cases op with
  | base op => exact cstep_preserves_Inv lg h (op := op) hc
  | arith e => exact h

/-- **warm = fresh for every history with arithmetic questions, for every meaning `ar` of the
arithmetic**: each step of any interleaving of registrations, queries, failing operations and
value-bearing expressions (products, quotients, sums of derived operands, asked repeatedly and in any
order) has the outcome it has on a database freshly built from the registrations made before it.
(The correspondence check evaluates `ar` on the real code: a new database, the same registrations.) -/
theorem xwarm_eq_fresh_partial {α : Type} (ar : Registry → VExpr → α) {s : CState} (h : Inv lg s) (ops : List XOp)
    (hc : ops.all (xopClean lg) = true) :
    xoutputs lg ar s ops = xfreshOutputs lg ar s.reg ops := by
  induction ops generalizing s with
  | nil => rfl
  | cons op ops ih =>
    simp only [List.all_cons, Bool.and_eq_true] at hc
    have hi := xstep_preserves_Inv lg ar h hc.1
    cases op with
    | arith e =>
      simp only [xoutputs, xfreshOutputs]
      rw [ih hi hc.2]
      simp only [xstep]
    | base op =>
      cases op with
      | query q =>
        simp only [xoutputs, xfreshOutputs]
        rw [ih hi hc.2]
        simp only [xstep, cstep, refinement_partial lg h q, answer_reg]
      | reg op =>
        simp only [xoutputs, xfreshOutputs]
        rw [ih hi hc.2]
        simp only [xstep, (cstep_reg_out lg s op).1, (cstep_reg_out lg s op).2]

/-! ### several private databases alive at the same time -/

/-- **every database answers as if it were alone, and as a fresh one**: in any interleaving of
histories addressed to a family of private databases, the outcomes of the steps addressed to
database `i` are those of a database freshly built from the registrations addressed to `i` — what
was asked of, or registered in, the other databases is invisible (for every meaning `ar` of the
arithmetic) -/
theorem warm_eq_fresh_many_partial {α : Type} (ar : Registry → VExpr → α) (s : Nat → CState) (i : Nat)
    (h : Inv lg (s i)) (ops : List (Nat × XOp)) (hc : (partOf i ops).all (xopClean lg) = true) :
    partOf i (outputsN (xstep lg ar) s ops) = xfreshOutputs lg ar (s i).reg (partOf i ops) := by
  rw [outputsN_part, fouts_xstep, xwarm_eq_fresh_partial lg ar h _ hc]

/-! ### WHICH exception a failing query raises: an uninterpreted function of (registry, query) -/

/-- **the exception a failing query raises is decided by the registry alone**: for EVERY function `ed`
giving the detail of a failure (the exception class) over a registry, a query asked in any state that
satisfies the invariant — whatever its memo tables hold: the same failing question asked before, once or
many times, other questions in between — fails exactly when it fails on a freshly built database over the
same registry, and with the same detail; the step leaves the registry as it was -/
theorem error_detail_ignores_caches {α δ : Type} (ar : Registry → VExpr → α) (ed : Registry → Query → δ)
    {s : CState} (h : Inv lg s) (q : Query) :
    (ystep lg ar ed s (.base (.query q))).2 = (ystep lg ar ed (CState.fresh s.reg) (.base (.query q))).2
    ∧ (ystep lg ar ed s (.base (.query q))).1.reg = s.reg := by
  have hf : (answer lg (CState.fresh s.reg) q).2 = spec lg s.reg q := rfl
  refine ⟨?_, by simp only [ystep, xstep, cstep, answer_reg]⟩
  simp only [ystep, xstep, cstep, detailOf, refinement_partial lg h q, hf]
  rfl

/-- … so two sessions over the same registry report the same failure, with the same detail, to the same
question — a memo hit and a memo miss cannot be told apart -/
theorem error_detail_same_registry {α δ : Type} (ar : Registry → VExpr → α) (ed : Registry → Query → δ)
    {s s' : CState} (h : Inv lg s) (h' : Inv lg s') (hr : s.reg = s'.reg) (q : Query) :
    (ystep lg ar ed s (.base (.query q))).2 = (ystep lg ar ed s' (.base (.query q))).2 := by
  rw [(error_detail_ignores_caches lg ar ed h q).1, (error_detail_ignores_caches lg ar ed h' q).1, hr]

/-- **warm = fresh for every history, failure details included, for every meaning of `ar` and `ed`**:
each step of any interleaving of registrations, queries (asked repeatedly, failing or not) and arithmetic
questions has the outcome — and, when it is a failing query, the failure detail — it has on a database
freshly built from the registrations made before it -/
theorem ywarm_eq_fresh_partial {α δ : Type} (ar : Registry → VExpr → α) (ed : Registry → Query → δ) {s : CState}
    (h : Inv lg s) (ops : List XOp) (hc : ops.all (xopClean lg) = true) :
    youtputs lg ar ed s ops = yfreshOutputs lg ar ed s.reg ops := by
  induction ops generalizing s with
  | nil => rfl
  | cons op ops ih =>
    simp only [List.all_cons, Bool.and_eq_true] at hc
    have hi := xstep_preserves_Inv lg ar h hc.1
    simp only [youtputs, yfreshOutputs]
    have e1 : (ystep lg ar ed s op).1 = (xstep lg ar s op).1 := rfl
    rw [e1, ih hi hc.2, xstep_reg_fresh]
    congr 1
    cases op with
    | arith e => rfl
    | base op =>
      cases op with
      | query q => exact (error_detail_ignores_caches lg ar ed h q).1
      | reg op =>
        simp only [ystep, xstep, detailOf, (cstep_reg_out lg s op).1, (cstep_reg_out lg (CState.fresh s.reg) op).1]
        rfl

/-- … and in a family of private databases alive at the same time: the outcomes and failure details of
the steps addressed to database `i` are those of a database freshly built from the registrations
addressed to `i` -/
theorem ywarm_eq_fresh_many_partial {α δ : Type} (ar : Registry → VExpr → α) (ed : Registry → Query → δ)
    (s : Nat → CState) (i : Nat) (h : Inv lg (s i)) (ops : List (Nat × XOp))
    (hc : (partOf i ops).all (xopClean lg) = true) :
    partOf i (outputsN (ystep lg ar ed) s ops) = yfreshOutputs lg ar ed (s i).reg (partOf i ops) := by
  rw [outputsN_part, fouts_ystep, ywarm_eq_fresh_partial lg ar ed h _ hc]

/-- a history with three arithmetic questions (1 = length, 2 = m, 3 = cm, 5 = category): `2 m * (3 cm)^2`,
`2 m * (3 cm)^3`, then the first again -/
def arithHistory : List XOp :=
  [.base (.reg (.addUnitBase (.str 1) 10 (.str 2))),
   .base (.reg (.addUnit (.str 1) 11 (.str 3) (.mob ⟨0, 100, 1, 0⟩) (.mob ⟨0, 1, 100, 0⟩) 0)),
   .base (.reg (.addCategory ⟨.str 5, some 1, none, false, none, none, none, none, false, false, 0, none⟩)),
   .arith (.bin .mul (.scalar 5 2 2) (.bin .mul (.scalar 5 3 3) (.scalar 5 3 3))),
   .arith (.bin .mul (.scalar 5 2 2) (.bin .mul (.scalar 5 3 3) (.bin .mul (.scalar 5 3 3) (.scalar 5 3 3)))),
   .base (.query (.check 5 3)),
   .arith (.bin .mul (.scalar 5 2 2) (.bin .mul (.scalar 5 3 3) (.scalar 5 3 3)))]

end Barril.Reg
