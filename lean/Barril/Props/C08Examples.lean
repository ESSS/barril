/- Non-vacuity examples of C08 (moved out of Props/C08.lean by tools/split_examples.py: they evaluate
concrete instances, many over the regenerated tables, and must not be able to stop the theorem module from
building).  Not property theorems: the check builds this module separately and only records the outcome. -/
import Barril.Props.C08
import Barril.Gen.ThmFlat

namespace Barril
open Barril.Gen

section examples
open Barril.Gen

private def sq (c u : String) : Except ErrKind SimpleQ := poscDb.simpleQuantity (Sym.ofString c) (Sym.ofString u)

/-- quantities are built (so `Built` is inhabited), affine and gauge units included -/
example : (sq "length" "m").toBool ∧ (sq "length" "cm").toBool ∧ (sq "temperature" "degC").toBool
    ∧ (sq "temperature" "K").toBool ∧ (sq "pressure" "psig").toBool ∧ (sq "depth" "ft").toBool := by
  unfold sq; rw [poscDb_flat]; decide +kernel

/-- 1 m against 100 cm, both directions: no `>`, both `<=` (the defect the property text quotes) -/
example : (match sq "length" "m", sq "length" "cm" with
    | .ok qm, .ok qc =>
      some ((Sc.mk 1 qm).order poscDb .gt ⟨100, qc⟩, (Sc.mk 100 qc).order poscDb .gt ⟨1, qm⟩,
            (Sc.mk 1 qm).order poscDb .le ⟨100, qc⟩, (Sc.mk 100 qc).order poscDb .le ⟨1, qm⟩)
    | _, _ => none) = some (.ok false, .ok false, .ok true, .ok true) := by decide +kernel

/-- an affine pair: 0 degC < 274 K, and 0 degC >= 273.15 K -/
example : (match sq "temperature" "degC", sq "temperature" "K" with
    | .ok qc, .ok qk =>
      some ((Sc.mk 0 qc).order poscDb .lt ⟨274, qk⟩, (Sc.mk 0 qc).order poscDb .ge ⟨R 27315 100, qk⟩)
    | _, _ => none) = some (.ok true, .ok true) := by decide +kernel

/-- different quantity types: TypeError -/
example : (match sq "length" "m", sq "time" "s" with
    | .ok qm, .ok qs => some ((Sc.mk 1 qm).order poscDb .lt ⟨1, qs⟩)
    | _, _ => none) = some (.error .type) := by decide +kernel

/-- a FractionScalar pair whose numerator is kept: 1 1/2 m against 150 cm is a tie -/
example : (match sq "length" "m", sq "length" "cm" with
    | .ok qm, .ok qc =>
      some ((FSc.mk ⟨1, 1 / 2⟩ qm).order poscDb (1 / 100000000) .le ⟨⟨150, 0⟩, qc⟩,
            (FSc.mk ⟨150, 0⟩ qc).order poscDb (1 / 100000000) .le ⟨⟨1, 1 / 2⟩, qm⟩,
            (FSc.mk ⟨1, 1 / 2⟩ qm).order poscDb (1 / 100000000) .lt ⟨⟨150, 0⟩, qc⟩)
    | _, _ => none) = some (.ok true, .ok true, .ok false) := by decide +kernel

private def qM : Qty := ⟨[⟨Sym.ofString "length", Sym.ofString "m", 1, false⟩], 0, Sym.ofString "m"⟩
private def qMtuple : Qty := ⟨[⟨Sym.ofString "length", Sym.ofString "m", 1, true⟩], 0, Sym.ofString "m"⟩

/-- FixedArray against Array with equal content: `False` both ways (reflected method first one way) -/
example : pyEq 0 (.arr ⟨[1, 2], .list, qM, some 2⟩) (.arr ⟨[1, 2], .tuple, qM, none⟩) false = .ok false
    ∧ pyEq 0 (.arr ⟨[1, 2], .tuple, qM, none⟩) (.arr ⟨[1, 2], .list, qM, some 2⟩) false = .ok false
    ∧ pyEq 0 (.arr ⟨[1, 2], .tuple, qM, none⟩) (.arr ⟨[1, 2], .ndarray, qM, none⟩) false = .ok true := by
  decide +kernel

/-- the guards are what keeps `==` from raising: the unguarded attribute reads do fail -/
example : Obj.dimension (.arr ⟨[1, 2], .tuple, qM, none⟩) = .error .other
    ∧ fractionOldCmp 0 (1 / 2) .none = .error .other := by decide +kernel

/-- `Fraction(1, 2) == None` is False, `Fraction(1, 2) == 0.5` and `0.5 == Fraction(1, 2)` are True -/
example : pyEq (1 / 100000000) (.fraction (1 / 2)) .none false = .ok false
    ∧ pyEq (1 / 100000000) (.fraction (1 / 2)) (.num (1 / 2)) false = .ok true
    ∧ pyEq (1 / 100000000) (.num (1 / 2)) (.fraction (1 / 2)) false = .ok true := by decide +kernel

/-- equal Scalars (int 1 and float 1.0) hash alike; list- and tuple-valued quantities are unequal
yet hash alike; containers are unhashable -/
example : pyEq 0 (.scalar 1 qM) (.scalar 1 qM) false = .ok true
    ∧ pyHash (.scalar 1 qM) = .ok (.scalar 1 [(Sym.ofString "length", Sym.ofString "m", 1)] 0)
    ∧ pyEq 0 (.quantity qM) (.quantity qMtuple) false = .ok false
    ∧ pyHash (.quantity qM) = pyHash (.quantity qMtuple)
    ∧ pyHash (.arr ⟨[1, 2], .tuple, qM, none⟩) = .error .type
    ∧ pyHash (.list [1]) = .error .type := by decide +kernel

/-- the quantity type `Unknown` and the empty quantity in the cross-type guard: `1.5 m < 2.5 <unknown>`
raises `TypeError` for a FractionScalar, a Scalar and a mixed pair, both operand orders (although
`GetInfo(…, fix_unknown=True)` would convert `<unknown>` to `m` as the identity); two `<unknown>` operands
compare their numbers; a Scalar against the empty quantity raises -/
example : (match sq "length" "m", sq "Unknown" "<unknown>" with
    | .ok qm, .ok qu =>
      some (Operand.order poscDb 0 .lt (.fsc ⟨3 / 2, 0⟩ (.simple qm)) (.fsc ⟨5 / 2, 0⟩ (.simple qu)),
            Operand.order poscDb 0 .lt (.fsc ⟨5 / 2, 0⟩ (.simple qu)) (.fsc ⟨3 / 2, 0⟩ (.simple qm)),
            Operand.order poscDb 0 .ge (.sc (3 / 2) (.simple qm)) (.fsc ⟨5 / 2, 0⟩ (.simple qu)),
            Operand.order poscDb 0 .lt (.sc (3 / 2) (.simple qu)) (.fsc ⟨2, 1 / 2⟩ (.simple qu)))
    | _, _ => none)
    = some (.error .type, .error .type, .error .type, .ok true) := by
  decide +kernel

example : (match sq "length" "m" with
    | .ok qm =>
      some (Operand.order poscDb 0 .le (.sc 1 (.simple qm)) (.sc 1 .empty),
            Operand.order poscDb 0 .le (.sc 1 .empty) (.sc 2 .empty),
            Operand.order poscDb 0 .le (.sc 1 .empty) (.fsc ⟨2, 0⟩ .empty))
    | _ => none) = some (.error .type, .ok true, .error .type) := by decide +kernel

/-- what the guard prevents: the conversion of `2.5 <unknown>` to `m` succeeds as the identity -/
example : (match sq "length" "m", sq "Unknown" "<unknown>" with
    | .ok qm, .ok qu => some (Operand.valueIn poscDb 0 (.sc (5 / 2) (.simple qu)) qm.unit)
    | _, _ => none) = some (.ok (5 / 2)) := by decide +kernel

/-! ### pooled objects and histories (the hypotheses of the `stir_*` / `stirred_*` theorems are met) -/

private def qMCm : Qty :=
  ⟨[⟨Sym.ofString "length", Sym.ofString "m", 1, false⟩, ⟨Sym.ofString "depth", Sym.ofString "cm", 1, false⟩], 0,
    Sym.ofString "m.cm"⟩
private def qMM : Qty :=
  ⟨[⟨Sym.ofString "length", Sym.ofString "m", 1, false⟩, ⟨Sym.ofString "depth", Sym.ofString "m", 1, false⟩], 0,
    Sym.ofString "m2"⟩

/-- the quantity `m.cm` (a quantity type twice, two units), two Scalars on it (one Quantity object: one `qid`),
the look-alike `m2` and a Scalar on it, an Array, `None` -/
private def pool1 : List PObj :=
  [⟨.quantity qMCm, 0, 1⟩, ⟨.scalar 2 qMCm, 1, 1⟩, ⟨.scalar 2 qMCm, 2, 1⟩, ⟨.quantity qMM, 3, 2⟩, ⟨.scalar 2 qMM, 4, 2⟩,
   ⟨.arr ⟨[1, 2], .list, qMCm, none⟩, 5, 1⟩, ⟨.none, 6, 0⟩]

/-- the Scalar is hashed first (memoising `_hash` of the shared Quantity object), then it is the left operand of
sums and products, compared, converted -/
private def hist1 : List StirOp :=
  [.hash 1, .hash 5, .arith 1 4, .arith 4 1, .arith 0 3, .cmp 1 4, .read 1, .hash 0, .hash 4, .arith 2 1]

example : poolWF pool1 = true := by decide +kernel

/-- the history did memoise: two Quantity objects have their `_hash` set, through a Scalar and directly -/
example : ((Session.fresh pool1).run hist1).memo.length = 2 := by decide +kernel

/-- after the history: 2 m.cm == 2 m.cm (another object, equal hashes through the memo), 2 m.cm != 2 m2, the
quantity m.cm != the quantity m2, an Array is unhashable, an index outside the pool is an error -/
example :
    let s := (Session.fresh pool1).run hist1
    s.eq 0 1 2 = .ok true ∧ (s.hash 1).1 = (s.hash 2).1 ∧ (s.hash 1).1 = pyHash (.scalar 2 qMCm)
    ∧ s.eq 0 1 4 = .ok false ∧ s.ne 0 1 4 = .ok true ∧ s.eq 0 0 3 = .ok false
    ∧ (s.hash 5).1 = .error .type ∧ s.eq 0 6 6 = .ok true ∧ s.eq 0 1 7 = .error .index := by decide +kernel

/-- what the hypothesis `poolWF` excludes: one Quantity object (`qid` 1) with two contents, which is what a
composing map rewritten in place after `_hash` was taken amounts to.  There the memoised hash of the first
holder is served to the second, whose own key differs: `stir_invisible_hash` needs the hypothesis. -/
example :
    let bad : List PObj := [⟨.scalar 2 qMCm, 0, 1⟩, ⟨.scalar 2 qMM, 1, 1⟩]
    poolWF bad = false
    ∧ (((Session.fresh bad).run [.hash 0]).hash 1).1 = pyHash (.scalar 2 qMCm)
    ∧ (((Session.fresh bad).run [.hash 0]).hash 1).1 ≠ (Session.fresh bad).pureHash 1 := by decide +kernel

/-- `AbstractValueWithQuantityObject.__hash__(o)` raises NotImplementedError when called explicitly, while
`hash(o)` of an Array is the TypeError of an unhashable class and a Scalar hashes -/
example : absBaseHash (.arr ⟨[1, 2], .list, qMCm, none⟩) = .error .readonly
    ∧ pyHash (.arr ⟨[1, 2], .list, qMCm, none⟩) = .error .type
    ∧ (pyHash (.scalar 2 qMCm)).toBool = true := by decide +kernel

end examples


/-! ### witnesses over the shipped table (machine-checked on the tree they were written for; a changed table
value can change them without touching a property theorem, hence here and not in the theorem module) -/

/-- order after a history: a = 3 5/8 in (9.2075 cm), b = 8 3/4 cm; after `float(b.value)`, `a > b`, a copy of `b`,
`str(a)` and `b.GetValue('in')`: `a > b` is true, `b > a` and `copy(b) > a` are false, `a <= b` is false, `b <= a` true
(`i`, `j` below the pool length: the hypotheses of `stir_invisible_order` are met) -/
example : (match poscDb.simpleQuantity (Sym.ofString "length") (Sym.ofString "in"),
           poscDb.simpleQuantity (Sym.ofString "length") (Sym.ofString "cm") with
     | .ok qa, .ok qb =>
       let a : FSc := ⟨⟨3, R 5 8⟩, qa⟩
       let b : FSc := ⟨⟨8, R 3 4⟩, qb⟩
       let small : Rat := 1 / 100000000
       let s := (OSession.mk [a.toOperand, b.toOperand]).run
         [.float 1, .order .gt 0 1, .copy 1, .show 0, .getValue 1 (Sym.ofString "in")]
       some (s.pool.length == 3, [s.order poscDb small .gt 0 1, s.order poscDb small .gt 1 0, s.order poscDb small .gt 2 0,
             s.order poscDb small .le 0 1, s.order poscDb small .le 1 0])
     | _, _ => none) = some (true, [.ok true, .ok false, .ok false, .ok false, .ok true]) := by
  rw [poscDb_flat]; decide +kernel

/-- a Scalar against a FractionScalar of another unit after a history, and a cross-type pair (TypeError) -/
example : (match poscDb.simpleQuantity (Sym.ofString "length") (Sym.ofString "m"),
           poscDb.simpleQuantity (Sym.ofString "length") (Sym.ofString "cm"),
           poscDb.simpleQuantity (Sym.ofString "time") (Sym.ofString "s") with
     | .ok qm, .ok qc, .ok qs =>
       let small : Rat := 1 / 100000000
       let s := (OSession.mk [.sc 1 (.simple qm), .fsc ⟨99, R 1 2⟩ (.simple qc), .sc 1 (.simple qs)]).run
         [.order .lt 1 0, .copy 0, .eq 0 1, .hash 0, .arith 0 1]
       some (s.order poscDb small .gt 0 1, s.order poscDb small .lt 1 3, s.order poscDb small .lt 0 2)
     | _, _, _ => none) = some (.ok true, .ok true, .error .type) := by
  rw [poscDb_flat]; decide +kernel

/-- witness that the hypothesis `NumeratorKept` cannot be dropped on the current code (posc database,
`SMALL = 1e-8`): with a = FractionScalar(FractionValue(1e-9), 'm') and
b = FractionScalar(FractionValue(0, (3, 1)), 'nm') (1 nm and 3 nm) both `a > b` and `b > a` are true,
and neither `a <= b` nor `b <= a`: the 3e-9 m numerator of b becomes 0 inside `Fraction(number)` -/
theorem fscalar_order_counterexample :
    (match poscDb.simpleQuantity (Sym.ofString "length") (Sym.ofString "m"),
           poscDb.simpleQuantity (Sym.ofString "length") (Sym.ofString "nm") with
     | .ok qa, .ok qb =>
       let a : FSc := ⟨⟨1 / 1000000000, 0⟩, qa⟩
       let b : FSc := ⟨⟨0, 3⟩, qb⟩
       let small : Rat := 1 / 100000000
       some (a.order poscDb small .gt b, b.order poscDb small .gt a,
             a.order poscDb small .le b, b.order poscDb small .le a)
     | _, _ => none) = some (.ok true, .ok true, .ok false, .ok false) := by
  rw [poscDb_flat]; decide +kernel

end Barril
