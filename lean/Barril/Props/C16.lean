/-
C16 — legacy unit spellings are exact aliases and never capture current units.

Property theorems only.  Helper lemmas: `Barril/Proofs/LegacyLemmas.lean`.  Table facts
(`*_all_legfix`, `*_all_legder`) are generated and proved by `decide +kernel` over the rows, categories and
substitution list the translator read from /repo's current source.

Shape: generic theorems for ANY database `db` and ANY pair `db.Alias l c r` ("`l` is no symbol, is
rewritten to the symbol `c`, `c` is not rewritten, `r` is the only row spelled `c`, and a category
named like `r`'s quantity type belongs to that type"); then the table theorems show that every
derived legacy spelling of each shipped database is such a pair.
-/
import Barril.Proofs.LegacyLemmas
import Barril.Gen.ThmLegfixPosc
import Barril.Gen.ThmLegfixNocat
import Barril.Gen.ThmLegfixSimple
import Barril.Gen.ThmLegderPosc
import Barril.Gen.ThmLegderNocat
import Barril.Gen.ThmLegderSimple
import Barril.Props.C01

namespace Barril
open Barril.Gen

/-! ## the rewrite itself -/

/-- **generic idempotence under a decidable side condition**: for every substitution list and every
string, if the rewritten string contains no legacy fragment, rewriting it again changes nothing.
(Unconditional idempotence is false for today's list: see the example with "lbmolee" in `C16Examples.lean`.) -/
theorem fixLegacy_idempotent_of_noFragment (L : List (Sym × Sym)) (u : Sym)
    (h : noFragment L (Sym.bytes (fixLegacy L u)) = true) :
    fixLegacy L (fixLegacy L u) = fixLegacy L u :=
  fixLegacy_of_noFragment h

/-- a string without legacy fragments is not legacy -/
theorem not_legacy_of_noFragment (L : List (Sym × Sym)) (u : Sym)
    (h : noFragment L (Sym.bytes u) = true) : isLegacy L u = false :=
  isLegacy_eq_false_iff.mpr (fixLegacy_of_noFragment h)

/-- whatever is rewritten to a string that is not rewritten is a fixed point after one step:
idempotence on every spelling that resolves to a current symbol -/
theorem fixLegacy_idempotent_of_alias {db : Db} {l c : Sym} {r : UnitRow} (h : db.Alias l c r) :
    fixLegacy db.legacy (fixLegacy db.legacy l) = fixLegacy db.legacy l := by
  rw [h.fix, h.stable]

/-! ## `GetInfo`, `Convert` -/

/-- `GetInfo(qt, legacy)` = `GetInfo(qt, current)`, for every "category or quantity type" argument,
errors included -/
theorem getInfo_legacy {db : Db} {l c : Sym} {r : UnitRow} (h : db.Alias l c r)
    (qt0 : Sym) {fu : Bool} (hU : fu = false ∨ r.qtype ≠ unknownQType) :
    db.getInfo qt0 l fu true = db.getInfo qt0 c fu true :=
  Db.getInfo_alias h qt0 hU

/-- `Convert(cq, legacy, v, x)` = `Convert(cq, current, v, x)` -/
theorem convert_legacy_from {db : Db} {l c : Sym} {r : UnitRow} (h : db.Alias l c r)
    (hU : r.qtype ≠ unknownQType) (cq : Sym) {v : Sym} (hvl : v ≠ l) (hvc : v ≠ c) (x : Rat) :
    db.convert cq l v x = db.convert cq c v x :=
  Db.convert_congr (fun qt => Db.getInfo_alias h qt (Or.inr hU)) (fun _ => rfl)
    (by simp [Ne.symm hvl, Ne.symm hvc]) x

/-- `Convert(cq, u, legacy, x)` = `Convert(cq, u, current, x)` -/
theorem convert_legacy_to {db : Db} {l c : Sym} {r : UnitRow} (h : db.Alias l c r)
    (hU : r.qtype ≠ unknownQType) (cq : Sym) {u : Sym} (hul : u ≠ l) (huc : u ≠ c) (x : Rat) :
    db.convert cq u l x = db.convert cq u c x :=
  Db.convert_congr (fun _ => rfl) (fun qt => Db.getInfo_alias h qt (Or.inr hU)) (by simp [hul, huc]) x

/-- both units spelled the legacy way -/
theorem convert_legacy_both {db : Db} {l₁ c₁ l₂ c₂ : Sym} {r₁ r₂ : UnitRow}
    (h₁ : db.Alias l₁ c₁ r₁) (h₂ : db.Alias l₂ c₂ r₂) (hU₁ : r₁.qtype ≠ unknownQType)
    (hU₂ : r₂.qtype ≠ unknownQType) (hc : c₁ ≠ c₂) (cq : Sym) (x : Rat) :
    db.convert cq l₁ l₂ x = db.convert cq c₁ c₂ x := by
  have hl : l₂ ≠ l₁ := by
    intro e; apply hc; rw [← h₁.fix, ← h₂.fix, e]
  have hlc : l₂ ≠ c₁ := by
    intro e
    have := h₂.notSym
    rw [e, h₁.row] at this; cases this
  have hcl : c₁ ≠ l₂ := fun e => hlc e.symm
  rw [convert_legacy_from h₁ hU₁ cq hl hlc x, convert_legacy_to h₂ hU₂ cq hcl hc x]

/-- converting between the two spellings of one unit is the identity (the current spelling takes
the same-unit shortcut, the legacy one goes through `from ∘ to` of the one row) -/
theorem convert_legacy_same {db : Db} (hwf : ∀ w ∈ db.units, w.WF) {l c : Sym}
    {r : UnitRow} (h : db.Alias l c r) (hU : r.qtype ≠ unknownQType) {cq : Sym}
    (hq : db.typeOf cq = .ok r.qtype) (x : Rat) :
    db.convert cq l c x = .ok x ∧ db.convert cq c l x = .ok x := by
  have hg : db.getInfo r.qtype c true true = .ok r := by
    rw [Db.getInfo_of_symbol h.row h.only h.notLegacy]; simp
  have hgl : db.getInfo r.qtype l true true = .ok r := by
    rw [Db.getInfo_alias h r.qtype (Or.inr hU), hg]
  have e1 : (l == c) = false := by simpa using h.ne
  have e2 : (c == l) = false := by simpa using h.ne.symm
  have hw := hwf r h.mem
  constructor
  · unfold Db.convert
    simp only [e1, Bool.false_eq_true, ↓reduceIte, hq, hg, hgl]
    rw [convRows_self hw]
  · unfold Db.convert
    simp only [e2, Bool.false_eq_true, ↓reduceIte, hq, hg, hgl]
    rw [convRows_self hw]

/-- lists of any length (`Convert` on a list/tuple, `Array.GetValues`): legacy source unit -/
theorem convertList_legacy_from {db : Db} {l c : Sym} {r : UnitRow}
    (h : db.Alias l c r) (hU : r.qtype ≠ unknownQType) (cq : Sym) {v : Sym} (hvl : v ≠ l) (hvc : v ≠ c)
    (xs : List Rat) : db.convertList cq l v xs = db.convertList cq c v xs :=
  Db.convertList_congr (fun qt => Db.getInfo_alias h qt (Or.inr hU)) (fun _ => rfl)
    (by simp [Ne.symm hvl, Ne.symm hvc]) xs

/-- lists of any length: legacy target unit -/
theorem convertList_legacy_to {db : Db} {l c : Sym} {r : UnitRow}
    (h : db.Alias l c r) (hU : r.qtype ≠ unknownQType) (cq : Sym) {u : Sym} (hul : u ≠ l) (huc : u ≠ c)
    (xs : List Rat) : db.convertList cq u l xs = db.convertList cq u c xs :=
  Db.convertList_congr (fun _ => rfl) (fun qt => Db.getInfo_alias h qt (Or.inr hU)) (by simp [hul, huc]) xs

/-! ## `GetDefaultCategory`, `Quantity`, `ObtainQuantity`, value objects -/

/-- `GetDefaultCategory(legacy)` = `GetDefaultCategory(current)` -/
theorem getDefaultCategory_legacy {db : Db} {l c : Sym} {r : UnitRow} (h : db.Alias l c r) :
    db.getDefaultCategory l = db.getDefaultCategory c := by
  unfold Db.getDefaultCategory
  rw [h.notSym, h.row]
  simp [h.isLegacy, h.fix, h.row]

/-- `Quantity(category, legacy)` = `Quantity(category, current)` for every category argument,
rejected ones included: the stored unit is the current symbol -/
theorem newQuantity_legacy {db : Db} {l c : Sym} {r : UnitRow} (h : db.Alias l c r) (cat : Sym) :
    db.newQuantity cat l = db.newQuantity cat c := by
  unfold Db.newQuantity
  cases db.catByName cat with
  | none => rfl
  | some ci =>
    simp only [Db.categoryUnitValid_of_not_symbol h.notSym, h.isLegacy, h.fix, h.notLegacy,
      Bool.false_eq_true, ↓reduceIte]

/-- `ObtainQuantity(legacy, category)` = `ObtainQuantity(current, category)` -/
theorem obtainQuantity_legacy_cat {db : Db} {l c : Sym} {r : UnitRow} (h : db.Alias l c r) (cat : Sym) :
    db.obtainQuantity l (some cat) = db.obtainQuantity c (some cat) :=
  newQuantity_legacy h cat

/-- `ObtainQuantity(legacy)` = `ObtainQuantity(current)` when the current symbol has a default
category (otherwise both are rejected, with different exception classes) -/
theorem obtainQuantity_legacy_nocat {db : Db} {l c : Sym} {r : UnitRow} (h : db.Alias l c r)
    (hdc : ∀ dc, db.getDefaultCategory c = .ok dc → falsy dc = false) :
    db.obtainQuantity l none = db.obtainQuantity c none := by
  unfold Db.obtainQuantity Db.obtainNoCat
  rw [getDefaultCategory_legacy h]
  cases hd : db.getDefaultCategory c with
  | error e => rfl
  | ok dc =>
    have hf := hdc dc hd
    simp only [hf, Bool.not_false, ↓reduceIte]
    cases dc with
    | none => rfl
    | some d => exact newQuantity_legacy h d

/-- **a legacy spelling is accepted wherever the current one is, and yields the equal quantity**
(with or without category) -/
theorem obtainQuantity_legacy_ok {db : Db} {l c : Sym} {r : UnitRow} (h : db.Alias l c r)
    (cat : Option Sym) {q : Simple} (hq : db.obtainQuantity c cat = .ok q) :
    db.obtainQuantity l cat = .ok q := by
  cases cat with
  | some d => rw [obtainQuantity_legacy_cat h d]; exact hq
  | none =>
    rw [obtainQuantity_legacy_nocat h]; exact hq
    intro dc hd
    cases hf : falsy dc with
    | false => rfl
    | true =>
      exfalso
      unfold Db.obtainQuantity Db.obtainNoCat at hq
      rw [hd] at hq
      simp only [hf, Bool.not_true, Bool.false_eq_true, ↓reduceIte, h.notLegacy] at hq
      cases hq

/-- the stored unit of a quantity created from a legacy spelling is the current symbol -/
theorem obtainQuantity_legacy_unit {db : Db} {l c : Sym} {r : UnitRow} (h : db.Alias l c r)
    (cat : Sym) {q : Simple} (hq : db.obtainQuantity l (some cat) = .ok q) : q = ⟨cat, c⟩ := by
  rw [obtainQuantity_legacy_cat h cat] at hq
  obtain ⟨_, _, _, e, _⟩ := Db.newQuantity_ok_inv hq h.notLegacy
  exact e

/-! ### the composing-mapping forms of `ObtainQuantity` are unit-string entry points too -/

/-- **`ObtainQuantity({category: (legacy, 1)})` = `ObtainQuantity({category: (current, 1)})`
= `ObtainQuantity(current, category)`** for every mapping class (ordered dict or not) and every
category, rejected ones included: a one-entry mapping of exponent 1 never reaches the
`CheckQuantityTypeUnit` loop (which knows no legacy spellings) -/
theorem obtainQuantity_legacy_mapping {db : Db} {l c : Sym} {r : UnitRow} (h : db.Alias l c r)
    (ordered : Bool) (cat : Sym) :
    db.obtainFromMapping ordered [⟨cat, l, 1⟩] = db.obtainFromMapping ordered [⟨cat, c, 1⟩]
    ∧ db.obtainFromMapping ordered [⟨cat, c, 1⟩] =
        (match db.obtainQuantity c (some cat) with
         | .ok q => .ok (.simple q)
         | .error e => .error e) := by
  simp only [Db.obtainFromMapping, simpleCell, BEq.rfl, ↓reduceIte, obtainQuantity_legacy_cat h cat]
  exact ⟨trivial, rfl⟩

/-- a legacy spelling in a one-entry mapping is accepted wherever the current one is, and the
quantity is the simple quantity `(category, current)` -/
theorem obtainQuantity_legacy_mapping_ok {db : Db} {l c : Sym} {r : UnitRow} (h : db.Alias l c r)
    (ordered : Bool) (cat : Sym) {o : Obtained}
    (ho : db.obtainFromMapping ordered [⟨cat, c, 1⟩] = .ok o) :
    db.obtainFromMapping ordered [⟨cat, l, 1⟩] = .ok o ∧ o = .simple ⟨cat, c⟩ := by
  refine ⟨by rw [(obtainQuantity_legacy_mapping h ordered cat).1]; exact ho, ?_⟩
  rw [(obtainQuantity_legacy_mapping h ordered cat).2] at ho
  cases hq : db.obtainQuantity c (some cat) with
  | error e => rw [hq] at ho; cases ho
  | ok q =>
    rw [hq] at ho
    rw [← obtainQuantity_legacy_cat h cat] at hq
    rw [obtainQuantity_legacy_unit h cat hq] at ho
    cases ho; rfl

/-- **the parallel-lists form `ObtainQuantity([(legacy, 1)], category)`** equals the one with the
current spelling when the category argument is a list/tuple (any length, the empty one included) or a
string -/
theorem obtainFromLists_legacy {db : Db} {l c : Sym} {r : UnitRow} (h : db.Alias l c r)
    (cat : CatArg) (hc : cat ≠ .none) :
    db.obtainFromLists [(l, 1)] cat = db.obtainFromLists [(c, 1)] cat := by
  cases cat with
  | none => exact absurd rfl hc
  | str d => simp only [Db.obtainFromLists, simplePair, BEq.rfl, ↓reduceIte, obtainQuantity_legacy_cat h d]
  | list cs =>
    cases cs with
    | nil => rfl
    | cons d ds =>
      simp only [Db.obtainFromLists, simplePair, BEq.rfl, ↓reduceIte, obtainQuantity_legacy_cat h d]

/-- … and without a category (`ObtainQuantity([(legacy, 1)])`) whenever the current spelling is
accepted -/
theorem obtainFromLists_legacy_nocat_ok {db : Db} {l c : Sym} {r : UnitRow} (h : db.Alias l c r)
    {o : Obtained} (ho : db.obtainFromLists [(c, 1)] .none = .ok o) :
    db.obtainFromLists [(l, 1)] .none = .ok o := by
  simp only [Db.obtainFromLists, simplePair, BEq.rfl, ↓reduceIte] at ho ⊢
  cases hq : db.obtainQuantity c none with
  | error e => rw [hq] at ho; cases ho
  | ok q => rw [hq] at ho; rw [obtainQuantity_legacy_ok h none hq]; exact ho

/-- the parallel-lists form with one pair of exponent 1 and a category list IS the dict form -/
theorem obtainFromLists_single_eq_mapping (db : Db) (u cat : Sym) (cs : List Sym) :
    db.obtainFromLists [(u, 1)] (.list (cat :: cs)) = db.obtainFromMapping true [⟨cat, u, 1⟩] := by
  simp only [Db.obtainFromLists, simplePair, Db.obtainFromMapping, simpleCell, BEq.rfl, ↓reduceIte]

/-- **what the library does with a legacy spelling in a really composing mapping** (several entries,
or an exponent other than 1): it is rejected with a units error, whatever the other cells are —
`CheckQuantityTypeUnit` runs with `fix_legacy=False` — so there a legacy spelling is not an alias (the
current spelling gives a derived quantity); the alias property is claimed for the one-entry form only -/
theorem obtainFromMapping_rejects_legacy {db : Db} {l c : Sym} {r : UnitRow} (h : db.Alias l c r)
    (ordered : Bool) (cells : List MapCell) (hs : simpleCell cells = none)
    (hm : ∃ x ∈ cells, x.unit = l) :
    db.obtainFromMapping ordered cells = .error .units := by
  unfold Db.obtainFromMapping
  rw [hs]
  obtain ⟨x, hx, hl⟩ := hm
  rw [Db.checkCells_of_not_symbol cells ⟨x, hx, hl ▸ h.notSym⟩]

/-- a composing mapping of current symbols that passes the validation is returned as given (ordered
dict) -/
theorem obtainFromMapping_derived {db : Db} (cells : List MapCell) (hs : simpleCell cells = none)
    {o : Obtained} (ho : db.obtainFromMapping true cells = .ok o) : o = .derived cells := by
  simp only [Db.obtainFromMapping, hs] at ho
  cases hc : db.checkCells cells with
  | error e => rw [hc] at ho; cases ho
  | ok _ => rw [hc] at ho; simp only [↓reduceIte] at ho; cases ho; rfl

/-- `Scalar/Array/FractionScalar(value, legacy[, category])` equals the object built with the
current spelling (any value type: number, list of any length, fraction) -/
theorem create_legacy {α : Type} {db : Db} {l c : Sym} {r : UnitRow} (h : db.Alias l c r)
    (v : α) (cat : Option Sym) {o : Simple × α} (ho : db.create v c cat = .ok o) :
    db.create v l cat = .ok o := by
  unfold Db.create at ho ⊢
  cases hq : db.obtainQuantity c cat with
  | error e => rw [hq] at ho; cases ho
  | ok q => rw [hq] at ho; rw [obtainQuantity_legacy_ok h cat hq]; exact ho

/-- `Scalar.GetValue(legacy)` = `Scalar.GetValue(current)` from any other unit -/
theorem getValue_legacy {db : Db} {l c : Sym} {r : UnitRow} (h : db.Alias l c r)
    (hU : r.qtype ≠ unknownQType) {q : Simple} (hql : q.unit ≠ l) (hqc : q.unit ≠ c) (x : Rat) :
    db.getValue q x l = db.getValue q x c := by
  unfold Db.getValue
  have e1 : (q.unit == l) = false := by simpa using hql
  have e2 : (q.unit == c) = false := by simpa using hqc
  simp only [e1, e2, Bool.false_eq_true, ↓reduceIte]
  cases db.catByName q.cat with
  | none => rfl
  | some ci => simp only; rw [Db.getInfo_alias h ci.qtype (Or.inr hU)]

/-- reading a value in the legacy spelling of its own unit gives the value back (in exact
arithmetic; the float code goes through `from(to(x))` here and may differ by rounding) -/
theorem getValue_legacy_own_unit {db : Db} (hwf : ∀ w ∈ db.units, w.WF)
    {l c : Sym} {r : UnitRow} (h : db.Alias l c r) (hU : r.qtype ≠ unknownQType) {cat : Sym}
    {q : Simple} (hq : db.newQuantity cat c = .ok q) (x : Rat) :
    db.getValue q x l = .ok x ∧ db.getValue q x c = .ok x := by
  obtain ⟨ci, r', hcat, rfl, hg⟩ := Db.newQuantity_ok_inv hq h.notLegacy
  have hw := hwf r' (Db.getInfo_mem hg)
  constructor
  · unfold Db.getValue
    have e1 : (c == l) = false := by simpa using h.ne.symm
    simp only [e1, Bool.false_eq_true, ↓reduceIte, hcat, Db.getInfo_alias h ci.qtype (Or.inr hU), hg]
    rw [convRows_self hw]
  · unfold Db.getValue; simp

/-- `Array.GetValues(legacy)` = `Array.GetValues(current)` for value lists of any length -/
theorem getValues_legacy {db : Db} {l c : Sym} {r : UnitRow} (h : db.Alias l c r)
    (hU : r.qtype ≠ unknownQType) {q : Simple} (hql : q.unit ≠ l) (hqc : q.unit ≠ c) (xs : List Rat) :
    db.getValues q xs l = db.getValues q xs c := by
  unfold Db.getValues
  have e1 : (l == q.unit) = false := by simpa using Ne.symm hql
  have e2 : (c == q.unit) = false := by simpa using Ne.symm hqc
  simp only [e1, e2, Bool.false_eq_true, ↓reduceIte]
  exact convertList_legacy_to h hU q.cat hql hqc xs

/-- the own-unit case for lists of any length -/
theorem getValues_legacy_own_unit {db : Db} (hwf : ∀ w ∈ db.units, w.WF)
    {l c : Sym} {r : UnitRow} (h : db.Alias l c r) (hU : r.qtype ≠ unknownQType) {cat : Sym}
    {q : Simple} (hq : db.newQuantity cat c = .ok q) (xs : List Rat) :
    db.getValues q xs l = .ok xs ∧ db.getValues q xs c = .ok xs := by
  obtain ⟨ci, r', hcat, rfl, hg⟩ := Db.newQuantity_ok_inv hq h.notLegacy
  have hw := hwf r' (Db.getInfo_mem hg)
  constructor
  · unfold Db.getValues Db.convertList Db.typeOf
    have e1 : (l == c) = false := by simpa using h.ne
    have e2 : (c == l) = false := by simpa using h.ne.symm
    simp only [e1, e2, Bool.false_eq_true, ↓reduceIte, hcat, Db.getInfo_alias h ci.qtype (Or.inr hU), hg]
    exact mapRows_self hw xs
  · unfold Db.getValues; simp

/-- `CreateCopy(unit=legacy)` = `CreateCopy(unit=current)`: same quantity, same value -/
theorem createCopy_legacy {db : Db} {l c : Sym} {r : UnitRow} (h : db.Alias l c r)
    (hU : r.qtype ≠ unknownQType) {q : Simple} (hcat : q.cat ≠ 0) (hql : q.unit ≠ l) (hqc : q.unit ≠ c)
    (x : Rat) : db.createCopy q x l = db.createCopy q x c := by
  unfold Db.createCopy
  have e : (q.cat != 0) = true := by simpa using hcat
  rw [getValue_legacy h hU hql hqc x]
  simp only [e, ↓reduceIte, obtainQuantity_legacy_cat h q.cat]

/-! ## value objects created without a value, list copies, unit names -/

/-- reading a value of ANY quantity the database can build (the stored unit is always a table
symbol) in the legacy spelling gives what the current spelling gives — also when the quantity's own
unit is the aliased one (same-unit shortcut on one side, `from ∘ to` of the one row on the other) -/
theorem getValue_legacy_of_quantity {db : Db} (hwf : ∀ w ∈ db.units, w.WF) {l c : Sym} {r : UnitRow}
    (h : db.Alias l c r) (hU : r.qtype ≠ unknownQType) {cat d : Sym} {q : Simple}
    (hq : db.newQuantity cat d = .ok q) (x : Rat) :
    db.getValue q x l = db.getValue q x c := by
  obtain ⟨ci, r', w, hcat, rfl, _, hv, hg⟩ := Db.newQuantity_ok hq
  -- the stored unit passed `CheckCategoryUnit`, so it is a symbol of the table and not `l`
  have hql : w ≠ l := by
    rintro rfl
    rw [Db.categoryUnitValid_of_not_symbol h.notSym] at hv
    cases hv
  by_cases hqc' : w = c
  · have hw := hwf r' (Db.getInfo_mem hg)
    have e1 : (w == l) = false := by simpa using hql
    have e2 : (w == c) = true := by simpa using hqc'
    unfold Db.getValue
    simp only [e1, e2, Bool.false_eq_true, ↓reduceIte, hcat, Db.getInfo_alias h ci.qtype (Or.inr hU)]
    rw [← hqc', hg]
    simp only
    rw [convRows_self hw]
  · exact getValue_legacy h hU hql hqc' x

/-- `_GetDefaultValue(category_info, legacy)` = `_GetDefaultValue(category_info, current)`: the
default value of the category converted to the unit -/
theorem defaultValueIn_legacy {db : Db} (hwf : ∀ w ∈ db.units, w.WF) {l c : Sym} {r : UnitRow}
    (h : db.Alias l c r) (hU : r.qtype ≠ unknownQType) (ci : CatRow) :
    db.defaultValueIn ci (some l) = db.defaultValueIn ci (some c) := by
  unfold Db.defaultValueIn
  cases hq : db.newQuantity ci.name ci.defaultUnit with
  | error e => rfl
  | ok q => exact getValue_legacy_of_quantity hwf h hU hq ci.defaultValue

/-- **value-less construction, any value class**: if the subclass' default value does not tell the
two spellings apart, the object built from the legacy spelling is the object built from the current
one (errors included) -/
theorem createValueless_legacy {α : Type} {db : Db} {l c : Sym} {r : UnitRow} (h : db.Alias l c r)
    (dv : CatRow → Option Sym → Except ErrKind α) (hdv : ∀ ci, dv ci (some l) = dv ci (some c))
    (cat : Sym) : db.createValueless dv cat (some l) = db.createValueless dv cat (some c) := by
  unfold Db.createValueless
  cases db.catByName cat with
  | none => rfl
  | some ci => simp only [hdv ci, obtainQuantity_legacy_cat h cat]

/-- **`Scalar(category, unit=legacy)` = `Scalar(category, unit=current)`** (also `FractionScalar`):
same quantity and the same number `convert (defaultUnit) u (defaultValue)`, for every category —
whatever its default value, default unit and limits —, rejected ones included -/
theorem createDefault_legacy {db : Db} (hwf : ∀ w ∈ db.units, w.WF) {l c : Sym} {r : UnitRow}
    (h : db.Alias l c r) (hU : r.qtype ≠ unknownQType) (cat : Sym) :
    db.createDefault cat (some l) = db.createDefault cat (some c) :=
  createValueless_legacy h db.defaultValueIn (defaultValueIn_legacy hwf h hU) cat

/-- `Array(category, unit=legacy)` / `FixedArray(n, category, unit=legacy)` equal the objects built
with the current spelling -/
theorem createDefaultList_legacy {db : Db} {l c : Sym} {r : UnitRow} (h : db.Alias l c r) (n : Nat)
    (cat : Sym) : db.createDefaultList n cat (some l) = db.createDefaultList n cat (some c) :=
  createValueless_legacy h (constDefault n) (fun _ => rfl) cat

/-- the number a value-less scalar carries IS the category default converted from the default unit:
whenever the object exists, its value is `getValue` of the default quantity (so it cannot be the
unconverted default unless the conversion says so) -/
theorem createDefault_value {db : Db} {cat u : Sym} {o : Simple × Rat}
    (ho : db.createDefault cat (some u) = .ok o) :
    ∃ ci q, db.catByName cat = some ci ∧ db.newQuantity ci.name ci.defaultUnit = .ok q
      ∧ db.getValue q ci.defaultValue u = .ok o.2 ∧ db.obtainQuantity u (some cat) = .ok o.1 := by
  unfold Db.createDefault Db.createValueless at ho
  cases hc : db.catByName cat with
  | none => rw [hc] at ho; cases ho
  | some ci =>
    rw [hc] at ho
    simp only at ho
    cases hd : db.defaultValueIn ci (some u) with
    | error e => rw [hd] at ho; cases ho
    | ok v =>
      rw [hd] at ho
      simp only at ho
      cases hq : db.obtainQuantity u (some cat) with
      | error e => rw [hq] at ho; cases ho
      | ok q' =>
        rw [hq] at ho
        cases ho
        unfold Db.defaultValueIn at hd
        cases hn : db.newQuantity ci.name ci.defaultUnit with
        | error e => rw [hn] at hd; cases hd
        | ok q => rw [hn] at hd; exact ⟨ci, q, rfl, hn, hd, rfl⟩

/-- `Array.CreateCopy(unit=legacy)` = `Array.CreateCopy(unit=current)` for value lists of any
length -/
theorem createCopyList_legacy {db : Db} {l c : Sym} {r : UnitRow} (h : db.Alias l c r)
    (hU : r.qtype ≠ unknownQType) {q : Simple} (hcat : q.cat ≠ 0) (hql : q.unit ≠ l) (hqc : q.unit ≠ c)
    (xs : List Rat) : db.createCopyList q xs l = db.createCopyList q xs c := by
  unfold Db.createCopyList
  have e : (q.cat != 0) = true := by simpa using hcat
  rw [getValues_legacy h hU hql hqc xs]
  simp only [e, ↓reduceIte, obtainQuantity_legacy_cat h q.cat]

/-- `GetUnitName(qt, legacy)` = `GetUnitName(qt, current)` -/
theorem getUnitName_legacy {db : Db} {l c : Sym} {r : UnitRow} (h : db.Alias l c r) (qt : Sym) :
    db.getUnitName qt l = db.getUnitName qt c := by
  unfold Db.getUnitName
  rw [Db.getInfo_alias h qt (Or.inl rfl)]

/-! ## category registration -/

/-- `AddCategory` with default value and limits: the unit arguments are rewritten exactly as
without them, so legacy spellings register the same category -/
theorem addCategoryFull_legacy (db : Db) (name qt : Sym) (valid : Option (List Sym)) (dflt : Option Sym)
    (caption : Sym) (override : Bool) (dv mn mx : Option Rat) (minx maxx : Bool)
    (hv : ∀ vs, valid = some vs → ∀ v ∈ vs,
      fixLegacy db.legacy (fixLegacy db.legacy v) = fixLegacy db.legacy v)
    (hd : ∀ d, dflt = some d → fixLegacy db.legacy (fixLegacy db.legacy d) = fixLegacy db.legacy d) :
    db.addCategoryFull name qt valid dflt caption override dv mn mx minx maxx =
      db.addCategoryFull name qt (valid.map (List.map (fixLegacy db.legacy))) (dflt.map (fixLegacy db.legacy))
        caption override dv mn mx minx maxx := by
  unfold Db.addCategoryFull
  simp only [Db.fixValidOpt_map_fix qt valid hv, Db.chooseDefault_map_fix qt dflt hd]

/-- without default value and limits `addCategoryFull` is `addCategory` -/
theorem addCategoryFull_plain (db : Db) (name qt : Sym) (valid : Option (List Sym)) (dflt : Option Sym)
    (caption : Sym) (override : Bool) :
    db.addCategoryFull name qt valid dflt caption override none none none false false =
      db.addCategory name qt valid dflt caption override := by
  unfold Db.addCategoryFull Db.addCategory
  simp only [limitsCrossed, chooseDefaultValue, Bool.false_eq_true, ↓reduceIte, Bool.or_self]

/-- `AddCategory(…, valid_units, default_unit)`: writing any of the units the legacy way registers
exactly the same category as writing all of them the current way — for unit lists of any length
and any mix of spellings whose rewrite is a fixed point -/
theorem addCategory_legacy (db : Db) (name qt : Sym) (valid : Option (List Sym)) (dflt : Option Sym)
    (caption : Sym) (override : Bool)
    (hv : ∀ vs, valid = some vs → ∀ v ∈ vs,
      fixLegacy db.legacy (fixLegacy db.legacy v) = fixLegacy db.legacy v)
    (hd : ∀ d, dflt = some d → fixLegacy db.legacy (fixLegacy db.legacy d) = fixLegacy db.legacy d) :
    db.addCategory name qt valid dflt caption override =
      db.addCategory name qt (valid.map (List.map (fixLegacy db.legacy))) (dflt.map (fixLegacy db.legacy))
        caption override := by
  simp only [← addCategoryFull_plain]
  exact addCategoryFull_legacy db name qt valid dflt caption override none none none false false hv hd

/-- the registered category stores current symbols only -/
theorem fixValid_stores_fixed {db : Db} {qt : Sym} :
    ∀ {vs out : List Sym}, db.fixValid qt vs = .ok out → out = vs.map (fixLegacy db.legacy)
  | [], out, h => by cases h; rfl
  | v :: vs, out, h => by
    unfold Db.fixValid at h
    split at h
    · cases hr : db.fixValid qt vs with
      | error e => rw [hr] at h; cases h
      | ok o => rw [hr] at h; cases h; rw [fixValid_stores_fixed hr]; rfl
    · cases h

/-! ## the three shipped databases (tables regenerated on every run) -/

/-- **no current unit symbol is ever rewritten** -/
theorem posc_no_symbol_rewritten : ∀ r ∈ poscDb.units, fixLegacy poscDb.legacy r.sym = r.sym :=
  fun r hr => by
    have h := List.all_eq_true.mp poscUnits_all_legfix r hr
    simp only [UnitRow.notRewritten, beq_iff_eq] at h
    exact h
theorem nocat_no_symbol_rewritten : ∀ r ∈ nocatDb.units, fixLegacy nocatDb.legacy r.sym = r.sym :=
  fun r hr => by
    have h := List.all_eq_true.mp nocatUnits_all_legfix r hr
    simp only [UnitRow.notRewritten, beq_iff_eq] at h
    exact h
theorem simple_no_symbol_rewritten : ∀ r ∈ simpleDb.units, fixLegacy simpleDb.legacy r.sym = r.sym :=
  fun r hr => by
    have h := List.all_eq_true.mp simpleUnits_all_legfix r hr
    simp only [UnitRow.notRewritten, beq_iff_eq] at h
    exact h

/-- **every derived legacy spelling** of every table unit is no symbol itself, is rewritten to the
symbol it was derived from, which is not rewritten and is the symbol of exactly one row; that row's
quantity type is not the `Unknown` placeholder and is not re-routed by a category of its name -/
theorem posc_derived_alias : ∀ p ∈ poscDb.derive, ∃ r, poscDb.Alias p.1 p.2 r ∧ r.qtype ≠ unknownQType :=
  Db.alias_of_tables poscUnits_all_legfix poscUnits_all_legder
theorem nocat_derived_alias : ∀ p ∈ nocatDb.derive, ∃ r, nocatDb.Alias p.1 p.2 r ∧ r.qtype ≠ unknownQType :=
  Db.alias_of_tables nocatUnits_all_legfix nocatUnits_all_legder
theorem simple_derived_alias :
    ∀ p ∈ simpleDb.derive, ∃ r, simpleDb.Alias p.1 p.2 r ∧ r.qtype ≠ unknownQType :=
  Db.alias_of_tables simpleUnits_all_legfix simpleUnits_all_legder

/-- **rewriting is idempotent** on every derived spelling and on every current symbol -/
theorem posc_idempotent :
    (∀ p ∈ poscDb.derive, fixLegacy poscDb.legacy (fixLegacy poscDb.legacy p.1) = fixLegacy poscDb.legacy p.1)
    ∧ ∀ r ∈ poscDb.units, fixLegacy poscDb.legacy (fixLegacy poscDb.legacy r.sym) = fixLegacy poscDb.legacy r.sym := by
  constructor
  · intro p hp
    obtain ⟨r, h, _⟩ := posc_derived_alias p hp
    exact fixLegacy_idempotent_of_alias h
  · intro r hr
    rw [posc_no_symbol_rewritten r hr, posc_no_symbol_rewritten r hr]

/-- what "exact alias" means for one pair of spellings, all modelled entries at once: same
`GetInfo`, same `GetDefaultCategory`, same `Quantity`/`ObtainQuantity` for every category argument,
accepted without category whenever `c` is, same `Convert` from and to every other unit for every
number and every list, same `GetValue`/`GetValues`/`CreateCopy` on every quantity in another unit -/
def Db.ExactAlias (db : Db) (l c : Sym) : Prop :=
    (∀ qt fu, db.getInfo qt l fu true = db.getInfo qt c fu true)
    ∧ db.getDefaultCategory l = db.getDefaultCategory c
    ∧ (∀ cat, db.obtainQuantity l (some cat) = db.obtainQuantity c (some cat))
    ∧ (∀ cat q, db.obtainQuantity c cat = .ok q → db.obtainQuantity l cat = .ok q)
    ∧ (∀ cq v x, v ≠ l → v ≠ c →
        db.convert cq l v x = db.convert cq c v x ∧ db.convert cq v l x = db.convert cq v c x)
    ∧ (∀ cq v xs, v ≠ l → v ≠ c →
        db.convertList cq l v xs = db.convertList cq c v xs
        ∧ db.convertList cq v l xs = db.convertList cq v c xs)
    ∧ (∀ (q : Simple) x xs, q.unit ≠ l → q.unit ≠ c →
        db.getValue q x l = db.getValue q x c
        ∧ db.getValues q xs l = db.getValues q xs c
        ∧ (q.cat ≠ 0 → db.createCopy q x l = db.createCopy q x c))

/-- every alias pair is an exact alias -/
theorem exactAlias_of_alias {db : Db} {l c : Sym} {r : UnitRow} (h : db.Alias l c r)
    (hU : r.qtype ≠ unknownQType) : db.ExactAlias l c := by
  refine ⟨fun qt fu => getInfo_legacy h qt (Or.inr hU), getDefaultCategory_legacy h,
    obtainQuantity_legacy_cat h, fun cat q => obtainQuantity_legacy_ok h cat, ?_, ?_, ?_⟩
  · intro cq v x h1 h2
    exact ⟨convert_legacy_from h hU cq h1 h2 x, convert_legacy_to h hU cq h1 h2 x⟩
  · intro cq v xs h1 h2
    exact ⟨convertList_legacy_from h hU cq h1 h2 xs, convertList_legacy_to h hU cq h1 h2 xs⟩
  · intro q x xs h1 h2
    exact ⟨getValue_legacy h hU h1 h2 x, getValues_legacy h hU h1 h2 xs,
      fun hc => createCopy_legacy h hU hc h1 h2 x⟩

/-- **C16 on the default database**: every derived legacy spelling of every table unit is an exact
alias of the symbol it was derived from -/
theorem posc_legacy_exact_alias : ∀ p ∈ poscDb.derive, poscDb.ExactAlias p.1 p.2 := by
  intro p hp
  obtain ⟨r, h, hU⟩ := posc_derived_alias p hp
  exact exactAlias_of_alias h hU

/-- the same for the POSC database without categories and for `FillSimple` -/
theorem nocat_legacy_exact_alias : ∀ p ∈ nocatDb.derive, nocatDb.ExactAlias p.1 p.2 := by
  intro p hp
  obtain ⟨r, h, hU⟩ := nocat_derived_alias p hp
  exact exactAlias_of_alias h hU
theorem simple_legacy_exact_alias : ∀ p ∈ simpleDb.derive, simpleDb.ExactAlias p.1 p.2 := by
  intro p hp
  obtain ⟨r, h, hU⟩ := simple_derived_alias p hp
  exact exactAlias_of_alias h hU

/-! ## value-less construction, list copies and unit names: all at once, also after a registration -/

/-- the entries added to "exact alias": value-less `Scalar`/`FractionScalar` (default value of the
category converted to the unit), value-less `Array`/`FixedArray` of any dimension, `Array.CreateCopy`
for lists of any length, `GetUnitName` -/
def Db.ExactAliasValueless (db : Db) (l c : Sym) : Prop :=
    (∀ cat, db.createDefault cat (some l) = db.createDefault cat (some c))
    ∧ (∀ n cat, db.createDefaultList n cat (some l) = db.createDefaultList n cat (some c))
    ∧ (∀ (q : Simple) x, (∃ cat d, db.newQuantity cat d = .ok q) → db.getValue q x l = db.getValue q x c)
    ∧ (∀ (q : Simple) xs, q.cat ≠ 0 → q.unit ≠ l → q.unit ≠ c →
        db.createCopyList q xs l = db.createCopyList q xs c)
    ∧ (∀ qt, db.getUnitName qt l = db.getUnitName qt c)

theorem exactAliasValueless_of_alias {db : Db} (hwf : db.AllWF) {l c : Sym} {r : UnitRow}
    (h : db.Alias l c r) (hU : r.qtype ≠ unknownQType) : db.ExactAliasValueless l c :=
  ⟨createDefault_legacy hwf h hU, createDefaultList_legacy h,
    fun _ x ⟨_, _, hq⟩ => getValue_legacy_of_quantity hwf h hU hq x,
    fun _ xs hc h1 h2 => createCopyList_legacy h hU hc h1 h2 xs, getUnitName_legacy h⟩

/-- **categories registered by the user** (`AddCategory` with any default value, default unit, valid
units, limits): after a successful registration every alias pair is still an exact alias, in
particular in the new category, whose non-zero default value is converted for the legacy spelling
exactly as for the current one.  (Side condition: the new category is not named like the unit's
quantity type while belonging to another type.) -/
theorem registered_exact_alias {db db' : Db} (hwf : ∀ w ∈ db.units, w.WF) {l c : Sym} {r : UnitRow}
    (h : db.Alias l c r) (hU : r.qtype ≠ unknownQType) {name qt : Sym} {valid : Option (List Sym)}
    {dflt : Option Sym} {caption : Sym} {override : Bool} {dv mn mx : Option Rat} {minx maxx : Bool}
    (hreg : db.addCategoryFull name qt valid dflt caption override dv mn mx minx maxx = .ok db')
    (hname : name ≠ r.qtype ∨ qt = r.qtype) :
    db'.ExactAlias l c ∧ db'.ExactAliasValueless l c := by
  obtain ⟨row, hn, hq, hdb⟩ := Db.addCategoryFull_ok_inv hreg
  have h' : db'.Alias l c r := h.after_register hdb (by rw [hn, hq]; exact hname)
  have hwf' : ∀ w ∈ db'.units, w.WF := by subst hdb; exact hwf
  exact ⟨exactAlias_of_alias h' hU, exactAliasValueless_of_alias hwf' h' hU⟩

/-- **C16 for value-less objects on the shipped databases**, before and after any registration -/
theorem posc_legacy_valueless : ∀ p ∈ poscDb.derive, poscDb.ExactAliasValueless p.1 p.2 := by
  intro p hp
  obtain ⟨r, h, hU⟩ := posc_derived_alias p hp
  exact exactAliasValueless_of_alias posc_allWF h hU
theorem nocat_legacy_valueless : ∀ p ∈ nocatDb.derive, nocatDb.ExactAliasValueless p.1 p.2 := by
  intro p hp
  obtain ⟨r, h, hU⟩ := nocat_derived_alias p hp
  exact exactAliasValueless_of_alias nocat_allWF h hU
theorem simple_legacy_valueless : ∀ p ∈ simpleDb.derive, simpleDb.ExactAliasValueless p.1 p.2 := by
  intro p hp
  obtain ⟨r, h, hU⟩ := simple_derived_alias p hp
  exact exactAliasValueless_of_alias simple_allWF h hU

/-- every derived spelling of the default database stays an exact alias in every category a user
registers under a name that is not a quantity type of the table -/
theorem posc_registered_exact_alias {db' : Db} {name qt : Sym} {valid : Option (List Sym)}
    {dflt : Option Sym} {caption : Sym} {override : Bool} {dv mn mx : Option Rat} {minx maxx : Bool}
    (hreg : poscDb.addCategoryFull name qt valid dflt caption override dv mn mx minx maxx = .ok db')
    (hname : ∀ r ∈ poscDb.units, name ≠ r.qtype) :
    ∀ p ∈ poscDb.derive, db'.ExactAlias p.1 p.2 ∧ db'.ExactAliasValueless p.1 p.2 := by
  intro p hp
  obtain ⟨r, h, hU⟩ := posc_derived_alias p hp
  exact registered_exact_alias posc_allWF h hU hreg (Or.inl (hname r h.mem))

end Barril
