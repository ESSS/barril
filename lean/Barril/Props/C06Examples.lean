/- Non-vacuity examples of C06, in a module of their own (tools/split_examples.py): they evaluate
concrete instances, many over the regenerated tables, and must not be able to stop the theorem module from
building.  Not property theorems: the check builds this module separately and only records the outcome. -/
import Barril.Props.C06
import Barril.Gen.ThmFlat

namespace Barril
open Barril.Gen

private def look0 : Sym → Option CRow := fun s => lookL s poscC
private def rowOf (s : String) : Option CRow := lookL (Sym.ofString s) poscC

/-- `ft/s` is read as `ft` over `s` and agrees exactly -/
example : (rowOf "ft/s").map (fun c => ((reading look0 c).map (fun rd => (expected rd).map (·.1)), c.slope))
    = some (some (some (R 381 1250)), R 381 1250) := by
  unfold rowOf look0; rw [poscC_flat]; decide +kernel
/-- `1/galUK`, `psi2.d/cP.ft3`, `lbm/ft3` and `L/100km` (a decimal multiplier) are read as compounds -/
example : ((rowOf "1/galUK").map (isCompound look0), (rowOf "psi2.d/cP.ft3").map (isCompound look0),
    (rowOf "lbm/ft3").map (isCompound look0), (rowOf "L/100km").map (isCompound look0))
    = (some true, some true, some true, some true) := by
  unfold rowOf look0; rw [poscC_flat]; decide +kernel
/-- `kPa` is kilo·`Pa`, `pS` is pico·`S`, `Mm` is mega·`m` (by symbol and by registered name) -/
example : ((rowOf "kPa").bind (fun c => (siReading look0 c).map (fun p => (p.1.sym, p.2))),
    (rowOf "pS").bind (fun c => (siReading look0 c).map (fun p => (p.1.sym, p.2))),
    (rowOf "Mm").bind (fun c => (siReading look0 c).map (fun p => (p.1.sym, p.2))))
    = (some (Sym.ofString "Pa", 3), some (Sym.ofString "S", -12), some (Sym.ofString "m", 6)) := by
  unfold rowOf look0; rw [poscC_flat]; decide +kernel
/-- an atomic base unit is not read at all (the predicate is not vacuously about everything) -/
example : (rowOf "m").map (covered look0) = some false := by
  unfold rowOf look0; rw [poscC_flat]; decide +kernel

end Barril
