/-
C13 - Operations never mutate their operands; copies and pickles are equal.

Model: `Barril/Model/Heap.lean` (a heap of mutable cells: containers, `[unit, exp]` lists, Fraction and
FractionValue objects; value objects and quantities that refer to them; every public operation written
after its Python code with explicit allocation, sharing and in-place writes).

The theorems are about ALL states `s` (any heap, any pool, well formed or not), ALL databases, ALL operations
of the alphabet `Op` and ALL histories.
-/
import Barril.Proofs.HeapInv

namespace Barril.Heap

/-- One public operation (arithmetic, comparison, conversion, validation, formatting, copy,
pickle, indexing, construction) from ANY state: every cell allocated before the call is unchanged after it,
the heap only grows, and every quantity object and every pool member that existed is still the same
object.  The in-place writes of the code (`unit_exp[0] = …`, `unit_exp1[1] = …`, `fraction.numerator = …`,
`result.SetFraction`, `values[index] = …`) are all in the model; the theorem says they hit new cells only. -/
theorem op_frame (db : Db) (s : St) (op : Op) : Frame s.heap.length s (step db s op).1 :=
  (step_intern db s op).1

/-- a cell allocated before the call has the same contents after it -/
theorem op_frame_cells (db : Db) (s : St) (op : Op) (r : Ref) (c : Cell) (h : s.heap[r]? = some c) :
    (step db s op).1.heap[r]? = some c :=
  (op_frame db s op).cell h

/-- quantities are never replaced or edited as objects -/
theorem op_frame_quants (db : Db) (s : St) (op : Op) (q : Nat) (o : QObj) (h : s.quants[q]? = some o) :
    (step db s op).1.quants[q]? = some o :=
  (op_frame db s op).quant h

/-- pool members are never replaced: results are NEW pool entries -/
theorem op_frame_objs (db : Db) (s : St) (op : Op) (i : Nat) (o : Obj) (h : s.objs[i]? = some o) :
    (step db s op).1.objs[i]? = some o :=
  (op_frame db s op).obj h

/-- a failed operation leaves no trace at all: this is how `step` is defined (the state a failed call has built is
dropped, its garbage being unreachable), not a fact about the code -/
theorem failed_op_no_trace (db : Db) (s : St) (op : Op) (e : ErrKind) (h : (step db s op).2 = .error e) :
    (step db s op).1 = s := by
  unfold step at *
  split <;> simp_all

/-- the frame property for whole histories (induction over the history) -/
theorem history_frame (db : Db) (ops : List Op) (s : St) : Frame s.heap.length s (run db s ops) :=
  (run_intern db ops s).1

/-- every pool member's snapshot (its value or container kind/identity/contents, the `[unit, exp]` lists of
its quantity as they are now, caption, derived flag, cached unit strings, dimension, FractionValue number
and fraction) is the same after any operation -/
theorem op_snap_stable (db : Db) (s : St) (op : Op) (i : Nat) (v : Snap) (h : snap s i = some v) :
    snap (step db s op).1 i = some v :=
  snap_stable (op_frame db s op) h

/-- ... and after any sequence of operations: the quantifier of C13 -/
theorem history_snap_stable (db : Db) (ops : List Op) (s : St) (i : Nat) (v : Snap) (h : snap s i = some v) :
    snap (run db s ops) i = some v :=
  snap_stable (history_frame db ops s) h

/-- stepwise form: at every prefix of a history every earlier snapshot still holds -/
theorem history_snap_stable_prefix (db : Db) (ops1 ops2 : List Op) (s : St) (i : Nat) (v : Snap)
    (h : snap (run db s ops1) i = some v) : snap (run db (run db s ops1) ops2) i = some v :=
  history_snap_stable db ops2 _ i v h

/-- the public `x.ValidateValues(values, quantity)` with ANY values (its own, another Array's container, a
container made by the caller) and ANY quantity (its own or another pool member's) is a read: the snapshot of `x`
(and of every other pool member) is the same afterwards, whether the call succeeds, fails or answers from the
cached verdict -/
theorem validateWith_reads_only (db : Db) (s : St) (i : Nat) (vals : ValSrc) (qsrc : Option Nat) (m : Nat) (v : Snap)
    (h : snap s m = some v) : snap (step db s (.validateWith i vals qsrc)).1 m = some v :=
  op_snap_stable db s _ m v h

/-- the same for `IsValid()` and `CheckValidity()` -/
theorem validation_reads_only (db : Db) (s : St) (i m : Nat) (v : Snap) (h : snap s m = some v) :
    snap (step db s (.isValid i)).1 m = some v ∧ snap (step db s (.checkValidity i)).1 m = some v :=
  ⟨op_snap_stable db s _ m v h, op_snap_stable db s _ m v h⟩

/-- `Array.GetValues()` / `GetValues(own unit)` hands out the INTERNAL container (no copy) and changes
nothing: the caller and the Array share one list.  The frame theorems are what makes this harmless as long
as only the library writes. -/
theorem getValues_none_is_internal (db : Db) (s s' : St) (i q : Nat) (c : Ref) (out : Out)
    (ho : s.objs[i]? = some (.array q c)) (h : exec db (.getValue i none) s = .ok (out, s')) :
    out = .cont c true ∧ s' = s := by
  have he : exec db (.getValue i none) = getValue db i none := rfl
  rw [he] at h
  unfold getValue at h
  rw [bind_eval, getObj_of ho] at h
  simp only [arrayValues, bind_eval] at h
  unfold getQ at h
  cases hq : s.quants[q]? with
  | none => rw [hq] at h; cases h
  | some o => rw [hq] at h; simp only [pure_eval] at h; cases h; exact ⟨rfl, rfl⟩

/-- `FractionScalar.GetValue(unit)`: the FractionValue handed out is a NEW object (allocated after every
cell of the state before the call), never the operand's -/
theorem fractionValue_conversion_is_new (db : Db) (s s' : St) (i q : Nat) (v : Ref) (u : Sym) (out : Out)
    (ho : s.objs[i]? = some (.fscalar q v)) (h : exec db (.getValue i (some u)) s = .ok (out, s')) :
    ∃ r, out = .fval r false ∧ s.heap.length ≤ r := by
  have h1 : getValue db i (some u) s = .ok (out, s') := h
  unfold getValue at h1
  rw [bind_of_ok (getObj_of ho)] at h1
  obtain ⟨r, s1, hc, h2⟩ := bind_ok h1
  cases h2
  exact ⟨r, rfl, (convertFractionValue_fresh.run s r _ (Nat.le_refl _) hc).2⟩

/-- `copy.copy(x)`, `copy.deepcopy(x)`, `x.Copy()` return `x` itself and change nothing -/
theorem copy_self (db : Db) (s s' : St) (i : Nat) (out : Out) (h : exec db (.copy i) s = .ok (out, s')) :
    out = .obj i false ∧ s' = s := by
  rw [exec_copy] at h
  obtain ⟨o, s1, ho, h2⟩ := bind_ok h
  obtain ⟨rfl, _⟩ := (getObj_step (L := .same)).run _ _ _ trivial ho
  cases h2
  exact ⟨rfl, rfl⟩

/-- `x == x` (`__eq__` of the object's class) for every well-formed pool member: simple, derived, empty, with or
without caption.  As `copy.copy(x)` IS `x` (`copy_self`), this is what `copy.copy(x) == x` comes to; no copy occurs
in the statement. -/
theorem copy_eq (s : St) (i : Nat) (a : Snap) (h : snap s i = some a) : objEq i i s = .ok (true, s) :=
  objEq_of_same_snap h h

/-- `x.CreateCopy()`: a NEW pool member whose snapshot is identical to the original's (same value or the
same container / FractionValue object, same quantity), the original unchanged, and `x.CreateCopy() == x` -/
theorem createCopy_eq (db : Db) (s s' : St) (i : Nat) (out : Out) (a : Snap) (ha : snap s i = some a)
    (h : exec db (.createCopy i none none) s = .ok (out, s')) :
    out = .obj s.objs.length true ∧ i < s.objs.length ∧ snap s' i = some a ∧ snap s' s.objs.length = some a ∧
      objEq i s.objs.length s' = .ok (true, s') := by
  obtain ⟨o, ho, hout, hs'⟩ := createCopy_plain ha h
  have h1 := snap_stable ((exec_step db _).run s out s' trivial h).1.1 ha
  have h2 : snap s' s.objs.length = some a := by
    rw [← ha]; subst hs'
    exact snap_congr (s := s) (s' := { s with objs := s.objs ++ [o] }) rfl rfl (by simp [ho])
  exact ⟨hout, (List.getElem?_eq_some_iff.mp ho).1, h1, h2, objEq_of_same_snap h1 h2⟩

/-
The full-strength statement is `pickle_scalar_eq` / `pickle_scalar_eq_reachable` below (proved from the interning
invariant `CInv` of `Proofs/HeapPickle.lean`, which `Proofs/HeapInv.lean` shows to hold on every reachable state).
The `_partial` form needs no invariant and no hypothesis on the database.  What it proves: the unpickled Scalar is a
new pool member with the SAME number whose quantity is what `ObtainQuantity` returns for the reduced state of the
original's quantity, and `unpickled == original` holds exactly when that re-obtained quantity equals the original's
(`Quantity.__eq__`).  The examples of `Props/C13Examples.lean` run the full round trip on derived, empty and
captioned cases.
-/
theorem pickle_scalar_eq_partial (db : Db) (s s' : St) (i q : Nat) (x : Rat) (out : Out)
    (ho : s.objs[i]? = some (.scalar q x)) (h : exec db (.pickle i) s = .ok (out, s')) :
    ∃ j q', out = .obj j true ∧ s.objs.length ≤ j ∧ s'.objs[i]? = some (.scalar q x) ∧
      s'.objs[j]? = some (.scalar q' x) ∧
      ∀ b, qEq q q' s' = .ok (b, s') → objEq i j s' = .ok (b, s') := by
  obtain ⟨q', s1, hp, hout, hs'⟩ := pickle_scalar_parts ho h
  have fr := (pickleQuantity_step.run s q' s1 trivial hp).1.1
  have hoi : s1.objs[i]? = some (.scalar q x) := fr.obj ho
  have hlen : s.objs.length ≤ s1.objs.length := by
    obtain ⟨t, ht⟩ := fr.objs; rw [ht]; simp
  have hi' : s'.objs[i]? = some (.scalar q x) := by subst hs'; exact getElem?_append_some hoi
  have hj' : s'.objs[s1.objs.length]? = some (.scalar q' x) := by subst hs'; simp
  refine ⟨s1.objs.length, q', hout, hlen, hi', hj', ?_⟩
  intro b hb
  rw [objEq_scalar hi' hj' hb]
  simp

/-
The same for FixedArray (full strength: `pickle_fixedarray_eq` below).  Proved here without the invariant: same
dimension, a NEW container cell of the same kind with the same contents (so the original's container is not shared
with the unpickled object), and equality reduces to equality of the re-obtained quantity and of the cached unit
strings.
-/
theorem pickle_fixedarray_eq_partial (db : Db) (s s' : St) (i d q : Nat) (c : Ref) (out : Out)
    (ho : s.objs[i]? = some (.fixed d q c)) (h : exec db (.pickle i) s = .ok (out, s')) :
    ∃ j q' c' k xs, out = .obj j true ∧ s.objs.length ≤ j ∧ s.heap.length ≤ c' ∧
      s'.objs[i]? = some (.fixed d q c) ∧ s'.objs[j]? = some (.fixed d q' c') ∧
      s'.heap[c]? = some (.seq k xs) ∧ s'.heap[c']? = some (.seq k xs) ∧
      ∀ o o', s'.quants[q]? = some o → s'.quants[q']? = some o' → qEq q q' s' = .ok (true, s') →
        unitOfComp o.derived o.comp = unitOfComp o'.derived o'.comp → objEq i j s' = .ok (true, s') := by
  obtain ⟨q', s1, k, xs, hp, hc, hout, hs'⟩ := pickle_fixed_parts ho h
  have fr := (pickleQuantity_step.run s q' s1 trivial hp).1.1
  have hoi : s1.objs[i]? = some (.fixed d q c) := fr.obj ho
  have hlen : s.objs.length ≤ s1.objs.length := by
    obtain ⟨t, ht⟩ := fr.objs; rw [ht]; simp
  have hi' : s'.objs[i]? = some (.fixed d q c) := by subst hs'; exact getElem?_append_some hoi
  have hj' : s'.objs[s1.objs.length]? = some (.fixed d q' s1.heap.length) := by subst hs'; simp
  have hc1 : s'.heap[c]? = some (.seq k xs) := by subst hs'; exact getElem?_append_some hc
  have hc2 : s'.heap[s1.heap.length]? = some (.seq k xs) := by subst hs'; simp
  refine ⟨s1.objs.length, q', s1.heap.length, k, xs, hout, hlen, fr.len, hi', hj', hc1, hc2, ?_⟩
  intro o o' hq hq' he hu
  rw [objEq_fixed hi' hj' hc1 hc2 he hq hq']
  simp [hu]

/-- `pickle.loads(pickle.dumps(x)) == x` for a Scalar on ANY quantity (simple, derived, empty, with an unknown-unit
caption): on every state that satisfies the interning invariant `CInv` (every quantity object is as constructed,
every `quantities_cache` entry agrees with its key - the heap-model form of C07's invariant) the unpickled Scalar
is a NEW pool member with exactly the same snapshot as the original (number, dict contents, caption, derived
flag, cached unit strings), the original is unchanged, and `__eq__` answers True.  `hz`: no category is named
`''` (the model writes `None` and `''` alike as 0). -/
theorem pickle_scalar_eq (db : Db) (hz : db.catByName 0 = none) (s s' : St) (inv : CInv db s) (i : Nat) (qs : QSnap)
    (x : Rat) (out : Out) (hs : snap s i = some (.scalar qs x)) (h : exec db (.pickle i) s = .ok (out, s')) :
    ∃ j, out = .obj j true ∧ s.objs.length ≤ j ∧ snap s' i = some (.scalar qs x) ∧
      snap s' j = some (.scalar qs x) ∧ objEq i j s' = .ok (true, s') := by
  obtain ⟨q, ho, hq⟩ := snap_inv hs
  obtain ⟨q', s1, hp, hout, hs'⟩ := pickle_scalar_parts ho h
  have hlen : s.objs.length ≤ s1.objs.length := by
    obtain ⟨t, ht⟩ := (pickleQuantity_step.run s q' s1 trivial hp).1.1.objs; rw [ht]; simp
  have g : Grow s1 s' := by subst hs'; exact ⟨⟨[], by simp⟩, rfl, rfl, ⟨[_], rfl⟩⟩
  have h1 := snap_stable ((exec_step db _).run s out s' trivial h).1.1 hs
  have h2 : snap s' s1.objs.length = some (.scalar qs x) :=
    snap_of_facts ⟨q', by subst hs'; simp, qsnap_stable (g.frame (Nat.le_refl _)) (pickleQuantity_same hz inv hq hp)⟩
  exact ⟨s1.objs.length, hout, hlen, h1, h2, objEq_of_same_snap h1 h2⟩

/-- the same for a FixedArray: the unpickled array is a NEW pool member over a NEW container cell `c'` (allocated
after every cell of the state before) of the same kind with the same contents, same dimension, a quantity with
the same snapshot, and `__eq__` answers True -/
theorem pickle_fixedarray_eq (db : Db) (hz : db.catByName 0 = none) (s s' : St) (inv : CInv db s) (i d : Nat)
    (qs : QSnap) (c : Ref) (k : Kind) (xs : List Rat) (out : Out) (hs : snap s i = some (.fixed d qs c k xs))
    (h : exec db (.pickle i) s = .ok (out, s')) :
    ∃ j c', out = .obj j true ∧ s.objs.length ≤ j ∧ s.heap.length ≤ c' ∧ snap s' i = some (.fixed d qs c k xs) ∧
      snap s' j = some (.fixed d qs c' k xs) ∧ objEq i j s' = .ok (true, s') := by
  obtain ⟨q, ho, hq, hcell⟩ := snap_inv hs
  obtain ⟨q', s1, k1, xs1, hp, hc, hout, hs'⟩ := pickle_fixed_parts ho h
  have fr := (pickleQuantity_step.run s q' s1 trivial hp).1.1
  have hlen : s.objs.length ≤ s1.objs.length := by
    obtain ⟨t, ht⟩ := fr.objs; rw [ht]; simp
  obtain ⟨rfl, rfl⟩ : k1 = k ∧ xs1 = xs := by
    have := fr.cell hcell
    rw [hc] at this
    simpa using this
  have g : Grow s1 s' := by subst hs'; exact ⟨⟨[_], rfl⟩, rfl, rfl, ⟨[_], rfl⟩⟩
  have h1 := snap_stable ((exec_step db _).run s out s' trivial h).1.1 hs
  have h2 : snap s' s1.objs.length = some (.fixed d qs s1.heap.length k1 xs1) := by
    refine snap_of_facts
      ⟨q', ?_, qsnap_stable (g.frame (Nat.le_refl _)) (pickleQuantity_same hz inv hq hp), ?_⟩ <;> subst hs' <;> simp
  exact ⟨s1.objs.length, s1.heap.length, hout, hlen, fr.len, h1, h2, objEq_fixed_same h1 h2⟩

/-- the interning invariant holds after EVERY history of public operations from the empty session (induction over
the history; every operation of the alphabet `Op`, failed ones included): the heap-model counterpart of C07's
`reachable_invariant` -/
theorem interning_invariant_reachable (db : Db) (hz : db.catByName 0 = none) (ops : List Op) :
    CInv db (run db St.empty ops) :=
  (run_intern db ops St.empty).2 hz (CInv.empty db)

/-- `pickle_scalar_eq` for every reachable state: after ANY history, a pickle round trip of ANY Scalar of the pool
(on a simple, derived, empty or unknown-caption quantity) that succeeds gives a new, equal Scalar with the
identical snapshot, and leaves the original as it was -/
theorem pickle_scalar_eq_reachable (db : Db) (hz : db.catByName 0 = none) (ops : List Op) (s' : St) (i : Nat)
    (qs : QSnap) (x : Rat) (out : Out) (hs : snap (run db St.empty ops) i = some (.scalar qs x))
    (h : exec db (.pickle i) (run db St.empty ops) = .ok (out, s')) :
    ∃ j, out = .obj j true ∧ (run db St.empty ops).objs.length ≤ j ∧ snap s' i = some (.scalar qs x) ∧
      snap s' j = some (.scalar qs x) ∧ objEq i j s' = .ok (true, s') :=
  pickle_scalar_eq db hz _ s' (interning_invariant_reachable db hz ops) i qs x out hs h

/-- the same for a FixedArray of the pool -/
theorem pickle_fixedarray_eq_reachable (db : Db) (hz : db.catByName 0 = none) (ops : List Op) (s' : St) (i d : Nat)
    (qs : QSnap) (c : Ref) (k : Kind) (xs : List Rat) (out : Out)
    (hs : snap (run db St.empty ops) i = some (.fixed d qs c k xs))
    (h : exec db (.pickle i) (run db St.empty ops) = .ok (out, s')) :
    ∃ j c', out = .obj j true ∧ (run db St.empty ops).objs.length ≤ j ∧ (run db St.empty ops).heap.length ≤ c' ∧
      snap s' i = some (.fixed d qs c k xs) ∧ snap s' j = some (.fixed d qs c' k xs) ∧
      objEq i j s' = .ok (true, s') :=
  pickle_fixedarray_eq db hz _ s' (interning_invariant_reachable db hz ops) i d qs c k xs out hs h

end Barril.Heap
