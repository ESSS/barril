/- Non-vacuity examples of C04 (kept apart from Props/C04.lean: they evaluate
concrete instances, many over the regenerated tables, and must not be able to stop the theorem module from
building).  Not property theorems: the check builds this module separately and only records the outcome. -/
import Barril.Props.C04
import Barril.Gen.ThmFlat

namespace Barril.Alg
open Barril Barril.Gen

section examples
private def S (s : String) : Sym := Sym.ofString s
private def qM : Quantity := ⟨[⟨S "length", S "m", 1⟩], 0, false⟩
private def qCm : Quantity := ⟨[⟨S "length", S "cm", 1⟩], 0, false⟩
private def qM2 : Quantity := ⟨[⟨S "length", S "m", 2⟩], 0, true⟩
private def qDepthFt : Quantity := ⟨[⟨S "depth", S "ft", 1⟩], 0, false⟩
private def qS : Quantity := ⟨[⟨S "time", S "s", 1⟩], 0, false⟩

example : Known poscDb qM := known_of_b (by rw [Gen.poscDb_flat]; decide +kernel)
example : Known poscDb qM2 ∧ ScaleOnlyQ poscDb qM2 :=
  ⟨known_of_b (by rw [Gen.poscDb_flat]; decide +kernel), scaleOnlyQ_of_b (by rw [Gen.poscDb_flat]; decide +kernel)⟩
example : Known poscDb qDepthFt ∧ ScaleOnlyQ poscDb qDepthFt :=
  ⟨known_of_b (by rw [Gen.poscDb_flat]; decide +kernel), scaleOnlyQ_of_b (by rw [Gen.poscDb_flat]; decide +kernel)⟩
example : opNew poscDb .mul qM qM 1 1 = .ok (qM2, 1) := by rw [Gen.poscDb_flat]; decide +kernel
example : opNew poscDb .mul qCm qM2 1 1 = .ok (⟨[⟨S "length", S "cm", 3⟩], 0, true⟩, 10000) := by rw [Gen.poscDb_flat]; decide +kernel
example : opNew poscDb .mul qM2 qCm 1 1 = .ok (⟨[⟨S "length", S "m", 3⟩], 0, true⟩, R 1 100) := by rw [Gen.poscDb_flat]; decide +kernel
example : opNew poscDb .mul qM qDepthFt 2 1
    = .ok (⟨[⟨S "length", S "m", 1⟩, ⟨S "depth", S "m", 1⟩], 0, true⟩, R 6096 10000) := by rw [Gen.poscDb_flat]; decide +kernel
example : opNew poscDb .div qM2 qM 6 2 = .ok (qM, 3) := by rw [Gen.poscDb_flat]; decide +kernel
example : opNew poscDb .div qM qM 5 5 = .ok (⟨[], 0, true⟩, 1) := by rw [Gen.poscDb_flat]; decide +kernel
example : opNew poscDb .floordiv qM qCm (R 75 10) 200 = .ok (⟨[], 0, true⟩, 3) := by rw [Gen.poscDb_flat]; decide +kernel
example : opNew poscDb .div qM qS 1 0 = .error .other := by rw [Gen.poscDb_flat]; decide +kernel
example : pow poscDb qM 2 3 = .ok (⟨[⟨S "length", S "m", 3⟩], 0, true⟩, 8) := by rw [Gen.poscDb_flat]; decide +kernel
-- n − 1 successive products for every n: a**5, a**6 (exponent n, value v^n); n ≤ 1 returns the operand itself
example : pow poscDb qM 2 5 = .ok (⟨[⟨S "length", S "m", 5⟩], 0, true⟩, 32) := by rw [Gen.poscDb_flat]; decide +kernel
example : pow poscDb qS (-1) 6 = .ok (⟨[⟨S "time", S "s", 6⟩], 0, true⟩, 1) := by rw [Gen.poscDb_flat]; decide +kernel
example : pow poscDb qM 2 0 = .ok (qM, 2) ∧ pow poscDb qM 2 (-3) = .ok (qM, 2) := by
  rw [Gen.poscDb_flat]
  exact ⟨by decide +kernel, by decide +kernel⟩
-- the general theorem instantiated: dims of a**11 are 11·dims a, base magnitude the 11th power
example {q' : Quantity} {v' : Rat} (h : pow poscDb qM2 3 11 = .ok (q', v')) :
    (∀ qt, dim poscDb qt q'.entries = 11 * dim poscDb qt qM2.entries) ∧ baseMag poscDb q' v' = baseMag poscDb qM2 3 ^ 11 :=
  pow_dim_mag posc_allWF (by decide) (known_of_b (by rw [Gen.poscDb_flat]; decide +kernel)) (Or.inl (by decide)) h
example : opNew poscDb .mul ⟨[⟨S "temperature", S "degC", 1⟩], 0, false⟩
    ⟨[⟨S "length", S "m", 1⟩, ⟨S "temperature", S "K", 1⟩], 0, true⟩ 2 3
    = .ok (⟨[⟨S "temperature", S "degC", 2⟩, ⟨S "length", S "m", 1⟩], 0, true⟩, 6) := by rw [Gen.poscDb_flat]; decide +kernel
-- the reported quantity type: two categories of one quantity type are ADDED (m * cm(diameter) reports length ** 2),
-- a type whose exponents cancel is not written
example : typeExps poscDb [⟨S "length", S "m", 1⟩, ⟨S "diameter", S "m", 1⟩] = .ok [(S "length", 2)] := by decide +kernel
example : reportedTypes poscDb [⟨S "length", S "m", 2⟩, ⟨S "time", S "s", -1⟩, ⟨S "diameter", S "m", -2⟩]
    = .ok [(S "time", -1)] := by decide +kernel
example {q : Quantity} {v : Rat} {l : List (Sym × Int)}
    (h : opNew poscDb .mul qM ⟨[⟨S "diameter", S "cm", 1⟩], 0, false⟩ 6 50 = .ok (q, v))
    (t : typeExps poscDb q.entries = .ok l) : expOf (S "length") l = 1 + 1 :=
  mul_reported_types posc_allWF (known_of_b (by rw [Gen.poscDb_flat]; decide +kernel))
    (known_of_b (by rw [Gen.poscDb_flat]; decide +kernel)) h
    (l1 := [(S "length", 1)]) (l2 := [(S "length", 1)]) (by decide +kernel) (by decide +kernel) t (S "length")
end examples

end Barril.Alg
