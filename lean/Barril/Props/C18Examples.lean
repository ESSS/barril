/- Non-vacuity examples of C18 and the counterexample over the shipped table `fs_convert_tiny_counterexample`, in a
module of their own (tools/split_examples.py): they evaluate concrete instances, many over the regenerated tables,
and must not be able to stop the theorem module from building.  The check builds this module separately and only
records the outcome. -/
import Barril.Props.C18
import Barril.Gen.ThmFlat

namespace Barril.Frac
open Barril Barril.Gen

example : obtain poscDb (Sym.ofString "temperature") (Sym.ofString "degC")
    = .ok ⟨Sym.ofString "temperature", Sym.ofString "degC"⟩ := by rw [Gen.poscDb_flat]; decide +kernel
/-- 5 1/2 degC = 278.15 + 1/2 K = 278.65 K (the repaired defect #23) -/
example : convertFV poscDb (Sym.ofString "temperature") (Sym.ofString "degC") (Sym.ofString "K") ⟨5, ⟨1 / 2⟩⟩
    = .ok ⟨R 27815 100, ⟨1 / 2⟩⟩ := by rw [Gen.poscDb_flat]; decide +kernel
example : (⟨Sym.ofString "temperature", Sym.ofString "degC"⟩ : Qty).convertScalarValue poscDb (Sym.ofString "K") (11 / 2)
    = .ok (R 27865 100) := by rw [Gen.poscDb_flat]; decide +kernel
example : convertFV poscDb (Sym.ofString "length") (Sym.ofString "in") (Sym.ofString "mm") ⟨5, ⟨3 / 4⟩⟩
    = .ok ⟨127, ⟨R 381 20⟩⟩ := by rw [Gen.poscDb_flat]; decide +kernel
example : convertFV poscDb (Sym.ofString "pressure") (Sym.ofString "psig") (Sym.ofString "Pa") ⟨0, ⟨1 / 2⟩⟩
    = .ok ⟨101325, ⟨R 6894757 2000⟩⟩ := by rw [Gen.poscDb_flat]; decide +kernel

/-- the direct classmethod call with the target-unit quantity: 2 1/2 cm = 25 mm (20 mm + 10/2 mm), and
degC → degF with a degF quantity keeps the offset: 2 1/2 degC = 36.5 degF -/
example : convertFractionValue poscDb (.quantity ⟨Sym.ofString "length", Sym.ofString "mm"⟩)
    (Sym.ofString "cm") (Sym.ofString "mm") ⟨2, ⟨1 / 2⟩⟩ = .ok ⟨20, ⟨5⟩⟩ := by rw [Gen.poscDb_flat]; decide +kernel
example : (convertFractionValue poscDb (.quantity ⟨Sym.ofString "temperature", Sym.ofString "degF"⟩)
    (Sym.ofString "degC") (Sym.ofString "degF") ⟨2, ⟨1 / 2⟩⟩).map FV.value = .ok (R 73 2) := by rw [Gen.poscDb_flat]; decide +kernel
example : convertFractionValue poscDb (.qtype (Sym.ofString "length"))
    (Sym.ofString "cm") (Sym.ofString "mm") ⟨2, ⟨1 / 2⟩⟩ = .ok ⟨20, ⟨5⟩⟩ := by rw [Gen.poscDb_flat]; decide +kernel

example : Printable (21 / 4) := Or.inr ⟨525000, 5, by norm_num, by norm_num, by norm_num, by norm_num⟩
example : Printable (-3 / 10000) := Or.inr ⟨300000, 9, by norm_num, by norm_num, by norm_num, by
  rw [abs_of_neg (by norm_num)]; norm_num⟩
example : (⟨21 / 4, ⟨-3 / 4⟩⟩ : FV).str = ['5', '.', '2', '5', ' ', '-', '3', '/', '4'] := by decide +kernel
example : parse ['5', '.', '2', '5', ' ', '-', '3', '/', '4'] = .ok ⟨21 / 4, ⟨-3 / 4⟩⟩ := by decide +kernel
/-- the regular expression backtracks: "1.25.5/4" is read as 1.2 and 5.5/4 -/
example : parse ['1', '.', '2', '5', '.', '5', '/', '4'] = .ok ⟨6 / 5, ⟨11 / 8⟩⟩ := by decide +kernel
example : parse ['1', '/', '0'] = .error .assertion := by decide +kernel
example : parse ['5', ',', '5', ' ', '1', '/', '2'] = .error .value := by decide +kernel

/-- the hypotheses of `createFromFloat_exact` on -2.75 (two decimal places) -/
example : ∃ v, createFromFloat (-11 / 4) = .ok v ∧ v.value = -11 / 4 :=
  createFromFloat_exact (-11 / 4) 2 (by norm_num) (by norm_num)
    (by rw [abs_of_neg (by norm_num)]; norm_num) (by rw [abs_of_neg (by norm_num)]; norm_num)
example : createFromFloat (3 / 8) = .ok ⟨0, ⟨3 / 8⟩⟩ := by decide +kernel
example : createFromFloat (-11 / 4) = .ok ⟨-2, ⟨-3 / 4⟩⟩ := by decide +kernel
example : createFromFloat (12345678 / 100000000) = .ok ⟨0, ⟨6172839 / 50000000⟩⟩ := by decide +kernel
example : decParts (|(-11 / 4 : Rat)|) = some ⟨275, 3, 1⟩ := by decide +kernel
example : getFractionalPart (|(-11 / 4 : Rat)|) ⟨275, 3, 1⟩ = 3 / 4 := by decide +kernel
example : decParts (3 / 4) = some ⟨75, 2, 0⟩ ∧ getMaxNumerator ⟨75, 2, 0⟩ = 75 := by decide +kernel


/-! ### witnesses over the shipped table (a changed table value can change them without touching a property
theorem, hence here and not in the theorem module) -/

/-- **the bound is attained: below `SMALL` the fraction is lost.**  `0 1/2 um` converts to `0 km`
although `0.5 um = 5·10⁻¹⁰ km` (known finding `tiny-increment`; the full-strength statement
"`r.value = y` for all units" is false) -/
theorem fs_convert_tiny_counterexample :
    convertFV poscDb (Sym.ofString "length") (Sym.ofString "um") (Sym.ofString "km") ⟨0, ⟨1 / 2⟩⟩
      = .ok ⟨0, ⟨0⟩⟩
    ∧ (⟨Sym.ofString "length", Sym.ofString "um"⟩ : Qty).convertScalarValue poscDb (Sym.ofString "km") (1 / 2)
      = .ok (1 / 2000000000) := by
  rw [Gen.poscDb_flat]
  constructor <;> decide +kernel

end Barril.Frac
