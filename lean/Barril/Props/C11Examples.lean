/- Non-vacuity examples of C11 (moved out of Props/C11.lean by tools/split_examples.py: they evaluate
concrete instances, many over the regenerated tables, and must not be able to stop the theorem module from
building).  Not property theorems: the check builds this module separately and only records the outcome. -/
import Barril.Props.C11
import Barril.Gen.ThmFlat

namespace Barril.Fixed
open Barril

section Examples

private def uM : Sym := Sym.ofBytes [109]
private def uCm : Sym := Sym.ofBytes [99, 109]
private def cLength : Sym := Sym.ofBytes [108, 101, 110, 103, 116, 104]
private def cDepth : Sym := Sym.ofBytes [100, 101, 112, 116, 104]
private def db0 : Db := ⟨[], [], []⟩

/-- `FixedArray(3, [1, 2, 3], 'm')` -/
example : runRoute Gen.poscDb (.init .none 3 (.valFirst (some (.sized ⟨.list, [1, 2, 3]⟩)) (some uM) none))
    = .ok ⟨.none, ⟨3, ⟨.list, [1, 2, 3]⟩, .simple cLength uM⟩⟩ := by
  rw [Gen.poscDb_flat]; decide +kernel

/-- `FixedArray(3, [1, 2], 'm')`, `FixedArray(1, [1], 'm')`: `ValueError` -/
example : runRoute Gen.poscDb (.init .none 3 (.valFirst (some (.sized ⟨.list, [1, 2]⟩)) (some uM) none))
    = .error .value := by
  rw [Gen.poscDb_flat]; decide +kernel
example : runRoute Gen.poscDb (.init .none 1 (.valFirst (some (.sized ⟨.list, [1]⟩)) (some uM) none))
    = .error .value := by
  rw [Gen.poscDb_flat]; decide +kernel

/-- `FixedArray(2, 'depth')`: the default value `[0.0, 0.0]` in the default unit of the category -/
example : (runRoute Gen.poscDb (.init .none 2 (.catFirst (.str cDepth) none none))).toOption.map (·.st.vals)
    = some ⟨.list, [0, 0]⟩ := by
  rw [Gen.poscDb_flat]; decide +kernel

/-- `CreateWithQuantity` on the base class takes the dimension from the values; a subclass pinning 3
rejects two values; one value is rejected everywhere; the hypotheses of `internalCreate_spec` hold -/
example : runRoute db0 (.cwq .none .empty (some (.sized ⟨.tuple, [1, 2]⟩)) none none)
    = .ok ⟨.none, ⟨2, ⟨.tuple, [1, 2]⟩, .empty⟩⟩ := by decide +kernel
example : runRoute db0 (.cwq (.val 3) .empty (some (.sized ⟨.tuple, [1, 2]⟩)) none none) = .error .value := by
  decide +kernel
example : runRoute db0 (.cwq .none .empty (some (.sized ⟨.tuple, [1]⟩)) none none) = .error .value := by
  decide +kernel
example : runRoute db0 (.cea .none 1 none) = .error .value := by decide +kernel
example : mergeValue none (some (.sized ⟨.list, [1, 2]⟩)) = .ok (.sized ⟨.list, [1, 2]⟩) := by decide +kernel
example : accepts (lookupDim (.val 3) none) (some 3) 3 = true ∧ accepts (lookupDim .none none) (some 3) 2 = false := by
  decide

/-- a class without the attribute and no keyword: `AttributeError`, not `ValueError` (why
`internalCreate_spec` needs its second hypothesis) -/
example : runRoute db0 (.internal .missing none .empty (some (.sized ⟨.list, [1, 2]⟩)) none none)
    = .error .other := by decide +kernel

/-- a chain: build `[1, 2, 3] m`; `ChangingIndex(-1, Scalar(50 cm))` with `use_value_unit`; add the
first array to the result; `CreateCopy` with two values is rejected and changes nothing -/
example : run Gen.poscDb (opFuncSimple Gen.poscDb) []
      [.make (.init .none 3 (.valFirst (some (.sized ⟨.list, [1, 2, 3]⟩)) (some uM) none)),
       .op 0 (.changingIndex (-1) (.scalar ⟨.simple cLength uCm, 50⟩) true),
       .op 1 (.arith .sum (.other 0)),
       .op 2 (.createCopy (some (.sized ⟨.list, [1, 2]⟩)) none none)]
    = [⟨.none, ⟨3, ⟨.list, [1, 2, 3]⟩, .simple cLength uM⟩⟩,
       ⟨.none, ⟨3, ⟨.tuple, [100, 200, 50]⟩, .simple cLength uCm⟩⟩,
       ⟨.none, ⟨3, ⟨.list, [200, 400, 350]⟩, .simple cLength uCm⟩⟩] := by
  rw [Gen.poscDb_flat]; decide +kernel

/-- `IndexAsScalar(-3)` in centimetres; index 3 is out of range -/
example : indexAsScalar Gen.poscDb ⟨.none, ⟨3, ⟨.list, [1, 2, 3]⟩, .simple cLength uM⟩⟩ (-3)
    (some (.simple cLength uCm)) = .ok ⟨.simple cLength uCm, 100⟩ := by
  rw [Gen.poscDb_flat]; decide +kernel
example : indexAsScalar Gen.poscDb ⟨.none, ⟨3, ⟨.list, [1, 2, 3]⟩, .simple cLength uM⟩⟩ 3 none
    = .error .index := by
  rw [Gen.poscDb_flat]; decide +kernel
example : normIndex 3 (-3) = some 0 ∧ normIndex 3 (-4) = none ∧ normIndex 3 2 = some 2 ∧ normIndex 3 3 = none := by
  decide

/-- a curve over arrays of length 3, 3, 2: the shorter image is rejected and the curve keeps what it had -/
example : (Curve.new ⟨0, .flat 3⟩ ⟨1, .flat 3⟩).toOption.map
      (·.runSetters [.image ⟨2, .flat 2⟩, .domain ⟨0, .flat 3⟩])
    = some ⟨⟨0, .flat 3⟩, ⟨0, .flat 3⟩⟩ := by decide
example : Curve.new ⟨0, .flat 3⟩ ⟨1, .flat 2⟩ = .error .value := by decide

/-- 4 flat values against 2 pairs: the same number of scalars but 4 points against 2 — rejected, by
the constructor and by both setters of a valid 4-point curve; 2 flat values against 2 triples: accepted -/
example : Shape.size (.flat 4) = Shape.size (.points 2 2) ∧
    Curve.new ⟨0, .flat 4⟩ ⟨1, .points 2 2⟩ = .error .value ∧
    Curve.new ⟨0, .points 2 2⟩ ⟨1, .flat 4⟩ = .error .value := by decide
example : (Curve.new ⟨0, .flat 4⟩ ⟨1, .flat 4⟩).toOption.map
      (·.runSetters [.domain ⟨2, .points 2 2⟩, .image ⟨2, .points 2 2⟩, .domain ⟨3, .points 4 3⟩])
    = some ⟨⟨0, .flat 4⟩, ⟨3, .points 4 3⟩⟩ := by decide
example : Curve.new ⟨0, .flat 2⟩ ⟨1, .points 2 3⟩ = .ok ⟨⟨0, .flat 2⟩, ⟨1, .points 2 3⟩⟩ := by decide

/-- `[7, -7, 9] m // 2` is `[3, -4, 4] m` (floor, not truncation); assigning to `dimension` is refused and
nothing is appended to the store -/
example : run Gen.poscDb (opFuncSimple Gen.poscDb) []
      [.make (.init .none 3 (.valFirst (some (.sized ⟨.list, [7, -7, 9]⟩)) (some uM) none)),
       .op 0 (.arith .floordiv (.operand (.num 2) true)),
       .op 0 (.assign .dimension)]
    = [⟨.none, ⟨3, ⟨.list, [7, -7, 9]⟩, .simple cLength uM⟩⟩,
       ⟨.none, ⟨3, ⟨.list, [3, -4, 4]⟩, .simple cLength uM⟩⟩] := by
  rw [Gen.poscDb_flat]; decide +kernel

/-! #### the rest of the public surface -/

/-- Python slices of `[10, 11, 12, 13, 14]`: `[::-2]`, `[-3:10]`, `[4:0:-1]`, `[1:1]`, `[::0]` -/
example : pySlice [10, 11, 12, 13, 14] ⟨none, none, some (-2)⟩ = .ok [14, 12, 10] ∧
    pySlice [10, 11, 12, 13, 14] ⟨some (-3), some 10, none⟩ = .ok [12, 13, 14] ∧
    pySlice [10, 11, 12, 13, 14] ⟨some 4, some 0, some (-1)⟩ = .ok [14, 13, 12, 11] ∧
    pySlice [10, 11, 12, 13, 14] ⟨some 1, some 1, none⟩ = .ok ([] : List Nat) ∧
    pySlice [10, 11, 12, 13, 14] ⟨none, none, some 0⟩ = (.error .value : Except ErrKind (List Nat)) := by decide +kernel

/-- `len`, `array[-1]`, `array[3]`, `array[::2]` (a tuple, not a FixedArray), `CheckValues`, `==` on `(1, 2, 3) m` -/
example :
    let a : Obj := ⟨.none, ⟨3, ⟨.tuple, [1, 2, 3]⟩, .simple cLength uM⟩⟩
    let b : Obj := ⟨.none, ⟨3, ⟨.list, [1, 2, 3]⟩, .simple cLength uM⟩⟩
    let F := opFuncSimple db0
    runOp db0 F [] a .len = .ok (.int 3) ∧
    runOp db0 F [] a (.getItem (-1)) = .ok (.num 3) ∧
    runOp db0 F [] a (.getItem 3) = .error .index ∧
    runOp db0 F [] a (.getSlice ⟨none, none, some 2⟩) = .ok (.vals ⟨.tuple, [1, 3]⟩) ∧
    runOp db0 F [] a (.checkValues (.sized ⟨.list, [7, 8, 9]⟩) none) = .ok .unit ∧
    runOp db0 F [] a (.checkValues (.sized ⟨.list, [7, 8]⟩) none) = .error .value ∧
    runOp db0 F [] a (.checkValues (.sized ⟨.list, [7, 8]⟩) (some 2)) = .ok .unit ∧
    runOp db0 F [b] a (.eq (.store 0)) = .ok (.bool true) ∧
    runOp db0 F [b] a (.eq .foreign) = .ok (.bool false) ∧
    runOp db0 F [] a (.createCopyKw none none none .dimension) = .error .type ∧
    runOp db0 F [] a (.createCopyKw none none none .unitDatabase) = .ok (.obj a) := by decide +kernel

/-- `FixedArray.FromScalars([Scalar(1, 'm'), Scalar(50, 'cm')])`: `TypeError`; with `unit='kg'`: the units error of
the first value comes first; without scalars and with both keywords: the failed `assert` -/
example : fromScalars Gen.poscDb .none [⟨.simple cLength uM, 1⟩, ⟨.simple cLength uCm, 50⟩] none none = .error .type ∧
    fromScalars Gen.poscDb .none [] (some uM) (some cLength) = .error .assertion ∧
    fromScalars Gen.poscDb .none [] none none = .error .type := by
  rw [Gen.poscDb_flat]; decide +kernel

/-- the size-only `operation_func`: `(1, 2, 3) m * [4, 5, 6] m` is a list of 3, against two values `ValueError` -/
example :
    let a : Obj := ⟨.none, ⟨3, ⟨.tuple, [1, 2, 3]⟩, .simple cLength uM⟩⟩
    (doOperation opFuncShape a .mul (.arr ⟨.list, [4, 5, 6]⟩ (.simple cLength uM)) true).toOption.map
        (fun r => (r.cls, r.st.dim, r.st.vals.kind, r.st.vals.xs.length)) = some (.none, 3, .list, 3) ∧
    doOperation opFuncShape a .mul (.arr ⟨.list, [4, 5]⟩ (.simple cLength uM)) true = .error .value := by decide +kernel

/-- a faithful content for the references `⟨0, flat 3⟩` (image, a list in m) and `⟨1, points 3 2⟩` (domain, an ndarray) -/
private def h0 : Content := fun a =>
  if a.id = 0 then ⟨.list, (List.range a.len).map (fun (k : Nat) => .num ((k : Rat) + 1)), uM⟩
  else ⟨.ndarray, (List.range a.len).map (fun (k : Nat) => .point [(k : Rat), 10 * (k : Rat)]), 0⟩

example : Faithful h0 := by
  intro a
  unfold h0
  split <;> simp

private def c0 : Curve := ⟨⟨0, .flat 3⟩, ⟨1, .points 3 2⟩⟩

/-- `curve[-1]` is `(domain[2], image[2])`, `curve[3]` is `IndexError`, `curve[::-2]` slices both containers on their
own, `repr` shows `(image[k], domain[k])`; a rejected `SetImage` in between changes nothing -/
example : Curve.new c0.image c0.domain = .ok c0 ∧
    c0.getItem h0 (-1) = .ok (.point [2, 20], .num 3) ∧
    c0.getItem h0 3 = .error .index ∧
    c0.getSlice h0 ⟨none, none, some (-2)⟩ =
      .ok ((.ndarray, [.point [2, 20], .point [0, 0]]), (.list, [.num 3, .num 1])) ∧
    c0.getSlice h0 ⟨none, none, some 0⟩ = .error .value ∧
    c0.repr h0 = ⟨uM, 0, [(.num 1, .point [0, 0]), (.num 2, .point [1, 10]), (.num 3, .point [2, 20])], false⟩ ∧
    c0.answers h0 [.set (.image ⟨2, .flat 2⟩), .length, .getItem 0] =
      [.error .value, .ok (.length 3), .ok (.item (.point [0, 0]) (.num 1))] ∧
    c0.runOps [.set (.image ⟨2, .flat 2⟩), .length, .getItem 0, .repr] = c0 := by decide +kernel

/-- 25 points: the repr shows 21 pairs and the ellipsis; 21 points: all of them, no ellipsis -/
example :
    ((⟨⟨0, .flat 25⟩, ⟨0, .flat 25⟩⟩ : Curve).repr h0).items.length = 21 ∧
    ((⟨⟨0, .flat 25⟩, ⟨0, .flat 25⟩⟩ : Curve).repr h0).ellipsis = true ∧
    ((⟨⟨0, .flat 21⟩, ⟨0, .flat 21⟩⟩ : Curve).repr h0).items.length = 21 ∧
    ((⟨⟨0, .flat 21⟩, ⟨0, .flat 21⟩⟩ : Curve).repr h0).ellipsis = false := by decide +kernel

end Examples

end Barril.Fixed
