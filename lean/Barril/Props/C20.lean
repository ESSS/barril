/-
C20 — derived unit, category and type strings render every factor unambiguously.

Theorems about the model `Barril/Model/Str.lean` (grammar parser) and
`Barril/Model/StrRender.lean` (`_MakeStr`, `_CreateUnitsWithJoinedExponentsString`,
`GetComposingUnitsJoiningExponents`, `GetUnitName`, the two branches of `Quantity.__init__`, repr/str
of value objects).  Helper lemmas and the specification vocabulary (`layout`, `nums`, `dens`,
`unitTerm`, `strTerm`, `expSum`, `keys`) live in `Barril/Proofs/StrLemmas.lean`.
-/
import Barril.Proofs.StrLemmas
import Barril.Proofs.StrCallerLemmas
import Barril.Gen.ThmNameownPosc

namespace Barril.Str

/-! ### the unit string -/

/-- **the unit string follows the table's grammar**: numerator factors joined by '.', ONE '/', the
denominator factors joined by '.', `1/` for a pure reciprocal, exponents as decimal suffixes; for any
number of factors and any exponents (factors with exponent 0 are not written) -/
theorem unit_string_layout (j : List (Str × Int)) (h : ∀ p ∈ j, atomic p.1 = true) :
    renderUnit j = layout [cDot] [cSlash] [cOne, cSlash] ((nums j).map unitTerm) ((dens j).map unitTerm) :=
  renderUnit_layout j (fun p hp _ => ((atomic_iff p.1).mp (h p hp)).ne)

/-- **parse ∘ render**: parsing the rendered unit string recovers exactly the factors and exponents
that were rendered (numerator factors in order, then denominator factors in order), for ANY number
of numerator and denominator factors and ANY integer exponents over atomic symbols -/
theorem parse_render (j : List (Str × Int)) (h : ∀ p ∈ j, atomic p.1 = true) :
    parseUnit (renderUnit j) = some (nums j ++ dens j) := by
  have hA : ∀ p ∈ j, Atomic p.1 := fun p hp => (atomic_iff p.1).mp (h p hp)
  rw [renderUnit_layout j (fun p hp _ => (hA p hp).ne)]
  exact parse_layout (nums j) (dens j)
    (side_of_filter (fun p hp => by simp only [decide_eq_true_eq] at hp; omega) j hA)
    (side_of_filter (fun p hp => by simp only [decide_eq_true_eq] at hp; omega) j hA)

/-- an atomic symbol is its own unit string and parses as one factor with exponent 1 -/
theorem parse_atomic (u : Str) (h : atomic u = true) : parseUnit u = some [(u, 1)] := by
  have := parse_render [(u, 1)] (by simpa using h)
  simpa [renderUnit, renderUnitNum, renderUnitDen, nums, dens] using this

/-- hence the rendering is unambiguous: two factor lists with the same unit string write the same
factors with the same exponents -/
theorem render_unambiguous (j j' : List (Str × Int)) (h : ∀ p ∈ j, atomic p.1 = true)
    (h' : ∀ p ∈ j', atomic p.1 = true) (heq : renderUnit j = renderUnit j') :
    nums j ++ dens j = nums j' ++ dens j' := by
  have h1 := parse_render j h
  rw [heq, parse_render j' h'] at h1
  exact (Option.some.inj h1).symm

/-- what is written is every factor with a non-zero exponent, each exactly once -/
theorem written_factors_perm (j : List (Str × Int)) :
    (nums j ++ dens j).Perm (j.filter (fun p => decide (p.2 ≠ 0))) := by
  induction j with
  | nil => exact List.Perm.refl _
  | cons p rest ih =>
    obtain ⟨u, e⟩ := p
    by_cases hpos : 0 < e
    · have hneg : ¬ e < 0 := by omega
      have hnz : e ≠ 0 := by omega
      simp only [nums, dens, List.filter_cons, hpos, hneg, hnz, decide_true, decide_false, ↓reduceIte,
        ne_eq, not_false_eq_true, List.cons_append, Bool.false_eq_true] at ih ⊢
      exact List.Perm.cons _ ih
    · by_cases hneg : e < 0
      · have hnz : e ≠ 0 := by omega
        simp only [nums, dens, List.filter_cons, hpos, hneg, hnz, decide_true, decide_false, ↓reduceIte,
          ne_eq, not_false_eq_true, Bool.false_eq_true] at ih ⊢
        exact List.perm_middle.trans (List.Perm.cons _ ih)
      · have hz : e = 0 := by omega
        subst hz
        simpa [nums, dens, List.filter_cons] using ih

/-! ### joined composing units (`GetComposingUnitsJoiningExponents`) -/

/-- every unit symbol occurs once in the joined list -/
theorem joined_keys_nodup (ps : List (Str × Int)) : (keys (joinExps ps)).Nodup :=
  nodup_joinExpsFrom [] ps (by simp [keys_nil])

/-- exactly the composing unit symbols occur -/
theorem joined_keys (ps : List (Str × Int)) (k : Str) : k ∈ keys (joinExps ps) ↔ k ∈ keys ps := by
  unfold joinExps; rw [mem_keys_joinExpsFrom]; simp [keys_nil]

/-- in the order of their first occurrence -/
theorem joined_keys_order (ps : List (Str × Int)) : keys (joinExps ps) = dedupFrom [] (keys ps) := by
  unfold joinExps; rw [keys_joinExpsFrom]; simp [keys_nil]

/-- with the sum of the exponents of all entries that carry this symbol -/
theorem joined_exponent (ps : List (Str × Int)) (k : Str) (e : Int) (h : (k, e) ∈ joinExps ps) :
    e = expSum k ps := by
  have h1 := expSum_of_mem_nodup (joinExps ps) (joined_keys_nodup ps) k e h
  have h2 := expSum_joinExpsFrom k [] ps
  simp only [expSum, Int.zero_add] at h2
  unfold joinExps at h1
  omega

/-! ### the strings of a quantity built from an entry list (`ObtainQuantity(OrderedDict)`) -/

/-- which entry lists give a simple quantity -/
theorem obtain_simple_iff (reg : Reg) (entries : List Entry) (q : Quantity)
    (hq : obtainFromDict reg entries = .ok q) :
    q.derived = false ↔ ∃ c u, entries = [⟨c, u, 1⟩] := by
  rcases obtainFromDict_ok hq with ⟨c, u, rfl, hs⟩ | ⟨hne, hd⟩
  · obtain ⟨_, _, rfl⟩ := newSimple_ok hs
    exact ⟨fun _ => ⟨c, u, rfl⟩, fun _ => rfl⟩
  · obtain ⟨_, _, rfl⟩ := newDerived_ok hd
    exact ⟨nofun, fun ⟨c, u, h⟩ => absurd h (hne c u)⟩

/-- **a simple quantity's strings are exactly its registered category, quantity type and unit**, and
its unit name is the registered name of the unit -/
theorem simple_strings_verbatim (reg : Reg) (c u : Str) (q : Quantity)
    (hq : obtainFromDict reg [⟨c, u, 1⟩] = .ok q) :
    q.derived = false ∧ q.category = c ∧ q.unit = u ∧ reg.qtypeOf c = .ok q.qtype
      ∧ q.entries = [⟨c, u, 1⟩]
      ∧ q.unitName reg = reg.unitName q.qtype u := by
  obtain ⟨qt, hqt, rfl⟩ := newSimple_ok (c := c) (u := u) (by simpa only [obtainFromDict, ↓reduceIte] using hq)
  refine ⟨rfl, rfl, rfl, hqt, rfl, ?_⟩
  simp only [Quantity.unitName, namePairs, hqt]
  cases reg.unitName qt u with
  | error e => rfl
  | ok n => simp [joinExps, joinExpsFrom, addExp, makeStr, makeStrNum, makeStrDen]

/-- **the unit string of a derived quantity parses back to its joined composing units**: numerators
in order, then denominators in order, each with its total exponent -/
theorem unit_string_roundtrip (reg : Reg) (entries : List Entry) (q : Quantity)
    (hq : obtainFromDict reg entries = .ok q) (hd : q.derived = true)
    (hat : ∀ e ∈ entries, atomic e.unit = true) :
    q.entries = entries ∧
    parseUnit q.unit = some (nums (joinedUnits entries) ++ dens (joinedUnits entries)) := by
  rcases obtainFromDict_ok hq with ⟨c, u, rfl, hs⟩ | ⟨_, hnd⟩
  · obtain ⟨_, _, rfl⟩ := newSimple_ok hs
    cases hd
  · obtain ⟨_, _, rfl⟩ := newDerived_ok hnd
    refine ⟨rfl, parse_render _ fun p hp => ?_⟩
    obtain ⟨e, he, hu⟩ := mem_joinedUnits hp
    exact hu ▸ hat e he

/-! ### `_MakeStr`: category, quantity-type and unit-name strings -/

/-- **`_MakeStr` lists every factor with its exponent**: the factors with a positive exponent in
order, joined by `" * "`; ONE `" / "`; the factors with a negative exponent in order, joined by
`" * "`; `"1 / "` when there is no numerator; a factor is its text or `(text) ** |e|` -/
theorem renderStr_lists_every_factor (items : List (Str × Int)) (h : ∀ p ∈ items, 0 < p.2 → p.1 ≠ []) :
    makeStr items = layout sepMul sepDiv oneDiv ((nums items).map strTerm) ((dens items).map strTerm) :=
  makeStr_layout items h

/-- the category string of a derived quantity lists every entry's category with its exponent; the
quantity-type string lists every quantity type with the sum of its exponents -/
theorem derived_category_and_type_strings (reg : Reg) (entries : List Entry) (q : Quantity)
    (hq : newDerived reg entries = .ok q) (hc : ∀ e ∈ entries, e.cat ≠ [])
    (ht : ∀ p ∈ reg.cats, p.2 ≠ []) :
    q.category = layout sepMul sepDiv oneDiv ((nums (catPairs entries)).map strTerm)
                   ((dens (catPairs entries)).map strTerm)
    ∧ ∃ tps, typePairs reg entries = .ok tps
        ∧ q.qtype = layout sepMul sepDiv oneDiv ((nums (joinExps tps)).map strTerm)
                      ((dens (joinExps tps)).map strTerm) := by
  obtain ⟨tps, htps, rfl⟩ := newDerived_ok hq
  refine ⟨makeStr_layout _ fun p hp _ => ?_, tps, htps, makeStr_layout _ fun p hp _ => ?_⟩
  · obtain ⟨e, he, rfl⟩ := List.mem_map.mp hp
    exact hc e he
  · obtain ⟨pr, hpr, hk⟩ := typePairs_keys htps p.1 (mem_joinExps_key hp)
    exact hk ▸ ht pr hpr

/-- `GetUnitName` lists every registered unit name with the sum of its exponents -/
theorem unit_name_lists_every_factor (reg : Reg) (q : Quantity) (s : Str)
    (hq : q.unitName reg = .ok s) (hn : ∀ p ∈ reg.names, p.2 ≠ []) :
    ∃ nps, namePairs reg q.entries = .ok nps
      ∧ s = layout sepMul sepDiv oneDiv ((nums (joinExps nps)).map strTerm) ((dens (joinExps nps)).map strTerm) := by
  unfold Quantity.unitName at hq
  split at hq
  · cases hq
  · next nps hnps =>
    cases hq
    refine ⟨nps, hnps, makeStr_layout _ fun p hp _ => ?_⟩
    obtain ⟨pr, hpr, hk⟩ := namePairs_keys hnps p.1 (mem_joinExps_key hp)
    exact hk ▸ hn pr hpr

/-! ### the list / tuple form of `ObtainQuantity` (a quantity re-obtained from its own composing units) -/

/-- a request of `(unit, exponent)` pairs with a parallel list of pairwise different categories builds the
quantity of the ordered dict of those entries -/
theorem obtain_list_eq_dict (reg : Reg) (pairs : List (Str × Int)) (cats : List Str)
    (hlen : cats.length = pairs.length) (hnd : cats.Nodup) :
    obtainFromList reg pairs cats = obtainFromDict reg (zipEntries cats pairs) := by
  have hod : odictOf (zipEntries cats pairs) = zipEntries cats pairs :=
    odictOf_nodup _ (by rw [(zipEntries_spec cats pairs hlen).1]; exact hnd)
  unfold obtainFromList
  split
  · rename_i u e
    split
    · rename_i he
      subst he
      match cats, hlen with
      | [c], _ => simp [zipEntries, obtainFromDict]
    · rw [hod]
  · rw [hod]

/-- **only a single factor with exponent 1 is a simple quantity**: `[(m, 2)]` and `[(s, -3)]` stay derived -/
theorem obtain_list_simple_iff (reg : Reg) (pairs : List (Str × Int)) (cats : List Str) (q : Quantity)
    (hlen : cats.length = pairs.length) (hnd : cats.Nodup)
    (hq : obtainFromList reg pairs cats = .ok q) :
    q.derived = false ↔ ∃ u, pairs = [(u, 1)] := by
  rw [obtain_list_eq_dict reg pairs cats hlen hnd] at hq
  rw [obtain_simple_iff reg _ q hq]
  constructor
  · rintro ⟨c, u, h⟩
    have := (zipEntries_spec cats pairs hlen).2
    rw [h] at this
    exact ⟨u, by simpa [unitPairs] using this.symm⟩
  · rintro ⟨u, h⟩
    subst h
    match cats, hlen with
    | [c], _ => exact ⟨c, u, by simp [zipEntries]⟩

/-- **the unit string of a quantity obtained from a list of factors parses back to exactly the joined requested
factors** (numerators in order, then denominators, each with its total exponent) -/
theorem obtain_list_unit_string_roundtrip (reg : Reg) (pairs : List (Str × Int)) (cats : List Str) (q : Quantity)
    (hlen : cats.length = pairs.length) (hnd : cats.Nodup)
    (hq : obtainFromList reg pairs cats = .ok q) (hd : q.derived = true)
    (hat : ∀ p ∈ pairs, atomic p.1 = true) :
    parseUnit q.unit = some (nums (joinExps pairs) ++ dens (joinExps pairs)) := by
  rw [obtain_list_eq_dict reg pairs cats hlen hnd] at hq
  have hu := (zipEntries_spec cats pairs hlen).2
  have := (unit_string_roundtrip reg (zipEntries cats pairs) q hq hd (by
    intro e he
    have : (e.unit, e.exp) ∈ unitPairs (zipEntries cats pairs) := List.mem_map.mpr ⟨e, he, rfl⟩
    rw [hu] at this
    exact hat _ this)).2
  simpa [joinedUnits, hu] using this

/-! ### unit names: one name factor per unit factor -/

/-- when the registered names of the composing units are pairwise different (as far as the units are), the
factor list behind the unit-name string IS the joined composing units with every symbol replaced by its
registered name: the same factors, in the same order, with the same exponents -/
theorem unit_name_factors_match_units (reg : Reg) (entries : List Entry) (nps : List (Str × Int)) (f : Str → Str)
    (h : namePairs reg entries = .ok nps)
    (hf : ∀ e ∈ entries, ∀ qt, reg.qtypeOf e.cat = .ok qt → reg.unitName qt e.unit = .ok (f e.unit))
    (hinj : ∀ e ∈ entries, ∀ e' ∈ entries, f e.unit = f e'.unit → e.unit = e'.unit) :
    joinExps nps = (joinedUnits entries).map (fun p => (f p.1, p.2)) := by
  have hn : ∀ (es : List Entry) (ts : List (Str × Int)), (∀ e ∈ es, e ∈ entries) → namePairs reg es = .ok ts →
      ts = (unitPairs es).map (fun p => (f p.1, p.2)) := by
    intro es
    induction es with
    | nil => intro ts _ h; cases h; rfl
    | cons e rest ih =>
      intro ts hsub h
      obtain ⟨qt, n, ps, hqt, hnm, hps, rfl⟩ := namePairs_cons_ok h
      rw [hf e (hsub e (by simp)) qt hqt] at hnm
      cases hnm
      rw [ih ps (fun x hx => hsub x (by simp [hx])) hps]
      rfl
  rw [hn entries nps (fun e he => he) h]
  unfold joinedUnits
  apply joinExps_rename
  intro a ha b hb hab
  obtain ⟨pa, hpa, rfl⟩ := List.mem_map.mp ha
  obtain ⟨ea, hea, rfl⟩ := List.mem_map.mp hpa
  obtain ⟨pb, hpb, rfl⟩ := List.mem_map.mp hb
  obtain ⟨eb, heb, rfl⟩ := List.mem_map.mp hpb
  exact hinj ea hea eb heb hab

/-- **the shipped table never gives one name to units of different quantity types** (so the units of a derived
quantity that arithmetic produces - one unit per quantity type - have pairwise different names); regenerated
from /repo and checked by `decide +kernel` on every run -/
theorem posc_unit_names_distinguish_types :
    ∀ r ∈ Barril.Gen.poscDb.units, ∀ r' ∈ Barril.Gen.poscDb.units, r.name = r'.name → r.qtype = r'.qtype := by
  intro r hr r' hr' hname
  have h := List.all_eq_true.mp Barril.Gen.poscUnits_all_nameown r (by simpa [Barril.Gen.poscDb] using hr)
  have h2 := List.all_eq_true.mp h r' hr'
  simp only [Bool.or_eq_true, bne_iff_ne, ne_eq, beq_iff_eq] at h2
  rcases h2 with h2 | h2
  · exact absurd hname.symm h2
  · exact h2.symm

/-! ### value objects -/

/-- **repr/str of a value object show that unit** (and repr of a Scalar the category, of an Array the
quantity type): `Scalar(v, 'unit', 'category')`, `v [unit]`, `Array(qtype, [..], unit)` -/
theorem value_repr_shows_unit (cls val : Str) (q : Quantity) :
    scalarRepr cls val q = cls ++ [40] ++ val ++ [44, 32, 39] ++ q.unit ++ [39, 44, 32, 39] ++ q.category ++ [39, 41]
    ∧ valueStr val q = val ++ [32, 91] ++ q.unit ++ [93]
    ∧ arrayRepr cls val q = cls ++ [40] ++ q.qtype ++ [44, 32] ++ val ++ [44, 32] ++ q.unit ++ [41] := by
  simp only [scalarRepr, scalarReprTail, valueStr, formattedSuffix, arrayRepr, arrayReprHead, arrayReprTail,
    List.append_assoc, and_self]

/-! ### products, quotients, powers: the strings of a result are decided by the factors of the OPERANDS

`opQ` is `a * b` / `a / b` on Quantities, Scalars and Arrays (the quantity of the result): its entry list is
computed from the entry lists of the two operands (`opEntries`: `_MatchQuantities`, the merge loop, the removal of
cancelled factors) and handed to `ObtainQuantity(dict)`; no earlier result takes part (the check runs histories on
one shared database with a warm cache against this). -/

/-- the strings of a product / quotient are those of the entry list built from the operands, and its unit string
parses back to exactly the joined factors of that list -/
theorem product_strings_from_operands (reg : Reg) (op : NewOp) (q1 q2 r : Quantity)
    (h : opQ reg op q1 q2 = .ok r) :
    ∃ es, opEntries reg op q1.entries q2.entries = .ok es ∧ obtainFromDict reg es = .ok r ∧ r.entries = es
      ∧ (r.derived = true → (∀ e ∈ es, atomic e.unit = true) →
          parseUnit r.unit = some (nums (joinedUnits es) ++ dens (joinedUnits es))) := by
  unfold opQ at h
  split at h
  · cases h
  · rename_i es hes
    refine ⟨es, hes, h, obtainFromDict_entries reg es r h, ?_⟩
    intro hd hat
    exact (unit_string_roundtrip reg es r h hd hat).2

/-- **the order of the factors**: the merge loop keeps every category of the left operand in its place and
appends the categories only the right operand has, in the right operand's order (first occurrence) -/
theorem product_factor_order (f : Int → Int → Int) (a b m : List Entry) (h : mergeAll f a b = .ok m) :
    cats m = cats a ++ dedupFrom (cats a) (cats b) := by
  induction b generalizing a with
  | nil => cases h; simp [cats, dedupFrom]
  | cons x xs ih =>
    unfold mergeAll at h
    split at h
    · cases h
    · next a' h1 =>
      rw [ih a' h, cats_mergeOne f a x a' h1, cats_cons]
      by_cases hx : x.cat ∈ cats a <;> simp [hx, dedupFrom]

/-- **`Quantity ** n` is the n-fold product** `q * (q * (... * q))` (`n - 1` multiplications; none for `n ≤ 1`:
the code returns `q` itself for the exponents 1, 0 and below) -/
theorem quantity_pow_eq_iterated_mul (reg : Reg) (q : Quantity) (n : Int) :
    qpow reg q n = nfoldProduct reg q (n - 1).toNat := by
  unfold qpow
  induction (n - 1).toNat with
  | zero => rfl
  | succ k ih => rw [qpowLoop_succ, ih]; rfl

/-- matching the units is idempotent: once the operands' units are matched (one unit per quantity type, the first
one seen), a further pass with the same dict changes nothing — the units of a result are stable under further
multiplication by the same operands -/
theorem matching_idempotent (reg : Reg) (es : List Entry) (used used' : List (Str × Str)) (es' : List Entry)
    (h : matchOne reg used es = .ok (used', es')) : matchOne reg used' es' = .ok (used', es') :=
  matchOne_idem h

/-- **the unit string of a power**: for a quantity whose units are matched (a matching pass changes nothing),
with distinct categories and no cancelling factor, `q ** n` (n ≥ 2) holds `q`'s entries with every exponent
multiplied by `n`, and its unit string renders `q`'s joined factors with the exponents multiplied by `n` -/
theorem pow_unit_string (reg : Reg) (q : Quantity) (n : Int) (used : List (Str × Str)) (hn : 2 ≤ n)
    (hm : matchOne reg [] q.entries = .ok (used, q.entries))
    (hnd : (q.entries.map (·.cat)).Nodup)
    (hkeep : ∀ e ∈ q.entries, e.exp ≠ 0 ∧ unitTotal e.unit q.entries ≠ 0) :
    ∃ r, qpow reg q n = .ok r ∧ r.entries = scaleEntries n q.entries ∧ r.derived = true
      ∧ r.unit = renderUnit ((joinedUnits q.entries).map (fun p => (p.1, p.2 * n))) := by
  obtain ⟨r, hr⟩ := newDerived_scaled_ok hm n
  obtain ⟨_, _, rfl⟩ := newDerived_ok hr
  exact ⟨_, (pow_scaled hn hm hnd hkeep).1.trans hr, rfl, rfl, by rw [joinedUnits_scale]⟩

/-- and parsing that unit string recovers the base's joined factors with the exponents multiplied by `n` -/
theorem pow_unit_string_parses (reg : Reg) (q : Quantity) (n : Int) (used : List (Str × Str)) (hn : 2 ≤ n)
    (hm : matchOne reg [] q.entries = .ok (used, q.entries))
    (hnd : (q.entries.map (·.cat)).Nodup)
    (hkeep : ∀ e ∈ q.entries, e.exp ≠ 0 ∧ unitTotal e.unit q.entries ≠ 0)
    (hat : ∀ e ∈ q.entries, atomic e.unit = true) :
    ∃ r, qpow reg q n = .ok r ∧
      parseUnit r.unit = some (nums ((joinedUnits q.entries).map (fun p => (p.1, p.2 * n)))
                                ++ dens ((joinedUnits q.entries).map (fun p => (p.1, p.2 * n)))) := by
  obtain ⟨r, h1, _, _, h4⟩ := pow_unit_string reg q n used hn hm hnd hkeep
  refine ⟨r, h1, h4 ▸ parse_render _ fun p hp => ?_⟩
  obtain ⟨p0, hp0, rfl⟩ := List.mem_map.mp hp
  obtain ⟨e, he, hu⟩ := mem_joinedUnits hp0
  exact hu ▸ hat e he

/-- under the hypotheses of `pow_unit_string`, `Scalar ** n` (result * self) and `Quantity ** n` (self * result)
build the same quantity, for every integer exponent -/
theorem scalar_pow_eq_quantity_pow (reg : Reg) (q : Quantity) (n : Int) (used : List (Str × Str))
    (hm : matchOne reg [] q.entries = .ok (used, q.entries))
    (hnd : (q.entries.map (·.cat)).Nodup)
    (hkeep : ∀ e ∈ q.entries, e.exp ≠ 0 ∧ unitTotal e.unit q.entries ≠ 0) :
    spow reg q n = qpow reg q n := by
  by_cases hn : 2 ≤ n
  · rw [(pow_scaled hn hm hnd hkeep).1, (pow_scaled hn hm hnd hkeep).2]
  · have hk : (n - 1).toNat = 0 := by omega
    unfold spow qpow
    rw [hk]
    rfl

/-! ### the caller keeps and edits what it passed (`Barril/Model/StrCaller.lean`)

A quantity is a value: no object of the caller is reachable from it (`Quantity.__init__` copies every
`[unit, exponent]` cell, the cache key is a tuple of tuples).  Trivial in the model BY CONSTRUCTION — the point of
stating it is the correspondence: the check edits the mapping / the lists it passed on the real code, re-reads all
strings of every quantity made before and compares them exactly with these values. -/

/-- **the strings of a quantity are the same whenever they are asked**: whatever the caller does afterwards — edits
the mapping or the lists it passed (exponent cell, unit cell, added / removed key), re-uses them for further requests,
makes other quantities — the `k`-th quantity made stays the value it was -/
theorem strings_stable_under_caller_mutation (reg : Reg) (s : Caller) (later : List CStep) (k : Nat)
    (r : Except ErrKind Quantity) (h : s.made[k]? = some r) :
    (s.run reg later).made[k]? = some r := by
  obtain ⟨t, ht⟩ := Caller.run_made_prefix reg later s
  rw [ht, List.getElem?_append_left (by
    have := (List.getElem?_eq_some_iff.mp h).1
    exact this)]
  exact h

/-- **and it is the quantity of the ORIGINAL request**: the quantity a request made is `ObtainQuantity` of the request
as it was when it was made, after any earlier and any later history (edits of that very mapping included) -/
theorem request_answered_from_original (reg : Reg) (s : Caller) (before later : List CStep) (r : Req) :
    (s.run reg (before ++ [CStep.request r] ++ later)).made[(s.run reg before).made.length]?
      = some (r.obtain reg) := by
  rw [Caller.run_append, Caller.run_append]
  apply strings_stable_under_caller_mutation
  simp [Caller.run, Caller.step]

/-- a request made again with the mapping the caller edited is answered from the mapping as it is THEN (the earlier
quantity is not handed out again, the cache key holds the cells' contents) -/
theorem edited_request_answered_as_edited (reg : Reg) (s : Caller) (i : Nat) (ed : Edit) (r : Req)
    (h : s.held[i]? = some r) :
    ((s.step reg (.edit i ed)).step reg (.again i)).made = s.made ++ [(ed.apply r).obtain reg] := by
  have hm : (modifyAt s.held i ed.apply)[i]? = some (ed.apply r) := by
    clear reg
    generalize s.held = l at h
    induction l generalizing i with
    | nil => simp at h
    | cons x xs ih =>
      cases i with
      | zero => simp at h; simp [modifyAt, h]
      | succ j => simp at h; simpa [modifyAt] using ih j h
  simp [Caller.step, hm]

/-- **arithmetic on a quantity uses the factors it was made with**: after any further history (edits of the mapping it
was requested with included), a product / quotient / power computed from the quantity of a request is the operation
applied to `ObtainQuantity` of the ORIGINAL request -/
theorem arithmetic_after_caller_mutation (reg : Reg) (s : Caller) (before later : List CStep) (r : Req) (q : Quantity)
    (f : Quantity → Except ErrKind Quantity) (h : r.obtain reg = .ok q) :
    (s.run reg (before ++ [CStep.request r] ++ later ++ [CStep.arith (s.run reg before).made.length f])).made.getLast?
      = some (f q) := by
  have h1 := request_answered_from_original reg s before later r
  rw [h] at h1
  rw [Caller.run_append]
  show (Caller.step reg _ (CStep.arith _ f)).made.getLast? = _
  simp only [Caller.step, h1]
  simp

end Barril.Str
