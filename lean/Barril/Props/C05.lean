/-
C05 — dimensionally incompatible operations fail loudly and change nothing.

Model: `Barril/Model/Fail.lean` (a session over a fixed database with the validity memo table and
the quantity cache) and `Barril/Model/Conv.lean`.  Helper lemmas: `Barril/Proofs/FailLemmas.lean`.
The derived-operand half of "adding two values whose dimensions differ raises" is stated here as a
corollary of C03's `Alg.add_sub_ok_dims` (engine `Alg`, whose `opSame` is the `sumq` step of the
session): `sum_of_different_dimensions_fails`, `failed_sum_invisible`; the aliasing half of "operands
unchanged" is C13's.  Here: conversion, creation, simple-operand arithmetic and ordering, and the
invisibility of every failed (indeed of every) operation for all later ones.
-/
import Barril.Proofs.FailLemmas
import Barril.Props.C03

namespace Barril.Fail

/-! ### error decisions -/

/-- `v` is not a unit of quantity type `qt` in `db`, by any of the routes `GetInfo` tries -/
structure NotOfType (db : Db) (qt v : Sym) (fixUnknown : Bool) : Prop where
  /-- no row carries the symbol `v` inside `qt` (directly or after resolving `qt` as a category) -/
  direct : ∀ r ∈ db.units, r.sym = v → r.qtype ≠ qt ∧ r.qtype ≠ db.resolveQt qt
  /-- not the `Unknown` exemption -/
  known : fixUnknown = false ∨ db.resolveQt qt ≠ unknownQType
  /-- not a legacy spelling of a unit of `qt` -/
  legacy : isLegacy db.legacy v = false ∨
    ∀ r ∈ db.units, r.sym = fixLegacy db.legacy v → r.qtype ≠ db.resolveQt qt

/-- `GetInfo` raises a units error for a unit that is not of the requested type -/
theorem getInfo_error {db : Db} {qt v : Sym} {fu : Bool} (h : NotOfType db qt v fu) :
    db.getInfo qt v fu true = .error .units :=
  getInfo_units_error h.direct h.known (.inr h.legacy)

/-- **converting a value to a unit of another quantity type raises a units error and never returns
a number** (whatever the value), unless the target is exempt (`Unknown`) or a legacy spelling of a
unit of the type -/
theorem convert_cross_type_error {db : Db} {cq qt u v : Sym} (x : Rat) (huv : u ≠ v)
    (hq : db.typeOf cq = .ok qt) (h : NotOfType db qt v true) :
    db.convert cq u v x = .error .units := by
  unfold Db.convert
  have : (u == v) = false := by simpa using huv
  simp only [this, Bool.false_eq_true, ↓reduceIte, hq]
  cases hu : db.getInfo qt u true with
  | error e => simp only; rw [Db.getInfo_error_units hu]
  | ok r => simp only [getInfo_error h]

/-- the same when the SOURCE unit is the foreign one -/
theorem convert_cross_type_error_src {db : Db} {cq qt u v : Sym} (x : Rat) (huv : u ≠ v)
    (hq : db.typeOf cq = .ok qt) (h : NotOfType db qt u true) :
    db.convert cq u v x = .error .units := by
  unfold Db.convert
  have : (u == v) = false := by simpa using huv
  simp only [this, Bool.false_eq_true, ↓reduceIte, hq, getInfo_error h]

/-- a conversion under a name that is neither a category nor a quantity type raises -/
theorem convert_unknown_type_error {db : Db} {cq u v : Sym} (x : Rat) (huv : u ≠ v)
    (hc : db.catByName cq = none) (ht : db.hasType cq = false) :
    db.convert cq u v x = .error .units := by
  unfold Db.convert Db.typeOf
  have : (u == v) = false := by simpa using huv
  simp [this, hc, ht]

/-- **creating a value whose unit does not belong to its category's quantity type raises a units
error and never returns a quantity** — in any session state that satisfies the invariant (i.e.
after any history, see `run_inv`), for a unit that is not of the type under its own spelling nor
under its legacy-fixed spelling -/
theorem create_wrong_type_error {db : Db} {s : FState} (hs : Inv db s) {c u : Sym} {ci : CatRow}
    (hc : db.catByName c = some ci)
    (hd : ∀ r ∈ db.units, r.sym = u → r.qtype ≠ ci.qtype ∧ r.qtype ≠ db.resolveQt ci.qtype)
    (hl : isLegacy db.legacy u = false ∨
      ∀ r ∈ db.units, r.sym = fixLegacy db.legacy u →
        r.qtype ≠ ci.qtype ∧ r.qtype ≠ db.resolveQt ci.qtype) :
    (step db s (.create c u)).2 = .error .units := by
  have hp : newQuantityPure db c u = .error .units := by
    unfold newQuantityPure
    rw [hc]
    simp only [categoryUnitValid_false hc hd, Bool.false_eq_true, ↓reduceIte]
    rcases hl with hl | hl
    · simp [hl]
    · split
      · simp [categoryUnitValid_false hc hl]
      · rfl
  rw [(step_spec hs _).2]
  simp only [answer, hp]

/-- a creation under a category that is not registered raises -/
theorem create_unknown_category_error {db : Db} {s : FState} (hs : Inv db s) {c u : Sym}
    (hc : db.catByName c = none) : (step db s (.create c u)).2 = .error .units := by
  have hp : newQuantityPure db c u = .error .units := by unfold newQuantityPure; rw [hc]
  rw [(step_spec hs _).2]
  simp only [answer, hp]

/-- **adding or subtracting two simple values of different quantity types raises** (the only way
out is the degenerate one in which both carry the very same unit symbol) -/
theorem addSub_cross_type_error (db : Db) (op : ArithOp) {a b : Simple} (x y : Rat)
    (ht : qtypeOf db a ≠ qtypeOf db b) (hu : a.unit ≠ b.unit) :
    addSub db op a b x y = .error .units := by
  unfold addSub
  have hab : a ≠ b := fun e => hu (by rw [e])
  have h1 : (qtypeOf db a == qtypeOf db b) = false := by simpa using ht
  have h2 : (a.unit == b.unit) = false := by simpa using hu
  simp [hab, h1, h2]

/-- **ordering two values of different quantity types raises TypeError**, for all four operators -/
theorem order_cross_type_error (db : Db) (op : CmpOp) {a b : Simple} (x y : Rat)
    (ht : qtypeOf db a ≠ qtypeOf db b) : order db op a b x y = .error .type := by
  unfold order
  have : (qtypeOf db a != qtypeOf db b) = true := by simpa using ht
  simp [this]

/-! ### a failure (indeed any operation) is invisible to everything that follows -/

theorem step_inv {db : Db} {s : FState} (hs : Inv db s) (op : FOp) : Inv db (step db s op).1 :=
  (step_spec hs op).1

theorem run_inv {db : Db} (ops : List FOp) {s : FState} (hs : Inv db s) : Inv db (run db s ops) := by
  induction ops generalizing s with
  | nil => exact hs
  | cons op ops ih => exact ih (step_inv hs op)

/-- **the outcome of an operation does not depend on the history**: in any reachable state it is
the outcome on a fresh session -/
theorem step_history_independent {db : Db} {s : FState} (hs : Inv db s) (op : FOp) :
    (step db s op).2 = (step db FState.empty op).2 := by
  rw [(step_spec hs op).2, (step_spec (inv_empty db) op).2]

/-- every operation of every history answers as on a fresh session -/
theorem outputs_history_independent {db : Db} (ops : List FOp) {s : FState} (hs : Inv db s) :
    outputs db s ops = ops.map (fun op => (step db FState.empty op).2) := by
  induction ops generalizing s with
  | nil => rfl
  | cons op ops ih =>
    simp only [outputs, List.map_cons]
    rw [step_history_independent hs op, ih (step_inv hs op)]

/-- **after a failure, all later operations behave as if it had not happened** (in fact this holds
for every operation, failed or not: the memo table and the cache never change an answer) -/
theorem failed_step_invisible {db : Db} {s : FState} (hs : Inv db s) (op : FOp) (later : List FOp) :
    outputs db (step db s op).1 later = outputs db s later := by
  rw [outputs_history_independent later (step_inv hs op), outputs_history_independent later hs]

/-- the same for the state any history reaches from the empty session -/
theorem failed_step_invisible_in_history (db : Db) (before : List FOp) (op : FOp) (later : List FOp) :
    outputs db (run db FState.empty (before ++ [op])) later
      = outputs db (run db FState.empty before) later := by
  rw [run_append_single]
  exact failed_step_invisible (run_inv before (inv_empty db)) op later

/-! ### ordering of arbitrary (simple or derived) quantities -/

/-- **ordering two values whose quantity types differ raises TypeError, for all four operators, whatever
their unit strings are** — in particular when the unit STRINGS coincide (the square of a velocity in
`m/s` is written `m/s2`, the acceleration unit): the same-unit-string shortcut of the conversion is
never reached -/
theorem orderQ_cross_type_error (db : Db) (op : CmpOp) {a b : Quant} (x y : Rat)
    (ht : a.qtype ≠ b.qtype) : orderQ db op a b x y = .error .type := by
  unfold orderQ
  have : (a.qtype != b.qtype) = true := by simpa using ht
  simp [this]

/-- an ordering that answers has compared two values of ONE quantity type -/
theorem orderQ_ok_same_type (db : Db) (op : CmpOp) {a b : Quant} (x y : Rat) {r : Bool}
    (h : orderQ db op a b x y = .ok r) : a.qtype = b.qtype := by
  by_cases ht : a.qtype = b.qtype
  · exact ht
  · rw [orderQ_cross_type_error db op x y ht] at h; cases h

/-- the same inside a session, at any point of any history: once both operands are obtained, an ordering
step across quantity types answers TypeError -/
theorem cmpq_cross_type_error (st : XState) (op : CmpOp) (ea eb : List Ent) (x y : Rat) {a b : Quant}
    (ha : (obtainDict st ea).2 = .ok a) (hb : (obtainDict (obtainDict st ea).1 eb).2 = .ok b)
    (ht : a.qtype ≠ b.qtype) : (xstep st (.cmpq op ea eb x y)).2 = .error .type := by
  simp only [xstep]
  cases h1 : obtainDict st ea with
  | mk st1 r1 =>
    rw [h1] at ha hb
    simp only at ha hb
    subst ha
    simp only
    cases h2 : obtainDict st1 eb with
    | mk st2 r2 =>
      rw [h2] at hb
      simp only at hb
      subst hb
      simp only [orderQ_cross_type_error st2.db op x y ht, exMap]

/-! ### the extended session: registrations in the middle of a history -/

theorem xstep_inv {st : XState} (h : XInv st) (op : XOp) : XInv (xstep st op).1 :=
  (xstep_spec h op).1

theorem xrun_inv (ops : List XOp) {st : XState} (h : XInv st) : XInv (xrun st ops) := by
  induction ops generalizing st with
  | nil => exact h
  | cons op ops ih => exact ih (xstep_inv h op)

/-- **in any reachable state every operation answers as a function of the current registry alone** -/
theorem xstep_val {st : XState} (h : XInv st) (op : XOp) (ht : op.Tame st.db.legacy) :
    (xstep st op).2 = xanswer st.db op :=
  (xstep_spec h op).2 ht

/-- **the outcome of an operation does not depend on the history**: in any reachable state it is the
outcome on a database object with empty memo tables over the same registry -/
theorem xstep_history_independent {st : XState} (h : XInv st) (op : XOp) (ht : op.Tame st.db.legacy) :
    (xstep st op).2 = (xstep (XState.fresh st.db) op).2 := by
  rw [xstep_val h op ht, xstep_val (xinv_fresh st.db) op ht]
  rfl

/-- two sessions over the same registry answer every later history alike, whatever their memo tables hold -/
theorem xoutputs_history_independent (ops : List XOp) {st st' : XState} (h : XInv st) (h' : XInv st')
    (hdb : st.db = st'.db) (ht : ∀ op ∈ ops, op.Tame st.db.legacy) :
    xoutputs st ops = xoutputs st' ops := by
  induction ops generalizing st st' with
  | nil => rfl
  | cons op ops ih =>
    have ht1 : op.Tame st.db.legacy := ht op (List.mem_cons_self ..)
    have ht1' : op.Tame st'.db.legacy := hdb ▸ ht1
    have hd : (xstep st op).1.db = (xstep st' op).1.db := by rw [xstep_db, xstep_db, hdb]
    have hl : (xstep st op).1.db.legacy = st.db.legacy := by rw [xstep_db, nextDb_legacy]
    simp only [xoutputs]
    rw [xstep_val h op ht1, xstep_val h' op ht1', hdb]
    congr 1
    exact ih (xstep_inv h op) (xstep_inv h' op) hd
      (fun o ho => hl ▸ ht o (List.mem_cons_of_mem _ ho))

/-- a step that fails leaves the registry as it was (a rejected registration included) -/
theorem xstep_error_db {st : XState} {op : XOp} {e : ErrKind} (hf : (xstep st op).2 = .error e) :
    (xstep st op).1.db = st.db := by
  rw [xstep_db]
  cases op with
  | reg r =>
    simp only [xstep] at hf
    simp only [nextDb]
    cases hr : applyReg st.db r with
    | ok db' => rw [hr] at hf; cases hf
    | error e' => rfl
  | _ => rfl

/-- **after a failure — a rejected registration included — all later operations, registrations among them,
behave as if it had not happened** -/
theorem failed_xstep_invisible {st : XState} (h : XInv st) (op : XOp) {e : ErrKind}
    (hf : (xstep st op).2 = .error e) (later : List XOp) (ht : ∀ o ∈ later, o.Tame st.db.legacy) :
    xoutputs (xstep st op).1 later = xoutputs st later :=
  xoutputs_history_independent later (xstep_inv h op) h (xstep_error_db hf)
    (fun o ho => (xstep_error_db hf) ▸ ht o ho)

/-- the same for the state any history of the extended session reaches from a fresh database object -/
theorem failed_xstep_invisible_in_history (db : Db) (before : List XOp) (op : XOp) {e : ErrKind}
    (hf : (xstep (xrun (XState.fresh db) before) op).2 = .error e) (later : List XOp)
    (ht : ∀ o ∈ later, o.Tame (xrun (XState.fresh db) before).db.legacy) :
    xoutputs (xrun (XState.fresh db) (before ++ [op])) later
      = xoutputs (xrun (XState.fresh db) before) later := by
  rw [xrun_append_single]
  exact failed_xstep_invisible (xrun_inv before (xinv_fresh db)) op hf later ht

/-- **after a successful registration (`AddCategory`, also with `override=True`; `AddUnit`) every later
operation answers as on a fresh session over the NEW registry**: nothing that was memoised before the
registration — verdicts, simple, alias and derived entries of the quantity cache — is visible after it -/
theorem reregistration_answers_as_fresh (db : Db) (before : List XOp) (r : RegOp) {db' : Db}
    (hr : applyReg (xrun (XState.fresh db) before).db r = .ok db') (later : List XOp) :
    xoutputs (xrun (XState.fresh db) (before ++ [.reg r])) later = xoutputs (XState.fresh db') later := by
  rw [xrun_append_single]
  simp only [xstep, hr]

/-- the first answer after a successful registration is a function of the registry reached, not of anything
created before the registration -/
theorem reregistration_first_answer (db : Db) (before : List XOp) (r : RegOp) {db' : Db}
    (hr : applyReg (xrun (XState.fresh db) before).db r = .ok db') (op : XOp) (ht : op.Tame db'.legacy) :
    (xstep (xrun (XState.fresh db) (before ++ [.reg r])) op).2 = xanswer db' op := by
  rw [xrun_append_single]
  simp only [xstep, hr]
  exact xstep_val (xinv_fresh db') op ht

/-- `ObtainQuantity(dict)` (also the list form and unpickling) of a composing map that is not the simple case
and fails the validation against the CURRENT registry raises that error, whatever the session has cached (so
a category that moved to another quantity type does not go on accepting the units of the old one) -/
theorem obtainDict_rejects_foreign_unit {st : XState} (h : XInv st) {es : List Ent} {e : ErrKind}
    (hsc : simpleCase es = none) (hv : validateEntries st.db es = .error e) :
    (obtainDict st es).2 = .error e := by
  obtain ⟨st1, e1, _⟩ := obtainDict_spec h es
  rw [e1]
  unfold obtainDictPure newDerivedChecked
  rw [hsc, hv]

/-! ### sums and differences of derived operands (engine `Alg` inside the session) -/

/-- **a ± b of operands with different dimension vectors fails** (with some error: the kind is not part of
this statement), for simple and derived operands alike (both
with units: the dimensionless exemption is the empty operand; `Operand`/`Known`: what products, quotients and
powers of table units are, C04): corollary of C03's `add_sub_ok_dims` -/
theorem sum_of_different_dimensions_fails {db : Db} (hdb : db.AllWF) (op : Alg.SameOp) {q1 q2 : Alg.Quantity}
    (v1 v2 : Rat) (h1 : Alg.Operand db q1) (h2 : Alg.Known db q2) (ne1 : q1.entries ≠ []) (ne2 : q2.entries ≠ [])
    {qt : Sym} (hd : Alg.dim db qt q1.entries ≠ Alg.dim db qt q2.entries) :
    ∃ e, Alg.opSame db op q1 q2 v1 v2 = .error e := by
  cases h : Alg.opSame db op q1 q2 v1 v2 with
  | error e => exact ⟨e, rfl⟩
  | ok r =>
    obtain ⟨q, v⟩ := r
    exact absurd (Alg.add_sub_ok_dims hdb h1 h2 ne1 ne2 h qt) hd

/-- … as a step of the session, in ANY state (whatever was created, memoised or registered before): the step
fails and hands back the very state it was given -/
theorem sumq_of_different_dimensions_fails (st : XState) (hdb : st.db.AllWF) (op : Alg.SameOp)
    {q1 q2 : Alg.Quantity} (v1 v2 : Rat) (h1 : Alg.Operand st.db q1) (h2 : Alg.Known st.db q2)
    (ne1 : q1.entries ≠ []) (ne2 : q2.entries ≠ []) {qt : Sym}
    (hd : Alg.dim st.db qt q1.entries ≠ Alg.dim st.db qt q2.entries) :
    (∃ e, (xstep st (.sumq op q1 q2 v1 v2)).2 = .error e) ∧ (xstep st (.sumq op q1 q2 v1 v2)).1 = st := by
  obtain ⟨e, he⟩ := sum_of_different_dimensions_fails hdb op v1 v2 h1 h2 ne1 ne2 hd
  exact ⟨⟨e, by simp only [xstep, sumAnswer, he]⟩, rfl⟩

/-- **after a sum or difference — failed or not — every later answer of the session is unchanged**: the session
state is not touched by `opSame` at all (no invariant, no tameness needed) -/
theorem failed_sum_invisible (st : XState) (op : Alg.SameOp) (q1 q2 : Alg.Quantity) (v1 v2 : Rat)
    (later : List XOp) :
    xoutputs (xstep st (.sumq op q1 q2 v1 v2)).1 later = xoutputs st later := rfl

/-- the same for the state any history reaches from a fresh database object -/
theorem failed_sum_invisible_in_history (db : Db) (before : List XOp) (op : Alg.SameOp) (q1 q2 : Alg.Quantity)
    (v1 v2 : Rat) (later : List XOp) :
    xoutputs (xrun (XState.fresh db) (before ++ [.sumq op q1 q2 v1 v2])) later
      = xoutputs (xrun (XState.fresh db) before) later := by
  rw [xrun_append_single]; rfl

/-- the answer of a sum is the same at every point of a history over one registry -/
theorem sumq_answer_history_independent (st : XState) (op : Alg.SameOp) (q1 q2 : Alg.Quantity) (v1 v2 : Rat) :
    (xstep st (.sumq op q1 q2 v1 v2)).2 = (xstep (XState.fresh st.db) (.sumq op q1 q2 v1 v2)).2 := rfl

/-- the `==` shortcut of `_DoOperationWithSameQuantity` is taken only by operands with the same entries:
quantities that differ in one exponent (`1/s` and `1/s2`) are not equal, so their sum reaches the unit check -/
theorem eqv_entries {a b : Alg.Quantity} (h : a.eqv b = true) : a.entries = b.entries :=
  Alg.Quantity.eqv_entries h

end Barril.Fail
