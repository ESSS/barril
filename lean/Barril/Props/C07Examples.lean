/- Non-vacuity examples of C07 (a module of their own: they evaluate
concrete instances, many over the regenerated tables, and must not be able to stop the theorem module from
building).  Not property theorems: the check builds this module separately and only records the outcome. -/
import Barril.Props.C07
import Barril.Gen.ThmFlat

namespace Barril.Intern

section examples
open Barril.Gen

deriving instance DecidableEq for State, Session

/-- the session `exOps` ends in: objects 0-4 with their cells (addresses 4, 5, 7, 8 are working copies of the
two arithmetic steps), the five cache entries, the eight step results -/
def exReached : Session where
  st := {
    heap := [⟨sM, 1, false⟩, ⟨sCm, 1, false⟩, ⟨sM, 2, false⟩, ⟨sS, -1, false⟩, ⟨sM, 2, false⟩, ⟨sM, 1, false⟩,
      ⟨sM, 2, false⟩, ⟨sM, 1, false⟩, ⟨sM, 1, false⟩, ⟨sM, 1, false⟩]
    objs := [⟨[(sLength, 0)], 0, false⟩, ⟨[(sLength, 1)], 0, false⟩, ⟨[(sLength, 2), (sTime, 3)], 0, true⟩,
      ⟨[(sLength, 6)], 0, true⟩, ⟨[(sLength, 9)], 0, false⟩]
    cache := [(.simple (some sLength) (some sM) none, 0), (.simple (some sLength) (some sCm) (some 0), 1),
      (.comp [(sLength, sM, 2), (sTime, sS, -1)] 0, 2), (.comp [(sLength, sM, 2)] 0, 3),
      (.simple (some sLength) (some sM) (some 0), 4)] }
  results := [some 0, some 1, some 2, some 3, some 3, some 4, none, some 0]

/-- the history is evaluated once; the examples about it read the result -/
theorem exOps_reached : reach poscDb exG exOps = exReached := by rw [poscDb_flat]; decide +kernel

-- the history runs, creates 5 objects and 5 cache entries (the last request hits the resolved key)
example : (reach poscDb exG exOps).results = [some 0, some 1, some 2, some 3, some 3, some 4, none, some 0] := by
  rw [exOps_reached]; decide +kernel
example : (reach poscDb exG exOps).st.objs.length = 5 ∧ (reach poscDb exG exOps).st.cache.length = 5 := by
  rw [exOps_reached]; decide +kernel
-- m * cm is the derived quantity (length: m, 2), interned under its composing key
example : ((reach poscDb exG exOps).st.objs[3]?.map (view (reach poscDb exG exOps).st.heap)) =
    some (some [(sLength, ⟨sM, 2, false⟩)], 0, true) := by rw [exOps_reached]; decide +kernel
-- the same request repeated returns the identical object
example : toOut (obtain poscDb (reach poscDb exG exOps).st (.str sCm) (.str sLength) (some 0)).2 = .ok 1 := by
  rw [exOps_reached, poscDb_flat]; decide +kernel
-- a malformed request (list form without categories) raises and changes nothing
example : (stepState poscDb exG (reach poscDb exG exOps) (.obtain (.seq [⟨sM, 2, false⟩]) .none none)).2 =
    .err .assertion := by rw [exOps_reached, poscDb_flat]; decide +kernel
-- m + cm interned a second simple quantity (length, m, "") (object 4): another object than
-- (length, m, None) (object 0), equal to it, with the same hash
example : (do
    let a ← (reach poscDb exG exOps).st.objs[0]?
    let b ← (reach poscDb exG exOps).st.objs[4]?
    pure (qeq (reach poscDb exG exOps).st.heap a b,
          hashKey (reach poscDb exG exOps).st.heap a == hashKey (reach poscDb exG exOps).st.heap b)) =
    some (true, true) := by rw [exOps_reached]; decide +kernel
-- a new request creates the next object
example : (stepState poscDb exG (reach poscDb exG exOps) (.obtain (.str sCm) (.str sLength) none)).2 = .ok 5 := by
  rw [exOps_reached, poscDb_flat]; decide +kernel

-- a legacy spelling and the current one resolve alike: two objects, equal
example : (reach poscDb exG exOps2).results = [some 0, some 1] ∧
    (do let a ← (reach poscDb exG exOps2).st.objs[0]?
        let b ← (reach poscDb exG exOps2).st.objs[1]?
        pure (qeq (reach poscDb exG exOps2).st.heap a b)) = some true ∧
    (match resolveSimpleUnit poscDb sVolume sLegacy with | .ok u => u == sMcf | .error _ => false) = true := by
  rw [poscDb_flat]; decide +kernel

-- the tuple form does not poison the cache: the product with a quantity requested as tuples succeeds
example : (reach poscDb exG exOps3).results = [some 0, some 1, some 2] ∧
    ((reach poscDb exG exOps3).st.objs[2]?.map (view (reach poscDb exG exOps3).st.heap)) =
      some (some [(sLength, ⟨sM, 2, false⟩), (sTime, ⟨sS, -1, false⟩)], 0, true) := by rw [poscDb_flat]; decide +kernel

-- the dict form validates the units on a miss: the first request is accepted, the swapped one raises a
-- units error and stores nothing
example : (reach poscDb exG exOps4).results = [some 0, none] ∧ (reach poscDb exG exOps4).st.cache.length = 1 ∧
    (stepState poscDb exG (reach poscDb exG [exGoodOp]) exBadOp).2 = .err .units := by rw [poscDb_flat]; decide +kernel

-- a repeated __init__ on the derived m2 and on the simple m: same objects, two objects and two cache
-- entries in all, m2 still (length: m, 2), m * m still resolves to it
example : (reach poscDb exG exOps5).results = [some 0, some 1, some 1, some 1, some 1, some 0] ∧
    (reach poscDb exG exOps5).st.objs.length = 2 ∧ (reach poscDb exG exOps5).st.cache.length = 2 ∧
    ((reach poscDb exG exOps5).st.objs[1]?.map (view (reach poscDb exG exOps5).st.heap)) =
      some (some [(sLength, ⟨sM, 2, false⟩)], 0, true) := by rw [poscDb_flat]; decide +kernel

end examples

end Barril.Intern
