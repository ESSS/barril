/-
C14 — the unit registry stays well-formed under any registration history.

Model: `Barril/Model/Reg.lean` (`AddUnit`, `AddUnitBase`, `AddCategory` with every argument, the
getters), `Barril/Model/RegCache.lean` (construction of value objects), `Barril/Model/RegTable.lean`
(the invariant as per-row predicates over the translated tables).  Helper lemmas and the definition
of `RegInv`: `Barril/Proofs/RegLemmas.lean`, `Barril/Proofs/RegCacheLemmas.lean`.

Property theorems, and the histories their counterexample and examples run.  The full-strength identity-base clause ("the first-listed unit of EVERY
quantity type is an identity") is false on the real code — known finding C14-addunit-without-base —
so the invariant proved for all histories carries it in the weakened form `baseIdent`+`baseFirst`
(rows registered by `AddUnitBase` are identities and precede all other rows of their type), the
full clause is proved for all histories that open every quantity type with `AddUnitBase`
(`run_inv_disciplined`), and `run_inv_counterexample` refutes the unrestricted statement.
-/
import Barril.Proofs.RegCacheLemmas
import Barril.Proofs.RegIndexLemmas
import Barril.Gen.ThmReg14ctPosc
import Barril.Gen.ThmIdxPosc
import Barril.Gen.ThmCorePosc
import Barril.Gen.ThmReg14uSimple
import Barril.Gen.ThmReg14cSimple
import Barril.Proofs.CtorLemmas
import Barril.Gen.ThmDefcatPosc

namespace Barril.Reg

variable (lg : List (Sym × Sym))

/-! ### the invariant is preserved by every step and every history -/

/-- every registration call, accepted or rejected, with any arguments, keeps the registry
well-formed -/
theorem step_preserves_RegInv {r : Registry} (h : RegInv r) (op : RegOp) : RegInv (step lg r op).1 :=
  step_inv lg h op

theorem run_preserves_RegInv {r : Registry} (h : RegInv r) (ops : List RegOp) : RegInv (run lg r ops) := by
  induction ops generalizing r with
  | nil => exact h
  | cons op ops ih => exact ih (step_preserves_RegInv lg h op)

/- full statement (false, see `run_inv_counterexample`):
   theorem run_inv (ops : List RegOp) : FullInv (run lg Registry.empty ops) -/
/-- **after any sequence of registrations on a new database the registry is well-formed**: every
symbol is listed once and in one quantity type, the symbol index and the lists agree, every
category refers to an existing type with default and valid units drawn from it and a default value
inside its limits, and the units registered as base units are identities and head their lists.
Partial: the clause "the first-listed unit of every type is an identity" holds in this weakened
form only (known finding: AddUnit into a type without base unit). -/
theorem run_inv_partial (ops : List RegOp) : RegInv (run lg Registry.empty ops) :=
  run_preserves_RegInv lg regInv_empty ops

/-- the history of the known finding, `AddUnit('time', 'minutes', 'min', 'x/60', 'x*60')` on a new
database -/
def knownFindingHistory : List RegOp :=
  [.addUnit (.str (Sym.ofString "time")) (Sym.ofString "minutes") (.str (Sym.ofString "min"))
    (.mob ⟨0, 1, 60, 0⟩) (.mob ⟨0, 60, 1, 0⟩) 0]

/-- **the unrestricted statement is false**: the call is accepted and leaves a quantity type whose
first-listed unit is not an identity -/
theorem run_inv_counterexample : ¬ FullInv (run lg Registry.empty knownFindingHistory) := by
  intro h
  -- an `AddUnit` never reads the table of legacy spellings
  have hrun : run lg Registry.empty knownFindingHistory = run [] Registry.empty knownFindingHistory := rfl
  rw [hrun] at h
  have hl : tlGet (run [] Registry.empty knownFindingHistory).types (Sym.ofString "time")
      = some [⟨Sym.ofString "time", Sym.ofString "minutes", Sym.ofString "min", true, ⟨0, 60, 1, 0⟩,
          ⟨0, 1, 60, 0⟩, true, true, none, none, 0, 0⟩] := by decide +kernel
  obtain ⟨b, t, hbt, hid⟩ := h.2 _ _ hl
  cases hbt
  revert hid
  decide +kernel

/-- **for every history that opens each quantity type with `AddUnitBase` (as the shipped fillers
do) the registry is well-formed at full strength**: the first-listed unit of every quantity type
has identity to-base and from-base functions -/
theorem run_inv_disciplined (ops : List RegOp) (hd : Disciplined lg Registry.empty ops) :
    FullInv (run lg Registry.empty ops) := by
  have key : ∀ (ops : List RegOp) (r : Registry), RegInv r → HasBase r → Disciplined lg r ops →
      RegInv (run lg r ops) ∧ HasBase (run lg r ops) := by
    intro ops
    induction ops with
    | nil => intro r h hb _; exact ⟨h, hb⟩
    | cons op ops ih =>
      intro r h hb hd
      exact ih _ (step_preserves_RegInv lg h op) (step_preserves_HasBase lg h hb hd.1) hd.2
  have hb0 : HasBase Registry.empty := by intro qt l hl; simp [Registry.empty, tlGet] at hl
  obtain ⟨h, hb⟩ := key ops _ regInv_empty hb0 hd
  exact fullInv_of_hasBase h hb

/-! ### a rejected registration leaves the registry exactly as it was -/

/-- for every call and every argument combination: if the call raises, the three dictionaries are
unchanged.  (The hypothesis is needed: `AddUnit` performs its second duplicate check after writing
the symbol index; in a well-formed registry that check cannot fire.) -/
theorem rejected_step_id {r r' : Registry} (h : RegInv r) {op : RegOp} {e : ErrKind}
    (hs : step lg r op = (r', .error e)) : r' = r :=
  rejected_id lg h hs

theorem rejected_step_id_in_history (before : List RegOp) {op : RegOp} {r' : Registry} {e : ErrKind}
    (hs : step lg (run lg Registry.empty before) op = (r', .error e)) :
    r' = run lg Registry.empty before :=
  rejected_step_id lg (run_inv_partial lg before) hs

/-! ### what the invariant says, in the words of the property -/

/-- every unit symbol belongs to exactly one quantity type (and is listed once) -/
theorem symbol_in_exactly_one_type (ops : List RegOp) {q1 q2 : Sym} {l1 l2 : List UnitRow}
    (h1 : tlGet (run lg Registry.empty ops).types q1 = some l1)
    (h2 : tlGet (run lg Registry.empty ops).types q2 = some l2) {w1 w2 : UnitRow}
    (m1 : w1 ∈ l1) (m2 : w2 ∈ l2) (hs : w1.sym = w2.sym) : q1 = q2 ∧ w1 = w2 :=
  (run_inv_partial lg ops).sym_one_type h1 h2 m1 m2 hs

/-- every category refers to an existing quantity type, with default and valid units drawn from
that type and a default value inside its limits -/
theorem category_well_formed (ops : List RegOp) {c : Sym} {ci : CatRow}
    (hc : catGet (run lg Registry.empty ops).cats c = some ci) :
    CatOk (run lg Registry.empty ops) ci :=
  (run_inv_partial lg ops).catsOk c ci hc

/-- **every registered category builds a valid Scalar**: `Scalar(c)` is created with the category,
its default unit and default value, and `IsValid()` holds for it -/
theorem every_category_builds_valid_scalar (ops : List RegOp) {c : Sym} {ci : CatRow}
    (hc : catGet (run lg Registry.empty ops).cats c = some ci) :
    spec lg (run lg Registry.empty ops) (.createC c) = .ok (.qvalue c ci.defaultUnit ci.defaultValue)
    ∧ spec lg (run lg Registry.empty ops) (.isValid c ci.defaultUnit ci.defaultValue) = .ok (.bool true) :=
  category_builds_scalar lg (run_inv_partial lg ops) hc

/-- **every registered unit builds a Scalar** under every category of its quantity type:
`Scalar(x, u, c)` is created with exactly that unit and category -/
theorem every_unit_builds_scalar (ops : List RegOp) {c : Sym} {ci : CatRow} {l : List UnitRow} {w : UnitRow}
    (hc : catGet (run lg Registry.empty ops).cats c = some ci)
    (hl : tlGet (run lg Registry.empty ops).types ci.qtype = some l) (hw : w ∈ l) :
    spec lg (run lg Registry.empty ops) (.create c w.sym) = .ok (.quantity c w.sym) :=
  unit_builds_scalar lg (run_inv_partial lg ops) hc hl hw

/-! ### the shipped tables (regenerated from /repo on every run) -/

/-- **the shipped POSC database satisfies the invariant** (1548 units, 328 categories today; the
table theorems are re-proved by `decide +kernel` whenever /repo changes) -/
theorem posc_RegInv : DbRegInv Gen.poscDb :=
  dbRegInv_of_index Gen.poscC_core Gen.poscTree_complete Gen.poscC_pos Gen.poscTree_sound Gen.poscBases_sound
    Gen.poscBases_complete Gen.poscBases_ident Gen.poscCats_all_reg14ct

/-- **every unit of the shipped POSC database can be used to build a Scalar without naming a
category**: its default category — its own `default_category` entry, else its quantity type's
name — is a registered category of the unit's OWN quantity type (per-row predicate
`UnitRow.defaultCatOk`, generated table theorem `poscUnits_all_defcat`) -/
theorem posc_units_default_category_of_own_type :
    ∀ w ∈ Gen.poscDb.units, ∃ c ci, Ctor.rowDefaultCategory Gen.poscDb w = some c ∧ c ≠ 0
      ∧ Gen.poscDb.catByName c = some ci ∧ ci.qtype = w.qtype :=
  fun w hw => Ctor.defaultCatOk_spec (List.all_eq_true.mp Gen.poscUnits_all_defcat w hw)

/-- **the database built by `FillSimple` satisfies the invariant** -/
theorem simple_RegInv : DbRegInv Gen.simpleDb :=
  dbRegInv_of_all Gen.simpleUnits_all_reg14u Gen.simpleCats_all_reg14c

/-- a history with a base unit, a unit, a category with limits, a rejected and an overriding call -/
def sampleHistory : List RegOp :=
  [.addUnitBase (.str 1) 10 (.str 2),
   .addUnit (.str 1) 11 (.str 3) (.mob ⟨0, 100, 1, 0⟩) (.mob ⟨0, 1, 100, 0⟩) 0,
   .addUnit (.str 1) 11 (.str 3) (.mob ⟨0, 100, 1, 0⟩) (.mob ⟨0, 1, 100, 0⟩) 0,
   .addCategory ⟨.str 5, some 1, some [3], false, none, none, some 0, some 10, false, false, 7, none⟩,
   .addCategory ⟨.str 6, none, none, true, some 2, none, none, none, false, false, 0, some 5⟩]

/-! ### several private databases alive at the same time -/

/-- **databases do not interact**: in any interleaving of histories (registrations, lookups, failing
operations, creations) addressed to a family of private databases, database `i` ends in the state,
and gives the outcomes, of its own history run alone — whatever the others were asked in between -/
theorem databases_do_not_interact (s : Nat → CState) (ops : List (Nat × COp)) (i : Nat) :
    runN (cstep lg) s ops i = crun lg (s i) (partOf i ops)
    ∧ partOf i (outputsN (cstep lg) s ops) = coutputs lg (s i) (partOf i ops) := by
  rw [runN_apply, outputsN_part, frun_cstep, fouts_cstep]
  exact ⟨rfl, rfl⟩

/-- … hence each of them stays well-formed, and every registered unit builds a Scalar through every
category of its quantity type in ITS database, after any interleaving -/
theorem every_database_stays_well_formed (ops : List (Nat × COp)) (i : Nat) :
    RegInv (runN (cstep lg) (fun _ => CState.fresh Registry.empty) ops i).reg := by
  rw [(databases_do_not_interact lg _ ops i).1]
  exact crun_regInv lg regInv_empty _

theorem every_unit_builds_scalar_in_its_database (ops : List (Nat × COp)) (i : Nat) {c : Sym} {ci : CatRow}
    {l : List UnitRow} {w : UnitRow}
    (hc : catGet (runN (cstep lg) (fun _ => CState.fresh Registry.empty) ops i).reg.cats c = some ci)
    (hl : tlGet (runN (cstep lg) (fun _ => CState.fresh Registry.empty) ops i).reg.types ci.qtype = some l)
    (hw : w ∈ l) :
    spec lg (runN (cstep lg) (fun _ => CState.fresh Registry.empty) ops i).reg (.create c w.sym)
      = .ok (.quantity c w.sym) :=
  unit_builds_scalar lg (every_database_stays_well_formed lg ops i) hc hl hw

/-! ### `AddCategory(..., from_category=src, is_min_exclusive=None, is_max_exclusive=None)` -/

/-- **explicit `None` for an exclusivity flag means "as in the source category"**: when the call is
accepted, the new category carries the source's `is_min_exclusive` / `is_max_exclusive` (for whichever
of the two was passed as `None`; a flag passed as a bool is kept) -/
theorem explicit_none_flags_copied_from_source {r r' : Registry} {a : CatArgs} {src : Sym} {ci info : CatRow}
    {minN maxN capN : Bool} (hf : a.fromCat = some src) (hs : src ≠ 0) (hc : catGet r.cats src = some ci)
    (h : step lg r (.addCategoryN a minN maxN capN) = (r', .ok (.cat info))) :
    info.minExcl = (if minN then ci.minExcl else a.minExcl) ∧ info.maxExcl = (if maxN then ci.maxExcl else a.maxExcl) := by
  simp only [step] at h
  rcases addCategory_spec lg r (inheritFlags r a minN maxN capN) with ⟨e, he⟩ | ⟨info', _, _, f1, f2, he⟩ <;>
    rw [he] at h <;> cases h
  have ht : truthy a.fromCat = true := by rw [hf]; simp [truthy, hs]
  have hg : getCategoryInfo r (a.fromCat.getD 0) = .ok ci := by rw [hf]; simp [getCategoryInfo, hc]
  simp only [inheritFlags, ht, hg, ↓reduceIte] at f1 f2
  exact ⟨f1, f2⟩

/-- **contradictory limits are never registered — a ZERO-valued limit is a limit**: an `AddCategory` that
gives both limits with `max_value < min_value` (whatever the two numbers are: `min_value=0, max_value=-5`
and `min_value=5, max_value=0` included; with or without `override`, `from_category`, a default value) is
rejected in every registry and leaves the registry exactly as it was -/
theorem contradictory_limits_rejected (r : Registry) (a : CatArgs) {lo hi : Rat} (hmin : a.minV = some lo)
    (hmax : a.maxV = some hi) (h : hi < lo) :
    (∃ e, (step lg r (.addCategory a)).2 = .error e) ∧ (step lg r (.addCategory a)).1 = r := by
  have hl : limitsInverted a.minV a.maxV = true := by simp [limitsInverted, hmin, hmax, h]
  rcases addCategory_spec lg r a with ⟨e, he⟩ | ⟨_, hni, _⟩
  · simp [step, he]
  · rw [hl] at hni
    cases hni

/-- two databases sharing the category 5 over the quantity type 1 with different units (database 0:
units 2, 3; database 1: units 2, 4), used alternately: database 1 refuses (5, 3), database 0 builds it -/
def twoDatabases : List (Nat × COp) :=
  [(0, .reg (.addUnitBase (.str 1) 10 (.str 2))),
   (1, .reg (.addUnitBase (.str 1) 10 (.str 2))),
   (0, .reg (.addUnit (.str 1) 11 (.str 3) (.mob ⟨0, 100, 1, 0⟩) (.mob ⟨0, 1, 100, 0⟩) 0)),
   (1, .reg (.addUnit (.str 1) 12 (.str 4) (.mob ⟨0, 1, 1000, 0⟩) (.mob ⟨0, 1000, 1, 0⟩) 0)),
   (0, .reg (.addCategory ⟨.str 5, some 1, none, false, none, none, none, none, false, false, 0, none⟩)),
   (1, .reg (.addCategory ⟨.str 5, some 1, none, false, none, none, none, none, false, false, 0, none⟩)),
   (1, .query (.create 5 3)),
   (0, .query (.create 5 3)),
   (0, .query (.create 5 4)),
   (1, .query (.create 5 4))]

end Barril.Reg
