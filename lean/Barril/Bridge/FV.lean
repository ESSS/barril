/-
Bridge theorems for `FractionValue.__float__`, the four order operators, `__eq__` and
`FractionScalar.ConvertFractionValue` (generated: `Barril/Gen/CodeFV.lean`, regenerated from the source text of /repo on
every run by `harness/pycode.py`).

What the generated text calls is instantiated by the model: `Fraction.__eq__` by `Frac.pyEq` in `fvEq_eq_model`; in
`convertFractionValue_eq_model` (Quantity-object form) `ObtainQuantity`, `ConvertScalarValue`, `FractionValue(number=…)`
and `SetFraction` by `obtain`, `Qty.convertScalarValue`, `FV.init … default` and `setFraction (.frac f)`.  Its right side
is `convertFV`, over which C18's `fs_convert_…` and `fs_order_…` theorems are stated: the number is converted first, then
the numerator as an increment (`convert(numerator) - convert(0.0)`), stored through the numerator setter.
-/
import Barril.Gen.CodeFV
import Barril.Proofs.FracLemmas

namespace Barril.Bridge.FV
open Barril Barril.Frac Barril.Gen.Code

theorem fvFloat_eq_model (v : FV) : fvFloat v.number v.frac = v.value := rfl

def genFloat (v : FV) : Rat := fvFloat v.number v.frac

/-- which generated operator a `CmpOp` is.  `==` and `!=` have none (they go through `fvEq`); the value given for
them is never looked at: every theorem about `genOrder` assumes `op.isOrder` -/
def genOrder : CmpOp → (FV → Rat) → FV → FV → Bool
  | .lt => fvLt | .le => fvLe | .gt => fvGt | .ge => fvGe
  | .eq => fun _ _ _ => false | .ne => fun _ _ _ => false

theorem fvOrder_eq_cmpValue (op : CmpOp) (h : op.isOrder = true) (a b : FV) :
    genOrder op genFloat a b = FV.cmpValue op a.value b.value := by
  cases op <;> first | rfl | simp [CmpOp.isOrder] at h

theorem fvOrder_eq_model (op : CmpOp) (h : op.isOrder = true) (a b : FV) :
    .ok (genOrder op genFloat a b) = a.cmp op b := by
  cases op <;> first | rfl | simp [CmpOp.isOrder] at h

theorem fvEq_eq_model (a b : FV) :
    fvEq (fun x y => x.pyEq (.frac y)) a.number b.number a.frac b.frac = a.eq b := by
  unfold fvEq FV.eq
  by_cases h : a.number = b.number
  · simp only [h, if_true]
    cases a.frac.pyEq (.frac b.frac) with
    | error e => rfl
    | ok r => cases r <;> rfl
  · simp [h]

/-- `result.SetFraction(fraction)` on a constructed FractionValue -/
def setFr (v : FV) (f : Frac) : Except ErrKind FV :=
  match setFraction (.frac f) with
  | .error e => .error e
  | .ok f' => .ok { v with frac := f' }

theorem convertFractionValue_eq_model (db : Db) (cat fromU toU : Sym) (fv : FV) :
    Gen.Code.convertFractionValue (fun c : Sym => c) (fun u c => obtain db c u) (fun (q : Qty) x t => q.convertScalarValue db t x)
        (fun n => FV.init (some n) FracArg.default) setFr fv cat fromU toU
      = convertFV db cat fromU toU fv := by
  unfold Gen.Code.convertFractionValue convertFV setFr
  simp only [fv_init_default, setFraction]
  cases obtain db cat fromU with
  | error e => rfl
  | ok q =>
    simp only []
    cases q.convertScalarValue db toU fv.number with
    | error e => rfl
    | ok n =>
      simp only []
      cases q.convertScalarValue db toU ((fv.frac.numerator : Int) : Rat) with
      | error e => rfl
      | ok a =>
        simp only []
        cases q.convertScalarValue db toU 0 with
        | error e => rfl
        | ok z =>
          simp only []
          cases fv.frac.setNumerator (a - z) <;> rfl

end Barril.Bridge.FV
