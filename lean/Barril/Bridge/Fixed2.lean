/-
Bridge theorem for `FixedArray.IndexAsScalar` (generated: `Barril/Gen/CodeFixed2.lean`, regenerated from the source text
of /repo on every run by `harness/pycode.py`).

`indexAsScalar_eq_model`: with `self.GetValues(unit=…)` instantiated by the model's `Fixed.getValues` on the object's
state, the generated definition equals `Fixed.indexAsScalar` (over which C11's `indexAsScalar_…` theorems are stated):
the given quantity or else the array's own one, the values converted to THAT quantity's unit, Python indexing
(negative from the end, IndexError outside), the Scalar built on that quantity.

`changingIndex_eq_model`: the generated `ChangingIndex` - `value` is the model's three-way `CIValue`; `Scalar.CreateCopy(*t)`,
`Scalar.GetValue`, `self.GetValues` and the FixedArray constructor instantiated by the model's functions - equals
`Fixed.changingIndex` for every object, index, kind of value and both settings of `use_value_unit`: which Scalar is
used, whose quantity the new array gets, the values read in THAT unit, the element replaced (IndexError outside), the
result rebuilt by `FixedArray(dimension, quantity, tuple(values))`.  The translator repeats the end of the method six
times; `tailCode` names it once and `changingIndex_code` (by `rfl`) reads the generated definition in its terms.
Core Lean only.
-/
import Barril.Gen.CodeFixed2

namespace Barril.Bridge.Fixed2
open Barril Barril.Fixed

theorem indexAsScalar_eq_model (db : Db) (o : Obj) (index : Int) (quantity : Option Qty) :
    Gen.Code.indexAsScalar (fun u => getValues db o.st u) o.st.q index quantity
      = Fixed.indexAsScalar db o index quantity := by
  cases quantity <;> rfl

section
variable {ω : Type} (getValues : Option Sym → Except ErrKind Vals)
  (scalarGetValue : Scalar → Option Sym → Except ErrKind Rat)
  (newFixedArray : Int → Qty → List Rat → Except ErrKind ω)

/-- the end of `ChangingIndex`, which the translator repeats for every kind of `value` and both settings of
`use_value_unit`: the values and the amount read in the unit of `quantity`, the element replaced, the array rebuilt -/
def tailCode (self_dimension index : Int) (sc : Scalar) (quantity : Qty) : Except ErrKind ω :=
  match getValues (some quantity.unit) with
  | .error e => .error e
  | .ok vals =>
    match scalarGetValue sc (some quantity.unit) with
    | .error e => .error e
    | .ok amount =>
      match pySet vals.xs index amount with
      | .error e => .error e
      | .ok ys =>
        match newFixedArray self_dimension quantity ys with
        | .error e => .error e
        | .ok arr => .ok arr

theorem tailCode_eq (d i : Int) (sc : Scalar) (q : Qty) :
    tailCode getValues scalarGetValue newFixedArray d i sc q =
      (match getValues (some q.unit) with
       | .error e => .error e
       | .ok vals =>
         match scalarGetValue sc (some q.unit) with
         | .error e => .error e
         | .ok amount =>
           match pySet vals.xs i amount with
           | .error e => .error e
           | .ok ys => newFixedArray d q ys) := by
  unfold tailCode
  split
  · rfl
  split
  · rfl
  split
  · rfl
  -- the code's last `match` only passes the constructor's result on
  split <;> rename_i h <;> exact h.symm

theorem changingIndex_code
    (scalarCreateCopy : Scalar → Option Rat × Option Sym × Option Sym → Except ErrKind Scalar)
    (self_quantity : Qty) (self_dimension index : Int) (value : CIValue) (uvu : Bool) :
    Gen.Code.changingIndex getValues scalarCreateCopy scalarGetValue newFixedArray self_quantity self_dimension
        index value uvu =
      (match value with
       | .tup v u c =>
         match getValues none with
         | .error e => .error e
         | .ok vals =>
           match pyGet vals.xs index with
           | .error e => .error e
           | .ok item =>
             match scalarCreateCopy ⟨self_quantity, item⟩ (v, u, c) with
             | .error e => .error e
             | .ok sc =>
               tailCode getValues scalarGetValue newFixedArray self_dimension index sc
                 (if uvu = true then sc.q else self_quantity)
       | .scalar s =>
         tailCode getValues scalarGetValue newFixedArray self_dimension index s
           (if uvu = true then s.q else self_quantity)
       | .num x =>
         tailCode getValues scalarGetValue newFixedArray self_dimension index ⟨self_quantity, x⟩ self_quantity) := by
  cases value <;> cases uvu <;> rfl

end

theorem changingIndex_eq_model (db : Db) (o : Obj) (index : Int) (value : CIValue) (useValueUnit : Bool) :
    Gen.Code.changingIndex (fun u => getValues db o.st u) (fun s t => Scalar.createCopy db s t.1 t.2.1 t.2.2)
        (fun s u => s.getValue db u)
        (fun d q ys => init db .none d (.catFirst (.qty q) (some (.sized ⟨.tuple, ys⟩)) none)) o.st.q o.st.dim
        index value useValueUnit
      = Fixed.changingIndex db o index value useValueUnit := by
  rw [changingIndex_code]
  simp only [tailCode_eq]
  unfold Fixed.changingIndex ciScalar
  cases value with
  | num x => cases useValueUnit <;> rfl
  | scalar s => rfl
  | tup v u c =>
    simp only [getValues]
    cases pyGet o.st.vals.xs index with
    | error e => rfl
    | ok x => simp only []; cases Scalar.createCopy db ⟨o.st.q, x⟩ v u c <;> rfl

end Barril.Bridge.Fixed2
