/-
Bridge theorems for `FixedArray.CheckValues` and `FixedArray._InternalCreateWithQuantity` (generated:
`Barril/Gen/CodeFixed.lean`, regenerated from the source text of /repo on every run by `harness/pycode.py`).

`fixedCheckValues_eq_model`: the generated `CheckValues` equals the model's `Fixed.checkValuesPublic` for all objects,
containers (including objects without `__len__`) and both forms of the `dimension` keyword.

`fixedInternalCreate_eq_model`: the generated internal constructor - with `self._dimension` as explicit state
(`PyRt.Attr`: absent / None / value, initialised by the model's attribute lookup `lookupDim cls inst`), the generated
`CheckValues` plugged in for `self.CheckValues` (for ANY value of the property `self.dimension`: the constructor always
passes the dimension explicitly) and `Array._InternalCreateWithQuantity(self, quantity, values)` recorded as the pair
it stores - equals the automaton `Fixed.internalCreate` over which C11's `internalCreate_spec`, `route_inv`,
`reachable_inv` ... are stated: same error class on every failing path (duplicate `value`/`values`, the
failed assert, AttributeError of a class without `_dimension`, TypeError of `len`, the re-definition mismatch,
dimension < 2, the length check) and on success the same `_dimension`, container and quantity.  Dropping a check,
flipping `<`, swapping `value`/`values`, or reordering the checks changes the generated definition and the proof
stops checking.

The translator copies the rest of the function into every branch: `finishCode` and `dimCode` name the repeated parts
once, `fixedInternalCreate_code` reads the generated definition in these terms by `rfl`.  Core Lean only.
-/
import Barril.Gen.CodeFixed

namespace Barril.Bridge.Fixed
open Barril Barril.Fixed Barril.Gen.Code

/-- the model's three-valued attribute lookup as the translator's state type -/
def attrOf : Fixed.Attr → PyRt.Attr Int
  | .absent => .absent
  | .none => .none
  | .val n => .val n

theorem fixedCheckValues_eq_model (o : Obj) (values : ValArg) (dimension : Option Int) :
    fixedCheckValues o.st.dim values dimension = checkValuesPublic o values dimension := by
  unfold fixedCheckValues checkValuesPublic checkValues
  -- with or without the keyword: an unsized object is `TypeError` on both sides, a container is the length test
  cases dimension <;> cases values <;> simp only [pyLen, Option.getD]
  · split <;> rfl
  · split <;> rfl

/-- what the final state of the generated constructor is for a model state -/
def stateOf (st : FixedArr) : PyRt.Attr Int × (Qty × ValArg) := (.val st.dim, (st.q, .sized st.vals))

section
variable {α : Type} (chk : ValArg → Option Int → Except ErrKind Unit) (mk : Qty → ValArg → α)

/-- the end of the constructor - the `dimension < 2` test, `CheckValues`, the two assignments -, which the
translator repeats on every path that reaches it -/
def finishCode (q : Qty) (vs : ValArg) (d : Int) : Except ErrKind (PyRt.Attr Int × α) :=
  if d < 2 then .error .value else
  match chk vs (some d) with
  | .error e => .error e
  | .ok _ => .ok (.val d, mk q vs)

/-- the constructor once `value` / `values` are merged into `vs`: how the dimension is settled -/
def dimCode (self_dimension : PyRt.Attr Int) (q : Qty) (vs : ValArg) (dimension : Option Int) :
    Except ErrKind (PyRt.Attr Int × α) :=
  match dimension with
  | some d =>
    if PyRt.Attr.has self_dimension = true then
      match PyRt.Attr.get self_dimension with
      | .error e => .error e
      | .ok a =>
        match a with
        | some n => if d ≠ n then .error .value else finishCode chk mk q vs d
        | none => finishCode chk mk q vs d
    else finishCode chk mk q vs d
  | none =>
    match PyRt.Attr.get self_dimension with
    | .error _ =>
      -- `except AttributeError: pass`, then `dimension = self._dimension` reads the attribute again
      match PyRt.Attr.get self_dimension with
      | .error e => .error e
      | .ok a =>
        match PyRt.unNone a with
        | .error e => .error e
        | .ok n =>
          if n < 2 then .error .value else
          match chk vs a with
          | .error e => .error e
          | .ok _ => .ok (PyRt.Attr.ofOption a, mk q vs)
    | .ok a =>
      match a with
      | some n => finishCode chk mk q vs n
      | none =>
        match Fixed.pyLen vs with
        | .error e => .error e
        | .ok len => finishCode chk mk q vs len

theorem fixedInternalCreate_code (sd : PyRt.Attr Int) (arr0 : α) (q : Qty) (values : Option ValArg)
    (dimension : Option Int) (value : Option ValArg) :
    fixedInternalCreate chk mk sd arr0 q values dimension value =
      (match value, values with
       | some _, some _ => .error .value
       | some v, none => dimCode chk mk sd q v dimension
       | none, some v => dimCode chk mk sd q v dimension
       | none, none => .error .assertion) := by
  cases value <;> cases values <;> rfl

theorem dimCode_eq (cls : ClsAttr) (inst : Option Int) (q : Qty) (vs : ValArg) (dimension : Option Int) :
    dimCode chk mk (attrOf (lookupDim cls inst)) q vs dimension =
      (match resolveDim cls inst dimension vs with
       | .error e => .error e
       | .ok d => finishCode chk mk q vs d) := by
  unfold dimCode resolveDim
  generalize lookupDim cls inst = a
  cases dimension <;> cases a <;>
    simp only [attrOf, PyRt.Attr.get, PyRt.Attr.has, Bool.false_eq_true, if_true, if_false]
  -- left: keyword against a pinned attribute, where the model tests `d ≠ n` inside `resolveDim`
  split <;> rfl

theorem finishCode_eq (selfDim : Int) (q : Qty) (vs : ValArg) (d : Int) :
    finishCode (fixedCheckValues selfDim) (fun q vs => (q, vs)) q vs d =
      if d < 2 then .error .value else
      match checkValues vs d with
      | .error e => .error e
      | .ok v => .ok (stateOf ⟨d, v, q⟩) := by
  unfold finishCode fixedCheckValues checkValues stateOf
  cases vs with
  | unsized => rfl
  | sized v =>
    simp only [pyLen]
    by_cases h : (v.xs.length : Int) = d <;>
      simp only [h, ne_eq, not_true_eq_false, not_false_eq_true, if_true, if_false]

end

theorem fixedInternalCreate_eq_model (selfDim : Int) (cls : ClsAttr) (inst : Option Int) (q : Qty)
    (values : Option ValArg) (dimension : Option Int) (value : Option ValArg) (arr0 : Qty × ValArg) :
    fixedInternalCreate (fixedCheckValues selfDim) (fun q vs => (q, vs)) (attrOf (lookupDim cls inst)) arr0 q
        values dimension value
      = (match internalCreate cls inst q values dimension value with
         | .error e => .error e
         | .ok st => .ok (stateOf st)) := by
  rw [fixedInternalCreate_code]
  unfold internalCreate mergeValue
  cases value <;> cases values <;> simp only [dimCode_eq, finishCode_eq]
  all_goals
    rename_i vs
    cases resolveDim cls inst dimension vs with
    | error e => rfl
    | ok d =>
      by_cases h : d < 2
      · simp only [h, if_true]
      · simp only [h, if_false]
        cases checkValues vs d <;> rfl

end Barril.Bridge.Fixed
