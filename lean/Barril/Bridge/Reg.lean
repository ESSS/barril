/-
Bridge theorems for `UnitDatabase.AddUnit` (generated: `Barril/Gen/CodeReg.lean`, regenerated from the source text of
/repo on every run by `harness/pycode.py`).  The registry is explicit state and an exception carries the registry as it
is at the `raise` (the translator's `err_state` mode): what a rejected call leaves behind is part of the statement.

What the theorems tie to the code's text: the order of `AddUnit` for ANY `UnitInfo` construction `mk` (argument checks,
the construction, which can fail, BEFORE any write, the duplicate check on `unit_to_unit_info`, the index write and the
`setdefault`, the second duplicate check AFTER both, the append); and `AddUnitBase` as `AddUnit` with the identity
`UnitInfo` followed by `infos[-1]`, `del infos[-1]`, `infos.insert(0, base)` on the stored list.
Core Lean only.
-/
import Barril.Gen.CodeReg
import Barril.Proofs.RegLemmas

namespace Barril.Bridge.Reg
open Barril.Reg

/-- the generated result (error with the registry at that point / final registry) as the model's pair -/
def toPair : Except (ErrKind × Registry) Registry → Registry × Except ErrKind Unit
  | .error (e, r) => (r, .error e)
  | .ok r => (r, .ok ())

theorem addUnit_eq_addInfo (mk : Sym → Sym → Except ErrKind UnitRow) (r : Registry) (qt : SArg) (name : Sym) (unit : SArg) :
    toPair (Gen.Code.addUnit mk r qt name unit) = addInfo r qt unit mk := by
  obtain ⟨types, index, cats⟩ := r
  unfold Gen.Code.addUnit addInfo
  cases qt with
  | none => simp [Gen.Code.sargIsNone, toPair]
  | bad => simp [Gen.Code.sargIsNone, Gen.Code.sargIsStr, toPair]
  | str q =>
    cases unit with
    | none => simp [Gen.Code.sargIsNone, Gen.Code.sargIsStr, toPair]
    | bad => simp [Gen.Code.sargIsNone, Gen.Code.sargIsStr, toPair]
    | str u =>
      simp only [Gen.Code.sargIsNone, Gen.Code.sargIsStr, Gen.Code.sargStr, Bool.false_eq_true, if_false,
        Bool.true_eq_false]
      cases mk q u with
      | error e => simp [toPair]
      | ok info =>
        simp only []
        by_cases hs : (ixGet index u).isSome = true
        · obtain ⟨w, hw⟩ := Option.isSome_iff_exists.mp hs
          simp [hw, toPair]
        · have hn : ixGet index u = none := by
            cases h : ixGet index u <;> simp_all
          by_cases hany : ((tlGet (tlSetDefault types q) q).getD []).any (fun x => x.sym == u) = true <;>
            simp [hn, hany, toPair]

theorem addUnit_eq_model (r : Registry) (qt : SArg) (name : Sym) (unit : SArg) (fb tb : Formula) (dc : Sym) :
    toPair (Gen.Code.addUnit (mkInfo fb tb dc name) r qt name unit) = Reg.addUnit r qt name unit fb tb dc := by
  rw [addUnit_eq_addInfo]; rfl


theorem tlModify_congr (f g : List UnitRow → List UnitRow) (ts : List (Sym × List UnitRow)) (q : Sym)
    (h : ∀ l, tlGet ts q = some l → f l = g l) : tlModify f ts q = tlModify g ts q := by
  induction ts with
  | nil => rfl
  | cons p ts ih =>
    obtain ⟨k, l⟩ := p
    by_cases hk : k = q
    · simp [tlModify, hk, h l (by simp [tlGet, hk])]
    · simp only [tlModify, hk, if_false]
      rw [ih (fun l' hl' => h l' (by simpa [tlGet, hk] using hl'))]

theorem addInfo_ok (mk : Sym → Sym → Except ErrKind UnitRow) (r r1 : Registry) (q : Sym) (unit : SArg)
    (h : addInfo r (.str q) unit mk = (r1, .ok ())) : ∃ l0 info, tlGet r1.types q = some (l0 ++ [info]) := by
  unfold addInfo at h
  cases unit with
  | none => simp at h
  | bad => simp at h
  | str u =>
    simp only [] at h
    cases hm : mk q u with
    | error e => simp [hm] at h
    | ok info =>
      simp only [hm] at h
      cases hix : ixGet r.index u with
      | some w => simp [hix] at h
      | none =>
        simp only [hix] at h
        by_cases hany : ((tlGet (tlSetDefault r.types q) q).getD []).any (fun x => x.sym == u) = true
        · simp [hany] at h
        · simp only [hany, if_false, Bool.false_eq_true] at h
          have hr : r1.types = tlModify (· ++ [info]) (tlSetDefault r.types q) q := by
            have := congrArg (fun p => p.1.types) h
            simpa using this.symm
          exact ⟨(tlGet r.types q).getD [], info, by rw [hr, tlGet_after_add, if_pos rfl]⟩

theorem last_facts (l0 : List UnitRow) (x : UnitRow) :
    PyRt.pyIndex (l0 ++ [x]) (-1) = .ok x ∧ PyRt.pyInsert (PyRt.pyDel (l0 ++ [x]) (-1)) 0 x = moveLastToFront (l0 ++ [x]) := by
  have hn : PyRt.normIndex (l0.length + 1) (-1) = some l0.length := by
    simp [PyRt.normIndex]
  constructor
  · simp [PyRt.pyIndex, hn]
  · have he : ∀ (l : List UnitRow), (l ++ [x]).eraseIdx l.length = l := by
      intro l
      induction l with
      | nil => rfl
      | cons a l ih => simp [ih]
    simp [PyRt.pyDel, hn, PyRt.pyInsert, moveLastToFront, he]

theorem addUnitBase_eq_model (r : Registry) (qt : SArg) (name : Sym) (unit : SArg) :
    toPair (Gen.Code.addUnitBase (fun r a b c => Gen.Code.addUnit (baseInfo b) r a b c) r qt name unit)
      = Reg.addUnitBase r qt name unit := by
  have h := addUnit_eq_addInfo (baseInfo name) r qt name unit
  unfold Gen.Code.addUnitBase Reg.addUnitBase
  cases hg : Gen.Code.addUnit (baseInfo name) r qt name unit with
  | error p =>
    obtain ⟨e, r'⟩ := p
    rw [hg] at h
    simp only [toPair] at h
    simp [hg, ← h, toPair]
  | ok r1 =>
    rw [hg] at h
    simp only [toPair] at h
    rw [← h]
    cases qt with
    | none => simp [addInfo] at h
    | bad => simp [addInfo] at h
    | str q =>
      obtain ⟨l0, info, hl⟩ := addInfo_ok _ _ _ _ _ h.symm
      have hf := last_facts l0 info
      simp only [hg, Gen.Code.sargStr, Gen.Code.tlGetE, hl, hf.1, toPair, tlModify_modify]
      congr 2
      apply tlModify_congr
      intro l hl'
      rw [hl] at hl'
      cases hl'
      exact hf.2

end Barril.Bridge.Reg
