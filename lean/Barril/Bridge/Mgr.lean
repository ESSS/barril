/-
Bridge theorems for `UnitSystemManager._CheckUnitSystemMapping`, `AddUnitSystem` and `RemoveUnitSystem` (generated:
`Barril/Gen/CodeMgr.lean`, regenerated from the source text of /repo on every run by `harness/pycode.py`).

The generated definitions treat the manager as a state variable of an abstract type and take what the methods read
of it and the operations that change it as parameters.  Here they are instantiated on the model's `Mgr` (state =
manager × callbacks fired so far, a unit system object = its heap address) and proved equal to the model's `covers`,
`addUnitSystem` and `removeUnitSystem`, over which C17 is stated, for ALL managers and arguments: new state, result or
error class, callbacks.

What is passed for the parameters: the mapping check is the GENERATED `checkUnitSystemMapping`; the rest are the MODEL's
operations on its state — `newSystem` and `setItem` are the two halves of `Mgr.register`, `delItem` is
`Mgr.unregister`, and `setCurrentSt` is the model's `setCurrent`.  The generated `SetCurrent` is bridged on its own in
`Bridge/Mgr2.lean` (`setCurrent_eq_model`); no theorem composes the two.  Core Lean only.
-/
import Barril.Gen.CodeMgr
import Barril.Model.Mgr

namespace Barril.Bridge.Mgr
open Barril Barril.Mgr

theorem contains_dkeys (d : Dict) (k : Sym) : (dkeys d).contains k = dhas d k := by
  induction d with
  | nil => rfl
  | cons p r ih =>
    obtain ⟨k', v⟩ := p
    show ((k' :: dkeys r).contains k) = (k' == k || dhas r k)
    rw [List.contains_cons, ih]
    by_cases h : k' = k
    · subst h; simp
    · have h2 : ¬ k = k' := fun e => h e.symm
      have e1 : (k == k') = false := by simpa using h2
      have e2 : (k' == k) = false := by simpa using h
      rw [e1, e2]

theorem checkUnitSystemMapping_eq_model (d : Dict) (required : List Sym) :
    Gen.Code.checkUnitSystemMapping d required = covers d required := by
  unfold Gen.Code.checkUnitSystemMapping covers PyRt.isSuperset
  simp only [contains_dkeys]

/-- the state the generated methods thread: the manager and the callbacks fired so far -/
abbrev St := Mgr.Mgr × List Event

def hasId (s : St) (id : Sym) : Bool := regHas s.1.reg id
def template (s : St) : Option USys := s.1.tmpl
def current (s : St) : Option Nat := s.1.cur
/-- `UnitSystem(id, caption, units_mapping, read_only)`: a new object at the next address -/
def newSystem (s : St) (id cap : Sym) (d : Dict) (ro : Bool) : St × Nat :=
  (({ s.1 with heap := s.1.heap ++ [USys.new (some id) cap d ro] }, s.2), s.1.heap.length)
/-- `self._unit_systems[id] = unit_system` for an id that is not in use -/
def setItem (s : St) (id : Sym) (a : Nat) : St := ({ s.1 with reg := s.1.reg ++ [(id, a)] }, s.2)
def setCurrentSt (s : St) (a : Option Nat) : St := ((setCurrent s.1 a).1, s.2 ++ (setCurrent s.1 a).2)
def getId (s : St) (a : Nat) : Option Sym :=
  match s.1.heap[a]? with
  | some o => o.id
  | none => none
def values (s : St) : List Nat := s.1.reg.map (·.2)
/-- `del self._unit_systems[id]` -/
def delItem (s : St) (id : Sym) : Except ErrKind St :=
  if regHas s.1.reg id then .ok (s.1.unregister id, s.2) else .error .key

def addRes (m : Mgr.Mgr) : Except ErrKind (St × Nat) → Res
  | .error e => Res.reject m e
  | .ok (s, a) => ⟨s.1, .ok (.sys a), s.2⟩

def removeRes (m : Mgr.Mgr) : Except ErrKind St → Res
  | .error e => Res.reject m e
  | .ok s => ⟨s.1, .ok .none, s.2⟩

theorem addUnitSystem_eq_model (m : Mgr.Mgr) (id cap : Sym) (mp : Option Dict) (ro : Bool) :
    addRes m (Gen.Code.addUnitSystem hasId template current Gen.Code.checkUnitSystemMapping newSystem setItem
        setCurrentSt (m, []) id cap mp ro)
      = Mgr.addUnitSystem m id cap mp ro := by
  unfold Gen.Code.addUnitSystem Mgr.addUnitSystem resolveMapping
  simp only [checkUnitSystemMapping_eq_model, hasId, template, current, newSystem, setItem, setCurrentSt, Mgr.register]
  cases hh : regHas m.reg id
  · cases ht : m.tmpl with
    | none => cases mp <;> cases hc : m.cur <;> simp [addRes]
    | some t =>
      cases mp with
      | none => cases hc : m.cur <;> simp [addRes]
      | some d =>
        cases hcov : covers d (dkeys t.mapping) <;> cases hc : m.cur <;> simp [addRes, hcov, Res.reject]
  · simp [addRes]

theorem removeUnitSystem_eq_model (m : Mgr.Mgr) (id : Sym) :
    removeRes m (Gen.Code.removeUnitSystem current getId values delItem setCurrentSt (m, []) id)
      = Mgr.removeUnitSystem m id := by
  obtain ⟨heap, reg, cur, tmpl, objs, oc, ou⟩ := m
  unfold Gen.Code.removeUnitSystem Mgr.removeUnitSystem delItem
  simp only [current, getId, values, setCurrentSt, Mgr.currentId, Mgr.unregister, nextCurrent, PyRt.index]
  cases hh : regHas reg id
  · simp [removeRes]
  · cases cur with
    | none => simp [removeRes]
    | some c =>
      simp only [if_true]
      by_cases h : (match heap[c]? with | some o => o.id | none => none) = some id
      · cases hr : regErase reg id <;> simp [removeRes, h] <;> (intro h'; exact absurd h h')
      · simp [removeRes, h]
        intro h'; exact absurd h' h

end Barril.Bridge.Mgr
