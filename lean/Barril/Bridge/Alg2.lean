/-
Bridge theorems for `UnitDatabase._MatchQuantities`, `Quantity.GetComposingUnitsJoiningExponents` and
`UnitDatabase._DoOperationWithSameQuantity` (generated: `Barril/Gen/CodeAlg2.lean`, regenerated from the source text of
/repo on every run by `harness/pycode.py`), for ALL databases, entry lists and values.

* `for c in (d1, d2)` is unrolled into `matchQuantities_loop1` / `_loop2`; each is `Alg.matchOne` on its own operand's
  value (`in_derived = len(c) > 1`, the cell write `unit_exp[0] = …` is the replaced unit), the other value is untouched;
  together, with `GetCategoryQuantityType` = `Alg.catQType`, they are `Alg.matchQuantities`: over the model's
  `_ConvertMatchingExp` (`matchQuantities_eq_model`) and over the generated one of `Bridge/Alg` (`matchQuantities_code`).
* `getComposing_*`: the memo attribute is state; an absent memo is computed as `Alg.joined entries` (OrderedDict
  accumulation: an existing unit keeps its place and adds the exponent) and stored, a present one is returned as it is.
* `doOperationWithSameQuantity_eq_model`: over the generated `_MatchQuantities`, with `CreateCopyInstance(dict)` =
  `obtainFromDict … caption`, the joined units = `Alg.joined` and `operation` = `applySame op`, it is `Alg.opSame db op`.
Every theorem of C03/C04 about Sum/Subtract/Multiply/Divide goes through `Alg.matchQuantities`.  Core Lean only.
-/
import Barril.Gen.CodeAlg2
import Barril.Bridge.Alg

namespace Barril.Bridge.Alg2
open Barril Barril.Alg Barril.Gen.Code

theorem loop1_eq_matchOne (db : Db) (d : List Entry) (es : List Entry) :
    ∀ (out : List Entry) (used : List (Sym × Sym)) (v1 v2 : Rat),
      matchQuantities_loop1 (catQType db) (Alg.convertMatchingExp db) d out used v1 v2 es
        = (match matchOne db (isDerivedDict d) used es v1 with
           | .error e => .error e
           | .ok (u', es', v') => .ok ((out ++ es', u', v', v2), [])) := by
  induction es with
  | nil => intro out used v1 v2; simp [matchQuantities_loop1, matchOne]
  | cons e es ih =>
    intro out used v1 v2
    unfold matchQuantities_loop1 matchOne
    have hd : decide (((d.length : Nat) : Int) > 1) = isDerivedDict d := by
      unfold isDerivedDict; simp; omega
    simp only [hd]
    cases catQType db e.cat with
    | error err => rfl
    | ok qt =>
      simp only []
      cases lookupU qt used with
      | none =>
        simp only [ih]
        cases matchOne db (isDerivedDict d) ((qt, e.unit) :: used) es v1 with
        | error err => rfl
        | ok r => obtain ⟨u', es', v'⟩ := r; simp
      | some w =>
        simp only [if_true]
        cases Alg.convertMatchingExp db qt e.unit w e.exp v1 (isDerivedDict d) with
        | error err => rfl
        | ok x =>
          simp only [ih]
          cases matchOne db (isDerivedDict d) used es x with
          | error err => rfl
          | ok r => obtain ⟨u', es', v'⟩ := r; simp

theorem loop2_eq_matchOne (db : Db) (d0 d : List Entry) (es : List Entry) :
    ∀ (out : List Entry) (used : List (Sym × Sym)) (v1 v2 : Rat),
      matchQuantities_loop2 (catQType db) (Alg.convertMatchingExp db) d0 d out used v1 v2 es
        = (match matchOne db (isDerivedDict d) used es v2 with
           | .error e => .error e
           | .ok (u', es', v') => .ok ((out ++ es', u', v1, v'), [])) := by
  induction es with
  | nil => intro out used v1 v2; simp [matchQuantities_loop2, matchOne]
  | cons e es ih =>
    intro out used v1 v2
    unfold matchQuantities_loop2 matchOne
    have hd : decide (((d.length : Nat) : Int) > 1) = isDerivedDict d := by
      unfold isDerivedDict; simp; omega
    simp only [hd]
    cases catQType db e.cat with
    | error err => rfl
    | ok qt =>
      simp only []
      cases lookupU qt used with
      | none =>
        simp only [ih]
        cases matchOne db (isDerivedDict d) ((qt, e.unit) :: used) es v2 with
        | error err => rfl
        | ok r => obtain ⟨u', es', v'⟩ := r; simp
      | some w =>
        simp only [if_false]
        cases Alg.convertMatchingExp db qt e.unit w e.exp v2 (isDerivedDict d) with
        | error err => rfl
        | ok x =>
          simp only [ih]
          cases matchOne db (isDerivedDict d) used es x with
          | error err => rfl
          | ok r => obtain ⟨u', es', v'⟩ := r; simp

theorem matchQuantities_eq_model (db : Db) (e1 e2 : List Entry) (v1 v2 : Rat) :
    Gen.Code.matchQuantities (catQType db) (Alg.convertMatchingExp db) e1 e2 v1 v2 = Alg.matchQuantities db e1 e2 v1 v2 := by
  unfold Gen.Code.matchQuantities Alg.matchQuantities
  simp only [loop1_eq_matchOne, loop2_eq_matchOne, List.nil_append]
  cases matchOne db (isDerivedDict e1) [] e1 v1 with
  | error err => rfl
  | ok r =>
    obtain ⟨used, e1', v1'⟩ := r
    simp only []
    cases matchOne db (isDerivedDict e2) used e2 v2 with
    | error err => rfl
    | ok r2 => obtain ⟨u2, e2', v2'⟩ := r2; rfl

theorem matchQuantities_code (db : Db) (e1 e2 : List Entry) (v1 v2 : Rat) :
    Gen.Code.matchQuantities (catQType db)
        (Gen.Code.convertMatchingExp db.convert (fun q x => db.getInfo q x)) e1 e2 v1 v2
      = Alg.matchQuantities db e1 e2 v1 v2 := by
  rw [← matchQuantities_eq_model]
  congr 1
  funext qt u w exp v inD
  exact Bridge.Alg.convertMatchingExp_eq_model db qt u w exp v inD

/-! ### `GetComposingUnitsJoiningExponents` -/

theorem adSet_adGet_eq_addJoined (u : Sym) (x : Int) (d : List (Sym × Int)) :
    PyRt.adSet d u (PyRt.adGet d u 0 + x) = addJoined u x d := by
  induction d with
  | nil => simp [PyRt.adSet, PyRt.adGet, addJoined]
  | cons p r ih =>
    obtain ⟨w, t⟩ := p
    unfold PyRt.adSet PyRt.adGet addJoined
    cases h : w == u <;> simp_all

theorem joinLoop_eq (E : List Entry) (es : List Entry) :
    ∀ acc, getComposingUnitsJoiningExponents_loop1 E acc es = .ok (joinedFrom acc es, []) := by
  induction es with
  | nil => intro acc; rfl
  | cons e es ih =>
    intro acc
    unfold getComposingUnitsJoiningExponents_loop1 joinedFrom
    simp only [adSet_adGet_eq_addJoined]
    exact ih _

theorem getComposing_eq_model (es : List Entry) :
    getComposingUnitsJoiningExponents es none = .ok (some (joined es), joined es) := by
  unfold getComposingUnitsJoiningExponents joined
  simp [PyRt.slotGet, joinLoop_eq]

theorem getComposing_memo (es : List Entry) (j : List (Sym × Int)) :
    getComposingUnitsJoiningExponents es (some j) = .ok (some j, j) := by
  unfold getComposingUnitsJoiningExponents
  simp [PyRt.slotGet]

/-! ### `_DoOperationWithSameQuantity` -/

theorem doOperationWithSameQuantity_eq_model (db : Db) (op : SameOp) (q1 q2 : Alg.Quantity) (v1 v2 : Rat) :
    doOperationWithSameQuantity (Gen.Code.matchQuantities (catQType db) (Alg.convertMatchingExp db))
        (fun q es => obtainFromDict db es q.caption) (fun q => joined q.entries) (applySame op) q1 q2 v1 v2
      = opSame db op q1 q2 v1 v2 := by
  -- `len(x) == 0` of the code is the model's `isEmpty`
  have hlen : ∀ l : List (Sym × Int), (((l.length : Nat) : Int) = 0) = (l.isEmpty = true) := by
    intro l; cases l <;> simp; omega
  unfold doOperationWithSameQuantity opSame pickSame
  simp only [matchQuantities_eq_model, hlen]
  cases q1.eqv q2
  · simp only [Bool.false_eq_true, if_false]
    cases Alg.matchQuantities db q1.entries q2.entries v1 v2 with
    | error err => rfl
    | ok r =>
      obtain ⟨e1, e2, w1, w2⟩ := r
      simp only []
      cases obtainFromDict db e1 q1.caption with
      | error err => rfl
      | ok c1 =>
        simp only []
        cases obtainFromDict db e2 q2.caption with
        | error err => rfl
        | ok c2 =>
          simp only []
          -- the code tests `!=` first, the model `==`: the same three-way choice with the branches swapped
          cases sameSet (joined c1.entries) (joined c2.entries)
          · simp only [Bool.not_false, if_true, Bool.false_eq_true, if_false]
            cases (joined c1.entries).isEmpty <;> cases (joined c2.entries).isEmpty <;> rfl
          · rfl
  · simp

end Barril.Bridge.Alg2
