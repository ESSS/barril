/-
Bridge theorems for `UnitDatabase._ConvertMatchingExp` on a list/tuple value (generated: `Barril/Gen/CodeAlgL.lean`,
the SECOND definition generated from that function: `Gen.Code.convertMatchingExpList`, `isinstance(value, (list, tuple))`
True; the first one, `Gen.Code.convertMatchingExp` in `CodeAlg.lean`, is the plain-number branch).  Together the two
specialisations cover the function, so an edit of either `return` changes a generated definition.

* `convertMatchingExpList_eq_scalar` (for ANY `Convert` / `GetInfo`): the list version takes the same decisions as the
  scalar one (same-unit or exponent-1 shortcut and the no-offset exponent-1 case go through `self.Convert` on the whole
  container, parameter `convertList`); in every other case the result is the element-wise product with the factor the
  SCALAR definition applies to the value 1, i.e. `ratio ** exp`, with the scalar definition's error otherwise;
* `convertMatchingExpList_eq_model`: the same with the model's `Alg.convertMatchingExp` (through `Bridge/Alg`);
* `scalar_is_scaling`: in that case the model's scalar conversion of any `v` is `v` times that same factor, so the list
  result is exactly the scalar result on every element.
Scaling the elements by the plain ratio instead of `ratio ** exp`, dropping the shortcut for
containers or mapping with another factor changes `convertMatchingExpList` and the proofs stop checking.  Core Lean only.
-/
import Barril.Gen.CodeAlgL
import Barril.Bridge.Alg

namespace Barril.Bridge.AlgL
open Barril Barril.Gen.Code

theorem convertMatchingExpList_eq_scalar (convert : Sym → Sym → Sym → Rat → Except ErrKind Rat)
    (convertList : Sym → Sym → Sym → List Rat → Except ErrKind (List Rat)) (getInfo : Sym → Sym → Except ErrKind UnitRow)
    (qt u w : Sym) (exp : Int) (vs : List Rat) (inD : Bool) :
    convertMatchingExpList convert convertList getInfo qt u w exp vs inD
      = (if u = w ∨ (exp = 1 ∧ ¬ inD = true) then convertList qt u w vs else
         match convert qt u w 0 with
         | .error e => .error e
         | .ok z =>
           if exp = 1 ∧ z = 0 then convertList qt u w vs else
           match convertMatchingExp convert getInfo qt u w exp 1 inD with
           | .error e => .error e
           | .ok f => .ok (vs.map (· * f))) := by
  unfold convertMatchingExpList convertMatchingExp
  by_cases h1 : u = w ∨ (exp = 1 ∧ ¬ inD = true)
  · simp only [h1, if_true]
    cases convertList qt u w vs <;> rfl
  · simp only [h1, if_false]
    cases hc0 : convert qt u w 0 with
    | error e => rfl
    | ok z =>
      simp only []
      by_cases h2 : exp = 1 ∧ z = 0
      · simp only [h2, and_self, if_true]
        cases convertList qt u w vs <;> rfl
      · simp only [h2, if_false]
        -- from here on the list definition and the scalar one have the same tree of tests (the same calls, the
        -- same error exits); they differ at the two leaves only, where the scalar one returns `1 * factor`
        (repeat' (first | rfl | split)) <;> simp_all [Rat.one_mul]

theorem convertMatchingExpList_eq_model (db : Db) (convertList : Sym → Sym → Sym → List Rat → Except ErrKind (List Rat))
    (qt u w : Sym) (exp : Int) (vs : List Rat) (inD : Bool) :
    convertMatchingExpList db.convert convertList (fun q x => db.getInfo q x) qt u w exp vs inD
      = (if u = w ∨ (exp = 1 ∧ ¬ inD = true) then convertList qt u w vs else
         match db.convert qt u w 0 with
         | .error e => .error e
         | .ok z =>
           if exp = 1 ∧ z = 0 then convertList qt u w vs else
           match Alg.convertMatchingExp db qt u w exp 1 inD with
           | .error e => .error e
           | .ok f => .ok (vs.map (· * f))) := by
  rw [convertMatchingExpList_eq_scalar, Bridge.Alg.convertMatchingExp_eq_model]

theorem scaleByPow_one (r : Rat) (exp : Int) (v : Rat) :
    Alg.scaleByPow r exp v = (match Alg.scaleByPow r exp 1 with
      | .error e => .error e
      | .ok f => .ok (v * f)) := by
  unfold Alg.scaleByPow
  by_cases h : r = 0 ∧ exp < 0 <;> simp [h, Rat.one_mul]

theorem scalar_is_scaling (db : Db) (qt u w : Sym) (exp : Int) (v : Rat) (inD : Bool) (z : Rat)
    (h1 : ¬ (u = w ∨ (exp = 1 ∧ ¬ inD = true))) (hz : db.convert qt u w 0 = .ok z) (h2 : ¬ (exp = 1 ∧ z = 0)) :
    Alg.convertMatchingExp db qt u w exp v inD
      = (match Alg.convertMatchingExp db qt u w exp 1 inD with
         | .error e => .error e
         | .ok f => .ok (v * f)) := by
  have h1' : (u == w || (exp == 1 && !inD)) = false := by
    simp only [not_or, not_and, Decidable.not_not] at h1
    cases hI : inD <;> simp_all
  have h2' : (exp == 1 && z == 0) = false := by
    simp only [not_and] at h2
    by_cases he : exp = 1
    · simp [he, h2 he]
    · simp [he]
  unfold Alg.convertMatchingExp
  simp only [h1', hz, h2', Bool.false_eq_true, if_false]
  by_cases h3 : z = 0
  · simp only [h3, beq_self_eq_true, if_true]
    cases db.convert qt u w 1 with
    | error e => rfl
    | ok c1 => exact scaleByPow_one c1 exp v
  · have h3' : (z == 0) = false := by simpa using h3
    simp only [h3', Bool.false_eq_true, if_false]
    cases Alg.ratioByIncrements db qt u w with
    | error e => rfl
    | ok r => exact scaleByPow_one r exp v

end Barril.Bridge.AlgL
