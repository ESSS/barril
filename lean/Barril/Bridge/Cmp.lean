/-
Bridge theorems for `Scalar._GetValuesToCompare` and `Scalar.__lt__/__le__/__gt__/__ge__` (generated:
`Barril/Gen/CodeCmp.lean`, regenerated from the source text of /repo on every run by `harness/pycode.py`).

The generated definitions read the attributes off the model's `Sc` objects, with `other.GetValue(unit)` instantiated by
the model's `SimpleQ.convertScalarValue`; they equal `Sc.valuesToCompare` and `Sc.order db op` (over which C08 is
stated) for ALL databases and scalars.  Flipping a comparison, swapping `v1`/`v2`, comparing units instead of quantity
types or returning `other._value` unconverted changes the generated definition and the proof stops checking.
Core Lean only.
-/
import Barril.Gen.CodeCmp
import Barril.Model.Cmp

namespace Barril.Bridge.Cmp
open Barril Barril.Gen.Code

/-- the generated `_GetValuesToCompare` read on two model scalars -/
def genValues (db : Db) (a b : Sc) : Except ErrKind (Rat × Rat) :=
  scalarGetValuesToCompare (fun u => b.q.convertScalarValue db b.v u) a.q.qtype b.q.qtype a.v a.q.unit

theorem scalarGetValuesToCompare_eq_model (db : Db) (a b : Sc) :
    genValues db a b = a.valuesToCompare db b := by
  unfold genValues scalarGetValuesToCompare Sc.valuesToCompare
  by_cases h : a.q.qtype = b.q.qtype
  · simp [h]
    cases b.q.convertScalarValue db b.v a.q.unit <;> rfl
  · simp [h]

/-- an operator that matches on `_GetValuesToCompare` and applies `op` to the pair is `Sc.order db op` -/
theorem order_eq_model (db : Db) (op : Op) (a b : Sc)
    (f : (Sc → Except ErrKind (Rat × Rat)) → Sc → Except ErrKind Bool)
    (hf : ∀ g x, f g x = match g x with
      | .error e => .error e
      | .ok vs => .ok (op.apply vs.1 vs.2)) :
    f (genValues db a) b = Sc.order db op a b := by
  rw [hf, scalarGetValuesToCompare_eq_model]
  unfold Sc.order
  cases a.valuesToCompare db b with
  | error e => rfl
  | ok vs => cases vs; rfl

theorem scalarLt_eq_model (db : Db) (a b : Sc) : scalarLt (genValues db a) b = Sc.order db .lt a b :=
  order_eq_model db .lt a b scalarLt (fun g x => by unfold scalarLt; cases g x <;> rfl)

theorem scalarLe_eq_model (db : Db) (a b : Sc) : scalarLe (genValues db a) b = Sc.order db .le a b :=
  order_eq_model db .le a b scalarLe (fun g x => by unfold scalarLe; cases g x <;> rfl)

theorem scalarGt_eq_model (db : Db) (a b : Sc) : scalarGt (genValues db a) b = Sc.order db .gt a b :=
  order_eq_model db .gt a b scalarGt (fun g x => by unfold scalarGt; cases g x <;> rfl)

theorem scalarGe_eq_model (db : Db) (a b : Sc) : scalarGe (genValues db a) b = Sc.order db .ge a b :=
  order_eq_model db .ge a b scalarGe (fun g x => by unfold scalarGe; cases g x <;> rfl)

/-- which generated operator an `Op` is -/
def genOrder (op : Op) : (Sc → Except ErrKind (Rat × Rat)) → Sc → Except ErrKind Bool :=
  match op with
  | .lt => scalarLt
  | .le => scalarLe
  | .gt => scalarGt
  | .ge => scalarGe

theorem scalar_order_eq_model (db : Db) (op : Op) (a b : Sc) :
    genOrder op (genValues db a) b = Sc.order db op a b := by
  cases op
  · exact scalarLt_eq_model db a b
  · exact scalarLe_eq_model db a b
  · exact scalarGt_eq_model db a b
  · exact scalarGe_eq_model db a b

end Barril.Bridge.Cmp
