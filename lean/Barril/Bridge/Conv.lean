/-
Bridge theorem for `UnitDatabase.Convert` (generated: `Barril/Gen/CodeConv.lean`, regenerated from the source text of
/repo on every run by `harness/pycode.py`).

`convert_eq_model`: the generated definition - specialised to two unit strings and a plain number (the generated doc
comment records the three branch conditions specialised away) - with the table `categories_to_quantity_types`
instantiated by the model's category lookup (`KeyError` when absent), `CheckQuantityType` by the model's
`Db.hasType` and `GetInfo` by `Db.getInfo`, equals `Db.convert` (over which C01's round-trip/monotonicity theorems
and C02's are stated) for ALL databases, names, units and numbers: same-unit shortcut first (before any lookup, so an
unknown category is not an error then), category wins over quantity type, `fix_unknown=True` on both lookups,
`other.frombase(this.tobase(value))` in that order.  Swapping `this`/`other`, `tobase`/`frombase`, dropping the
shortcut or the `fix_unknown` changes the generated definition and the proof stops checking.  Core Lean only.
-/
import Barril.Gen.CodeConv
import Barril.Model.Conv

namespace Barril.Bridge.Conv
open Barril Barril.Gen.Code

/-- `self.categories_to_quantity_types[name]` -/
def catLookupOf (db : Db) (c : Sym) : Except ErrKind CatRow :=
  match db.catByName c with
  | some r => .ok r
  | none => .error .key

/-- `self.CheckQuantityType(name)`: InvalidQuantityTypeError (a UnitsError) for an unknown quantity type -/
def checkQuantityTypeOf (db : Db) (qt : Sym) : Except ErrKind Unit :=
  if db.hasType qt then .ok () else .error .units

theorem closures_eq_convRows (this other : UnitRow) (x : Rat) :
    (match PyRt.tobaseOf this x with
     | .error e => (.error e : Except ErrKind Rat)
     | .ok b => match PyRt.frombaseOf other b with
       | .error e => .error e
       | .ok r => .ok r) = convRows this other x := by
  unfold PyRt.tobaseOf PyRt.frombaseOf convRows
  cases this.ok
  · rfl
  · cases other.ok
    · -- `other` is not executable: whether `this.tobase` fails or not, the error is of the one class `Mob.apply` has too
      by_cases h : this.toBase.r + this.toBase.s * x = 0 <;> simp [Mob.apply, h]
    · simp only [Bool.not_true, Bool.and_self, Bool.false_eq_true, if_false]
      cases this.toBase.apply x with
      | error e => rfl
      | ok b =>
        simp only
        cases other.fromBase.apply b <;> rfl

theorem lookups_eq (db : Db) (qt u w : Sym) (x : Rat) :
    (match db.getInfo qt u true with
     | .error e => (.error e : Except ErrKind Rat)
     | .ok this => match db.getInfo qt w true with
       | .error e => .error e
       | .ok other => match PyRt.tobaseOf this x with
         | .error e => .error e
         | .ok b => match PyRt.frombaseOf other b with
           | .error e => .error e
           | .ok r => .ok r)
      = (match db.getInfo qt u true with
         | .error e => .error e
         | .ok this => match db.getInfo qt w true with
           | .error e => .error e
           | .ok other => convRows this other x) := by
  cases db.getInfo qt u true with
  | error e => rfl
  | ok this =>
    cases db.getInfo qt w true with
    | error e => rfl
    | ok other => exact closures_eq_convRows this other x

theorem convert_eq_model (db : Db) (cq u w : Sym) (x : Rat) :
    convert (catLookupOf db) (checkQuantityTypeOf db) (fun q s f => db.getInfo q s f) cq u w x
      = db.convert cq u w x := by
  unfold convert Db.convert Db.typeOf catLookupOf checkQuantityTypeOf
  by_cases h : u = w
  · simp [h]
  · have h' : (u == w) = false := by simp [h]
    simp only [h, h', if_false]
    cases db.catByName cq with
    | some c => exact lookups_eq db c.qtype u w x
    | none =>
      by_cases ht : db.hasType cq = true
      · simp only [ht, if_true]; exact lookups_eq db cq u w x
      · simp [ht]

end Barril.Bridge.Conv
