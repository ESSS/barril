/-
Bridge theorems for `UnitSystemManager.ConvertToCurrent`, `SetCurrent` and `SetTemplateUnitSystemByUnitsMapping`
(generated: `Barril/Gen/CodeMgr2.lean`, regenerated from the source text of /repo on every run by `harness/pycode.py`):
each generated definition, on the state (manager × callbacks fired so far), equals the model's `convertToCurrent`,
`setCurrent`, `setTemplate`, over which C17 is stated (C02 has a manager model of its own, `Model/Routes.lean`).

What is passed for the parameters: `self.current` is the address `GetCurrent()` returns (the current or the null system)
and `unit_database.Convert` is `Db.convert`; the primitive reads and writes of the state (`current`, `setCur`,
`register`, `unregister`, `onCurrent`, `updateObjectsSt`; `systems`, `setTmpl`) are the MODEL's; in
`setTemplate_eq_model` the mapping check is the model's `covers`, which `Bridge/Mgr.lean` proves equal to the generated
check, and the unit system objects are taken by value.  Core Lean only.
-/
import Barril.Gen.CodeMgr2
import Barril.Model.Mgr

namespace Barril.Bridge.Mgr2
open Barril Barril.Mgr

/-- `current.GetDefaultUnit(category)` for the object at an address -/
def defaultUnitAt (m : Mgr.Mgr) (a : Nat) (c : Sym) : Option Sym :=
  match m.heap[a]? with
  | some o => o.getDefaultUnit c
  | none => none

theorem convertToCurrent_eq_model (db : Db) (m : Mgr.Mgr) (c u : Sym) (x : Rat) :
    Gen.Code.convertToCurrent db.convert m.currentAddr (defaultUnitAt m) c u x = Mgr.convertToCurrent db m c u x := by
  unfold Gen.Code.convertToCurrent Mgr.convertToCurrent
  show (match defaultUnitAt m m.currentAddr c with | some t => _ | none => _) = _
  have h : defaultUnitAt m m.currentAddr c = m.currentDefault c := rfl
  rw [h]
  cases m.currentDefault c with
  | none => rfl
  | some t => simp only []; cases db.convert c u t x <;> rfl

abbrev St := Mgr.Mgr × List Event

def current (s : St) : Option Nat := s.1.cur
def setCur (s : St) (a : Option Nat) : St := ({ s.1 with cur := a }, s.2)
def unregister (s : St) (a : Nat) : St := ({ s.1 with heap := setListening s.1.heap a false }, s.2)
def register (s : St) (a : Nat) : St := ({ s.1 with heap := setListening s.1.heap a true }, s.2)
def onCurrent (s : St) (a : Nat) : St := (s.1, s.2 ++ [.current a])
def updateObjectsSt (s : St) : St := (updateObjects s.1, s.2)

theorem setCurrent_eq_model (m : Mgr.Mgr) (a : Option Nat) :
    Gen.Code.setCurrent current setCur unregister register onCurrent 0 updateObjectsSt (m, []) a
      = .ok ((Mgr.setCurrent m a).1, (Mgr.setCurrent m a).2) := by
  obtain ⟨heap, reg, cur, tmpl, objs, oc, ou⟩ := m
  unfold Gen.Code.setCurrent
  cases cur <;> cases a <;>
    simp [current, setCur, unregister, register, onCurrent, updateObjectsSt, Mgr.setCurrent, unregisterCurrent,
      updateObjects, Mgr.curSys]

/-! ### `SetTemplateUnitSystemByUnitsMapping` -/

/-- `list(self._unit_systems.values())`: the registered objects -/
def systems (s : St) : List USys := s.1.reg.filterMap (fun p => s.1.heap[p.2]?)
def setTmpl (s : St) (t : USys) : St := ({ s.1 with tmpl := some t }, s.2)

/-- the id a system contributes to `invalid_unit_systems` -/
def invalidId (req : List Sym) (o : USys) : Option (Option Sym) := if covers o.mapping req then none else some o.id

theorem setTemplate_loop_eq (s : St) (req : List Sym) (l : List USys) :
    ∀ acc, Gen.Code.setTemplateByUnitsMapping_loop1 systems (fun o => o.mapping) (fun o => o.id) covers
        (fun id cap mp ro => USys.new (some id) cap mp ro) setTmpl s req acc l
      = .ok (acc ++ l.filterMap (invalidId req), []) := by
  induction l with
  | nil => intro acc; simp [Gen.Code.setTemplateByUnitsMapping_loop1]
  | cons o l ih =>
    intro acc
    unfold Gen.Code.setTemplateByUnitsMapping_loop1
    cases h : covers o.mapping req <;> simp [h, ih, invalidId]

theorem invalidSystems_eq (m : Mgr.Mgr) (req : List Sym) :
    invalidSystems m req = (systems (m, [])).filterMap (invalidId req) := by
  unfold invalidSystems systems
  rw [List.filterMap_filterMap]
  congr 1
  funext p
  cases m.heap[p.2]? <;> rfl

theorem setTemplate_eq_model (m : Mgr.Mgr) (mp : Dict) :
    (match Gen.Code.setTemplateByUnitsMapping systems (fun o => o.mapping) (fun o => o.id) covers
        (fun id cap mp ro => USys.new (some id) cap mp ro) setTmpl (m, []) mp with
     | .error e => Res.reject m e
     | .ok s => ⟨s.1, .ok .none, s.2⟩) = Mgr.setTemplate m mp := by
  unfold Gen.Code.setTemplateByUnitsMapping Mgr.setTemplate
  simp only [setTemplate_loop_eq, invalidSystems_eq, List.nil_append]
  cases h : (systems (m, [])).filterMap (invalidId (dkeys mp)) <;> simp [setTmpl, Res.reject]

end Barril.Bridge.Mgr2
