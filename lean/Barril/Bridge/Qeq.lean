/-
Bridge theorems for `Quantity.__eq__` and `Quantity.__hash__` (generated: `Barril/Gen/CodeQeq.lean`, regenerated from the
source text of /repo on every run by `harness/pycode.py`).

* `quantityEq_eq_intern`: on two live objects of the interning model the generated `__eq__` (items of the two composing
  dicts as Python compares them, then the captions) is `Intern.qeq` (C07: `equality_stable`, `eq_hash`, `obtain_eq_iff` …);
* `quantityEq_eq_cmp`: on the comparison model it is `Qty.eq`, and `quantityEq` on a Quantity operand (`Model/Cmp.lean`, C08);
* `quantityHash_eq_model`: with `_hash` as state, an absent memo hashes `Intern.hashKey` (the `(category, tuple(unit, exp))`
  list with the caption appended) and stores it; `quantityHash_memo`: a present memo is returned untouched - so two
  equal quantities hash alike whatever `hash` is (`Intern.eq_hash`).
* `quantityReduce_eq_model`: the generated `__reduce__` on the cells of a live object is `Intern.reduce` (the items and the
  caption, `None` for the empty caption); `obtainReduced_eq_model`: the generated `_ObtainReduced` with `ObtainQuantity` =
  `Intern.obtain … (.dict items true) .none caption` is `Intern.obtainReduced` (C07: `pickle_roundtrip_eq`).
Core Lean only.
-/
import Barril.Gen.CodeQeq
import Barril.Model.Intern
import Barril.Model.Cmp

namespace Barril.Bridge.Qeq
open Barril Barril.Gen.Code

theorem quantityEq_eq_intern (h : Intern.Heap) (a b : Intern.Quantity) (x y : List (Sym × Intern.Cell))
    (hx : Intern.readMap h a.map = some x) (hy : Intern.readMap h b.map = some y) :
    Gen.Code.quantityEq x y a.caption b.caption = Intern.qeq h a b := by
  unfold Gen.Code.quantityEq Intern.qeq
  simp only [hx, hy]
  by_cases h1 : x = y <;> by_cases h2 : a.caption = b.caption <;> simp [h1, h2]

theorem quantityEq_eq_cmp (a b : Barril.Qty) : Gen.Code.quantityEq a.entries b.entries a.caption b.caption = a.eq b := by
  unfold Gen.Code.quantityEq Barril.Qty.eq
  by_cases h1 : a.entries = b.entries <;> by_cases h2 : a.caption = b.caption <;> simp [h1, h2]

theorem quantityEq_eq_cmp_obj (a b : Barril.Qty) :
    Barril.quantityEq a (.quantity b) = .ok (.val (Gen.Code.quantityEq a.entries b.entries a.caption b.caption)) := by
  rw [quantityEq_eq_cmp]
  simp [Barril.quantityEq, Barril.Obj.isInstance, Barril.Obj.cls, Barril.Cls.isSubclass]

theorem quantityHash_eq_model {H : Type} (hashOf : List (Sym × Sym × Int) × Sym → H) (h : Intern.Heap) (q : Intern.Quantity)
    (cs : List (Sym × Intern.Cell)) (hc : Intern.readMap h q.map = some cs) :
    ∃ k, Intern.hashKey h q = some k ∧
      quantityHash hashOf (Intern.content cs) q.caption none = .ok (some (hashOf k), hashOf k) := by
  refine ⟨(Intern.content cs, q.caption), ?_, ?_⟩
  · simp [Intern.hashKey, hc, Intern.content]
  · simp [quantityHash, PyRt.slotGet]

theorem quantityHash_memo {κ H : Type} (hashOf : κ × Sym → H) (c : κ) (cap : Sym) (m : H) :
    quantityHash hashOf c cap (some m) = .ok (some m, m) := by
  simp [quantityHash, PyRt.slotGet]

theorem quantityReduce_eq_model (s : Intern.State) (q : Intern.Quantity) :
    (Intern.cellsOf s q).map (fun cs => (quantityReduce cs q.caption).2) = Intern.reduce s q := by
  unfold Intern.reduce quantityReduce
  cases Intern.cellsOf s q with
  | none => rfl
  | some cs => by_cases h : q.caption = 0 <;> simp [h]

theorem obtainReduced_eq_model (db : Db) (s : Intern.State) (st : List (Sym × Intern.Cell) × Option Sym) :
    obtainReduced (fun cs cap => Intern.obtain db s (.dict cs true) .none cap) st = Intern.obtainReduced db s st := rfl

end Barril.Bridge.Qeq
