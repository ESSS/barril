/-
Bridge theorems for `UnitDatabase.GetInfo` and the module function `FixUnitIfIsLegacy` (generated:
`Barril/Gen/CodeInfo.lean`, regenerated from the source text of /repo on every run by `harness/pycode.py`).  The local function `TryToGetUnitInfoFromUnit` is inlined at its two calls
(a closure reads `quantity_type` at the time of the call, i.e. AFTER the category was resolved), the continuations needed
on several paths are the helper definitions `getInfo_k1 … k4`, the two search loops (`for … : if …: return info`) are
`getInfo_loop1/2` answering `.inl info` for the `return`.

`getInfo_eq_model` instantiates the three tables by the model's lookups (`KeyError` when absent) and
`FixUnitIfIsLegacy` by (`isLegacy`, `fixLegacy`).  `Db.getInfo` is what C01's conversions, C05's validity checks and
C16's legacy theorems are stated over.  `FixUnitIfIsLegacy` is bridged on texts: `_LEGACY_TO_CURRENT` and the symbol as
byte lists, `str.replace` = `replaceAll`.
Core Lean + `Proofs/LegacyLemmas` (`Sym.ofBytes_bytes`).
-/
import Barril.Gen.CodeInfo
import Barril.Proofs.LegacyLemmas

namespace Barril.Bridge.Info
open Barril Barril.Gen.Code

/-- `self.unit_to_unit_info[unit]` -/
def unitLookupOf (db : Db) (u : Sym) : Except ErrKind UnitRow :=
  match db.unitBySym u with
  | some r => .ok r
  | none => .error .key

/-- `self.categories_to_quantity_types[name]` -/
def catLookupOf (db : Db) (c : Sym) : Except ErrKind CatRow :=
  match db.catByName c with
  | some r => .ok r
  | none => .error .key

/-- `self.quantity_types[quantity_type]` -/
def typeLookupOf (db : Db) (qt : Sym) : Except ErrKind (List UnitRow) :=
  if db.hasType qt then .ok (db.unitsOfType qt) else .error .key

/-- `FixUnitIfIsLegacy(unit)` on symbols -/
def fixOf (db : Db) (u : Sym) : Bool × Sym := (isLegacy db.legacy u, fixLegacy db.legacy u)

theorem loop1_eq_find (a : Sym → Except ErrKind UnitRow) (b : Sym → Except ErrKind CatRow)
    (c : Sym → Except ErrKind (List UnitRow)) (d : Sym → Bool × Sym) (u : Sym) (rows : List UnitRow) :
    getInfo_loop1 a b c d u rows = (match rows.find? (·.sym == u) with
      | some r => .ok (.inl r)
      | none => .ok (.inr ((), []))) := by
  induction rows with
  | nil => rfl
  | cons r rows ih =>
    unfold getInfo_loop1
    by_cases h : r.sym = u
    · simp [h, List.find?]
    · have h' : (r.sym == u) = false := by simpa using h
      simp only [h, if_false, List.find?, h']
      exact ih

/-- the loop that looks for `<unknown>` is generated from the same Python shape as `getInfo_loop1`: same statement,
same proof, another name -/
theorem loop2_eq_find (a : Sym → Except ErrKind UnitRow) (b : Sym → Except ErrKind CatRow)
    (c : Sym → Except ErrKind (List UnitRow)) (d : Sym → Bool × Sym) (u : Sym) (rows : List UnitRow) :
    getInfo_loop2 a b c d u rows = (match rows.find? (·.sym == u) with
      | some r => .ok (.inl r)
      | none => .ok (.inr ((), []))) := by
  induction rows with
  | nil => rfl
  | cons r rows ih =>
    unfold getInfo_loop2
    by_cases h : r.sym = u
    · simp [h, List.find?]
    · have h' : (r.sym == u) = false := by simpa using h
      simp only [h, if_false, List.find?, h']
      exact ih

/-- the second `TryToGetUnitInfoFromUnit` and the final error: the `fix_legacy` fallback -/
theorem k3_eq (db : Db) (fixLeg : Bool) (qt' : Sym) (rows : List UnitRow) (u : Sym) (o : Option UnitRow) :
    getInfo_k3 (unitLookupOf db) (catLookupOf db) (typeLookupOf db) (fixOf db) fixLeg qt' rows u o
      = (match db.infoLegacy qt' u fixLeg with
         | some r => .ok r
         | none => .error .units) := by
  unfold getInfo_k3 getInfo_k4 Db.infoLegacy Db.tryInfo unitLookupOf fixOf
  cases fixLeg with
  | false => simp only [Bool.false_eq_true, if_false, Bool.false_and]
  | true =>
    cases isLegacy db.legacy u with
    | false => simp only [Bool.false_eq_true, if_false, Bool.true_and, if_true]
    | true =>
      simp only [Bool.true_and, if_true]
      cases db.unitBySym (fixLegacy db.legacy u) with
      | none => rfl
      | some r =>
        by_cases h : r.qtype = qt'
        · simp [h]
        · have h2 : ¬ qt' = r.qtype := fun e => h e.symm
          simp [h, h2]

/-- from the lookup of the quantity type on -/
theorem k2_eq (db : Db) (fixLeg fixUnknown : Bool) (qt' u : Sym) (o : Option UnitRow) :
    getInfo_k2 (unitLookupOf db) (catLookupOf db) (typeLookupOf db) (fixOf db) fixLeg fixUnknown qt' u o
      = (if !db.hasType qt' then .error .units else
         match (db.unitsOfType qt').find? (·.sym == u) with
         | some r => .ok r
         | none =>
           match db.infoUnknown qt' fixUnknown with
           | some r => .ok r
           | none =>
             match db.infoLegacy qt' u fixLeg with
             | some r => .ok r
             | none => .error .units) := by
  unfold getInfo_k2 Db.infoUnknown
  simp only [loop1_eq_find, loop2_eq_find, k3_eq, typeLookupOf]
  cases hT : db.hasType qt' with
  | false => simp only [Bool.false_eq_true, if_false, if_true, Bool.not_false]
  | true =>
    simp only [if_true, Bool.not_true, Bool.false_eq_true, if_false]
    cases db.unitsOfType qt' |>.find? (·.sym == u) with
    | some r => rfl
    | none =>
      simp only []
      cases fixUnknown with
      | false => simp only [Bool.false_eq_true, if_false, Bool.false_and]
      | true =>
        simp only [if_true, Bool.true_and]
        by_cases hq : qt' = unknownQType
        · simp only [hq, if_true, beq_self_eq_true]
          cases db.unitsOfType unknownQType |>.find? (·.sym == unknownUnit) <;> rfl
        · have hq' : (qt' == unknownQType) = false := by simpa using hq
          simp only [hq, hq', if_false, Bool.false_eq_true]

theorem getInfo_eq_model (db : Db) (qt u : Sym) (fixUnknown fixLeg : Bool) :
    getInfo (unitLookupOf db) (catLookupOf db) (typeLookupOf db) (fixOf db) qt u fixUnknown fixLeg
      = db.getInfo qt u fixUnknown fixLeg := by
  unfold getInfo getInfo_k1 Db.getInfo Db.tryInfo Db.resolveQt
  simp only [k2_eq, unitLookupOf, catLookupOf]
  cases db.unitBySym u with
  | none => cases db.catByName qt <;> rfl
  | some r =>
    by_cases h : r.qtype = qt
    · simp [h]
    · have h2 : ¬ qt = r.qtype := fun e => h e.symm
      have h3 : (r.qtype == qt) = false := by simpa using h
      simp only [h2, h3, if_false, Bool.false_eq_true]
      cases db.catByName qt <;> rfl

/-! ### `FixUnitIfIsLegacy` -/

/-- `_LEGACY_TO_CURRENT` as text -/
def legacyBytes (L : List (Sym × Sym)) : List (List Nat × List Nat) := L.map (fun lc => (Sym.bytes lc.1, Sym.bytes lc.2))

theorem fixLoop_eq (L0 items : List (List Nat × List Nat)) :
    ∀ s, fixUnitIfIsLegacy_loop1 L0 s items = .ok (items.foldl (fun acc lc => replaceAll acc lc.1 lc.2) s, []) := by
  induction items with
  | nil => intro s; rfl
  | cons p rest ih =>
    intro s
    unfold fixUnitIfIsLegacy_loop1
    simp only [List.foldl_cons]
    exact ih _

theorem foldl_legacyBytes (L : List (Sym × Sym)) (s : List Nat) :
    (legacyBytes L).foldl (fun acc lc => replaceAll acc lc.1 lc.2) s = fixLegacyBytes L s := by
  unfold legacyBytes fixLegacyBytes
  rw [List.foldl_map]

theorem fixUnitIfIsLegacy_eq_model (L : List (Sym × Sym)) (u : Sym) :
    fixUnitIfIsLegacy (legacyBytes L) (Sym.bytes u)
      = .ok (decide (Sym.bytes u ≠ fixLegacyBytes L (Sym.bytes u)), fixLegacyBytes L (Sym.bytes u)) := by
  unfold fixUnitIfIsLegacy
  simp only [fixLoop_eq, foldl_legacyBytes]

theorem fixUnitIfIsLegacy_fixed (L : List (Sym × Sym)) (u : Sym) :
    (fixUnitIfIsLegacy (legacyBytes L) (Sym.bytes u)).map (fun r => Sym.ofBytes r.2) = .ok (fixLegacy L u) := by
  rw [fixUnitIfIsLegacy_eq_model]; rfl

/-- first component = the model's `isLegacy`.  A `Sym` is the base-256 number of its bytes, so a text ending in a NUL
byte has the code of the text without it: `Sym.ofBytes (Sym.bytes n) = n` always, `Sym.bytes (Sym.ofBytes t) = t` only
for texts without trailing NUL.  `hw` says the rewritten text is such a text, i.e. the code `fixLegacy L u` still
spells it; it is a hypothesis here and is discharged for no particular symbol in this development. -/
theorem fixUnitIfIsLegacy_flag (L : List (Sym × Sym)) (u : Sym)
    (hw : Sym.bytes (fixLegacy L u) = fixLegacyBytes L (Sym.bytes u)) :
    (fixUnitIfIsLegacy (legacyBytes L) (Sym.bytes u)).map (fun r => r.1) = .ok (isLegacy L u) := by
  have key : Sym.bytes u = fixLegacyBytes L (Sym.bytes u) ↔ fixLegacy L u = u :=
    ⟨fun h => by unfold fixLegacy; rw [← h]; exact Sym.ofBytes_bytes u, fun e => by rw [← hw, e]⟩
  rw [fixUnitIfIsLegacy_eq_model]
  show Except.ok _ = Except.ok _
  congr 1
  by_cases h : fixLegacy L u = u <;> simp [isLegacy, key, h]

end Barril.Bridge.Info
