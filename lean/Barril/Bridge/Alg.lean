/-
Bridge theorem for `UnitDatabase._ConvertMatchingExp` (generated: `Barril/Gen/CodeAlg.lean`, regenerated from the
source text of /repo on every run by `harness/pycode.py`).

`convertMatchingExp_eq_model`: the generated definition, with `self.Convert` instantiated by the model's `Db.convert`
and `self.GetInfo` by `Db.getInfo`, equals `Alg.convertMatchingExp` for ALL databases, units, exponents, values and
both settings of `in_derived`.  Every theorem of C03/C04 (and of C06's `named_eq_composed`) that goes through the unit
matching is stated over `Alg.convertMatchingExp`; this theorem makes it a statement about the code's current text.  An
edit of the Python function (the exponent-1 shortcut, the zero test, which ratio is taken, the power) changes the
generated definition and this proof no longer checks.

Scope: a plain number `value` (the generated doc comment records the `isinstance(value, (list, tuple))` branch as
specialised away; list/tuple values are scaled by the same factor element by element, compared by the correspondence).
Core Lean only.
-/
import Barril.Gen.CodeAlg
import Barril.Model.Alg

namespace Barril.Bridge.Alg
open Barril Barril.Gen.Code

theorem pow_scale (ratio : Rat) (exp : Int) (v : Rat) :
    (match PyRt.pow ratio exp with
     | .error e => (.error e : Except ErrKind Rat)
     | .ok p => .ok (v * p)) = Alg.scaleByPow ratio exp v := by
  have hz : PyRt.zpow ratio exp = Alg.zpowR ratio exp := by cases exp <;> rfl
  unfold PyRt.pow Alg.scaleByPow
  by_cases h : ratio = 0 ∧ exp < 0
  · simp [h]
  · simp [h, hz]

theorem convertMatchingExp_eq_model (db : Db) (qt u w : Sym) (exp : Int) (v : Rat) (inDerived : Bool) :
    convertMatchingExp db.convert (fun q x => db.getInfo q x) qt u w exp v inDerived
      = Alg.convertMatchingExp db qt u w exp v inDerived := by
  unfold convertMatchingExp Alg.convertMatchingExp
  by_cases h1 : u = w ∨ (exp = 1 ∧ ¬ inDerived = true)
  · have h1' : (u == w || (exp == 1 && !inDerived)) = true := by
      rcases h1 with h | ⟨h, h'⟩
      · simp [h]
      · simp [h, h']
    simp only [h1, h1', if_true]
    cases db.convert qt u w v <;> rfl
  · have h1' : (u == w || (exp == 1 && !inDerived)) = false := by
      simp only [not_or, not_and, Decidable.not_not] at h1
      cases hI : inDerived <;> simp_all
    simp only [h1, h1', if_false]
    cases hc0 : db.convert qt u w 0 with
    | error e => rfl
    | ok c0 =>
      simp only []
      by_cases h2 : exp = 1 ∧ c0 = 0
      · have h2' : (exp == 1 && c0 == 0) = true := by simp [h2.1, h2.2]
        simp only [h2, and_self, if_true]
        cases db.convert qt u w v <;> rfl
      · have h2' : (exp == 1 && c0 == 0) = false := by
          simp only [not_and] at h2
          by_cases he : exp = 1
          · simp [he, h2 he]
          · simp [he]
        simp only [h2, h2', if_false]
        by_cases h3 : c0 = 0
        · simp only [h3, beq_self_eq_true, if_true]
          cases hc1 : db.convert qt u w 1 with
          | error e => rfl
          | ok c1 => simp only []; exact pow_scale c1 exp v
        · have h3' : (c0 == 0) = false := by simp [h3]
          simp only [h3, h3', if_false]
          unfold Alg.ratioByIncrements
          cases hi1 : db.getInfo qt u with
          | error e => rfl
          | ok ru =>
            simp only []
            cases hi2 : db.getInfo qt w with
            | error e => rfl
            | ok rw_ =>
              simp only []
              unfold Alg.baseIncrement PyRt.tobaseOf
              by_cases hk1 : ru.ok = true
              · by_cases hk2 : rw_.ok = true
                · simp only [hk1, hk2, Bool.not_true]
                  cases ru.toBase.apply 1 with
                  | error e => rfl
                  | ok a1 =>
                    cases ru.toBase.apply 0 with
                    | error e => rfl
                    | ok a0 =>
                      cases rw_.toBase.apply 1 with
                      | error e => rfl
                      | ok b1 =>
                        cases rw_.toBase.apply 0 with
                        | error e => rfl
                        | ok b0 =>
                          simp only [PyRt.div]
                          by_cases hz : b1 - b0 = 0
                          · simp [hz]
                          · simp [hz]; exact pow_scale _ exp v
                · simp only [hk1, hk2, Bool.not_true]
                  cases ru.toBase.apply 1 with
                  | error e => rfl
                  | ok a1 =>
                    cases ru.toBase.apply 0 with
                    | error e => rfl
                    | ok a0 => rfl
              · simp [hk1]

end Barril.Bridge.Alg
