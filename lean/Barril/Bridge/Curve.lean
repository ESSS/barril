/-
Bridge theorems for `Curve._CheckImageAndDomainLength`, `Curve.__init__`, `Curve.SetImage`, `Curve.SetDomain` (generated:
`Barril/Gen/CodeCurve.lean`, regenerated from the source text of /repo on every run by `harness/pycode.py`).

* `curveCheckLength_eq_model`: = `Fixed.checkLen` (the lengths of the OUTER sequences are compared, ValueError otherwise);
* `curveInit_eq_model`, `curveSetImage_eq_model`, `curveSetDomain_eq_model`: with the attributes `_image`, `_domain` as
  explicit state and the generated length check plugged in, the three methods equal `Curve.new`, `Curve.setImage`,
  `Curve.setDomain` (the check comes BEFORE the assignment and uses the NEW array together with the other stored one),
  over which C11's `curve_inv`, `curve_rejected_unchanged`, `curve_ops_inv` … are stated.
Swapping the arguments of the check, checking against the array being replaced, assigning before checking or to the
other attribute changes the generated definitions and the proofs stop checking.  Core Lean only.
-/
import Barril.Gen.CodeCurve

namespace Barril.Bridge.Curve
open Barril Barril.Fixed Barril.Gen.Code

theorem curveCheckLength_eq_model (image domain : ArrRef) : curveCheckLength image domain = checkLen image domain := by
  unfold curveCheckLength checkLen
  by_cases h : image.len = domain.len
  · simp [h]
  · have h' : ¬ ((image.len : Nat) : Int) = ((domain.len : Nat) : Int) := by omega
    simp [h, h']

/-- the state of a curve as the generated methods return it -/
def stateOf (c : Fixed.Curve) : ArrRef × ArrRef := (c.image, c.domain)

theorem curveInit_eq_model (i0 d0 image domain : ArrRef) :
    curveInit curveCheckLength i0 d0 image domain
      = (match Fixed.Curve.new image domain with
         | .error e => .error e
         | .ok c => .ok (stateOf c)) := by
  unfold curveInit Fixed.Curve.new
  rw [curveCheckLength_eq_model]
  cases checkLen image domain <;> rfl

theorem curveSetImage_eq_model (c : Fixed.Curve) (image : ArrRef) :
    curveSetImage curveCheckLength c.image c.domain image
      = (match c.setImage image with
         | .error e => .error e
         | .ok c' => .ok (stateOf c')) := by
  unfold curveSetImage Fixed.Curve.setImage
  rw [curveCheckLength_eq_model]
  cases checkLen image c.domain <;> rfl

theorem curveSetDomain_eq_model (c : Fixed.Curve) (domain : ArrRef) :
    curveSetDomain curveCheckLength c.image c.domain domain
      = (match c.setDomain domain with
         | .error e => .error e
         | .ok c' => .ok (stateOf c')) := by
  unfold curveSetDomain Fixed.Curve.setDomain
  rw [curveCheckLength_eq_model]
  cases checkLen c.image domain <;> rfl

end Barril.Bridge.Curve
