/-
Bridge theorems for `Quantity._MakeStr` and `Quantity._CreateUnitsWithJoinedExponentsString` (generated:
`Barril/Gen/CodeStr.lean`, regenerated from the source text of /repo on every run by `harness/pycode.py`; each of the
two `for` loops of each function becomes a structurally recursive helper definition carrying `ret` / `added_div`).

C20's `unit_string_layout`, `parse_render`, `render_unambiguous`, `derived_category_and_type_strings` … are stated over
`renderUnit` / `makeStr`.  Changing a separator, the test `exp != 1`, `abs`, the order of the two loops or the
`added_div` logic changes the generated definitions and the proofs stop checking.  Core Lean only.
-/
import Barril.Gen.CodeStr
import Barril.Model.StrRender

namespace Barril.Bridge.Str
open Barril Barril.Str Barril.Gen.Code

theorem pyIntText_pos (n : Int) (h : n > 0) : pyIntText n = decimal n.toNat := by
  unfold pyIntText
  have : ¬ n < 0 := by omega
  simp [this]

theorem pyIntText_neg (n : Int) (h : n < 0) : pyIntText (-n) = decimal n.natAbs := by
  unfold pyIntText
  have h2 : ¬ (-n < 0) := by omega
  have h3 : (-n).toNat = n.natAbs := by omega
  rw [if_neg h2, h3]

/-- the value of `added_div` after the second loop -/
def flagAfter : Bool → List (Str × Int) → Bool
  | a, [] => a
  | a, (_, e) :: r => if e < 0 then flagAfter true r else flagAfter a r

/-- the generated loops repeat the rest of the body in every branch of `ret` / `added_div` / `exp`, the model
computes the new `ret` first and continues once: in the four loop bridges one `simp` per branch closes the step -/
theorem makeStr_loop1_eq (items : List (Str × Int)) :
    ∀ ret, makeStr_loop1 ret items = .ok (makeStrNum ret items, []) := by
  induction items with
  | nil => intro ret; rfl
  | cons p rest ih =>
    intro ret
    obtain ⟨rep, exp⟩ := p
    unfold makeStr_loop1 makeStrNum
    by_cases h : exp > 0
    · by_cases hr : ret = [] <;> by_cases h1 : exp = 1 <;>
        simp [h, hr, h1, ih, powText, pyIntText_pos exp h]
    · simp [h, ih]

theorem makeStr_loop2_eq (items : List (Str × Int)) :
    ∀ added ret, makeStr_loop2 added ret items = .ok ((flagAfter added items, makeStrDen ret added items), []) := by
  induction items with
  | nil => intro added ret; rfl
  | cons p rest ih =>
    intro added ret
    obtain ⟨rep, exp⟩ := p
    unfold makeStr_loop2 makeStrDen flagAfter
    by_cases h : exp < 0
    · cases added <;> by_cases hr : ret = [] <;> by_cases h1 : exp = -1 <;>
        simp [h, hr, h1, ih, powText, pyIntText_neg exp h]
    · simp [h, ih]

theorem makeStr_eq_model (items : List (Str × Int)) : Gen.Code.makeStr items = .ok (Str.makeStr items) := by
  unfold Gen.Code.makeStr Str.makeStr
  simp only [makeStr_loop1_eq]
  simp only [makeStr_loop2_eq]

theorem createUnits_loop1_eq (cu items : List (Str × Int)) :
    ∀ ret, createUnitsWithJoinedExponentsString_loop1 cu ret items = .ok (renderUnitNum ret items, []) := by
  induction items with
  | nil => intro ret; rfl
  | cons p rest ih =>
    intro ret
    obtain ⟨unit, exp⟩ := p
    unfold createUnitsWithJoinedExponentsString_loop1 renderUnitNum
    by_cases h : exp > 0
    · by_cases hr : ret = [] <;> by_cases h1 : exp = 1 <;>
        simp [h, hr, h1, ih, pyIntText_pos exp h]
    · simp [h, ih]

theorem createUnits_loop2_eq (cu items : List (Str × Int)) :
    ∀ added ret, createUnitsWithJoinedExponentsString_loop2 cu added ret items
      = .ok ((flagAfter added items, renderUnitDen ret added items), []) := by
  induction items with
  | nil => intro added ret; rfl
  | cons p rest ih =>
    intro added ret
    obtain ⟨unit, exp⟩ := p
    unfold createUnitsWithJoinedExponentsString_loop2 renderUnitDen flagAfter
    by_cases h : exp < 0
    · cases added <;> by_cases hr : ret = [] <;> by_cases h1 : exp = -1 <;>
        simp [h, hr, h1, ih, pyIntText_neg exp h]
    · simp [h, ih]

theorem createUnits_eq_model (joined : List (Str × Int)) :
    createUnitsWithJoinedExponentsString joined = .ok (renderUnit joined) := by
  unfold createUnitsWithJoinedExponentsString renderUnit
  simp only [createUnits_loop1_eq]
  simp only [createUnits_loop2_eq]

end Barril.Bridge.Str
