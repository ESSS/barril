/-
Bridge theorems for `Quantity.__pow__` and `Scalar.__pow__` (generated: `Barril/Gen/CodePow.lean`, regenerated from the
source text of /repo on every run by `harness/pycode.py`; `for _ in range(exponent - 1)` is a helper definition over the
list `PyRt.pyRange (exponent - 1)`).

The generated definitions take the multiplication as a parameter: `self._DoOperation(a, b, op)` is instantiated by the
model's `opQ reg op a b` (`OPERATION_MULTIPLY` by `.mul`), `scalar * scalar` by `opQ reg .mul` on the quantities.  In
`Quantity.__pow__` `self` is the LEFT operand of every multiplication, in `Scalar.__pow__` the RIGHT one; for n ≤ 1
`range` is empty and the result is `q` itself.
C20's `quantity_pow_eq_iterated_mul`, `pow_unit_string`, `pow_unit_string_parses` are stated over `qpow` / `spow`.
Core Lean only.
-/
import Barril.Gen.CodePow
import Barril.Model.StrRender

namespace Barril.Bridge.Pow
open Barril Barril.Str Barril.Gen.Code

theorem quantityPow_loop_eq (reg : Reg) (q : Quantity) (l : List Nat) :
    ∀ r, quantityPow_loop1 (fun a b op => opQ reg op a b) NewOp.mul q r l
      = (match qpowLoop reg q l.length r with
         | .error e => .error e
         | .ok r' => .ok (r', [])) := by
  induction l with
  | nil => intro r; rfl
  | cons x l ih =>
    intro r
    unfold quantityPow_loop1
    simp only [List.length_cons, qpowLoop]
    cases opQ reg .mul q r with
    | error e => rfl
    | ok r' => exact ih r'

theorem quantityPow_eq_model (reg : Reg) (q : Quantity) (n : Int) :
    quantityPow (fun a b op => opQ reg op a b) NewOp.mul q n = qpow reg q n := by
  unfold quantityPow qpow
  simp only [quantityPow_loop_eq, PyRt.pyRange, List.length_range]
  cases qpowLoop reg q (n - 1).toNat q <;> rfl

theorem scalarPow_loop_eq (reg : Reg) (q : Quantity) (l : List Nat) :
    ∀ r, scalarPow_loop1 (fun a b => opQ reg .mul a b) q r l
      = (match spowLoop reg q l.length r with
         | .error e => .error e
         | .ok r' => .ok (r', [])) := by
  induction l with
  | nil => intro r; rfl
  | cons x l ih =>
    intro r
    unfold scalarPow_loop1
    simp only [List.length_cons, spowLoop]
    cases opQ reg .mul r q with
    | error e => rfl
    | ok r' => exact ih r'

theorem scalarPow_eq_model (reg : Reg) (q : Quantity) (n : Int) :
    scalarPow (fun a b => opQ reg .mul a b) q n = spow reg q n := by
  unfold scalarPow spow
  simp only [scalarPow_loop_eq, PyRt.pyRange, List.length_range]
  cases spowLoop reg q (n - 1).toNat q <;> rfl

end Barril.Bridge.Pow
