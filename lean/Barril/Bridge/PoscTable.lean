/-
The shipped table runs the factories' code: in a database whose rows satisfy the annotation predicate
(`UnitRow.annAgree`), every row that carries `__a__ … __d__` annotations computes, in both directions, exactly what the
CODE of `posc.MakeCustomaryToBase` / `MakeBaseToCustomary` (generated: `Gen/CodePosc.lean`) computes on those
coefficients; hence the round trip through the base unit follows from the factories' general theorem
(`Bridge/Posc.lean`, all coefficients) and not only from the per-row predicate.  Stated for any such database and
instantiated for the default POSC database (`poscUnits_all_ann`, `decide +kernel` over the regenerated rows); the
category-less and the simple database are not instantiated.
-/
import Barril.Bridge.Posc
import Barril.Props.C01

namespace Barril.Bridge.PoscTable
open Barril Barril.Gen Barril.Gen.Code Barril.Bridge.Posc

theorem rows_run_factory_code {db : Db} (hann : ∀ r ∈ db.units, r.annAgree = true)
    (r : UnitRow) (hr : r ∈ db.units) (a b c d : Rat)
    (hto : r.annTo = some (a, b, c, d)) (hfrom : r.annFrom = some (a, b, c, d)) (x : Rat) :
    r.toBase.eval x = makeCustomaryToBase a b c d x ∧ r.fromBase.eval x = makeBaseToCustomary a b c d x :=
  row_is_factory_code r a b c d hto hfrom (hann r hr) x

theorem posc_rows_run_factory_code (r : UnitRow) (hr : r ∈ poscDb.units) (a b c d : Rat)
    (hto : r.annTo = some (a, b, c, d)) (hfrom : r.annFrom = some (a, b, c, d)) (x : Rat) :
    r.toBase.eval x = makeCustomaryToBase a b c d x ∧ r.fromBase.eval x = makeBaseToCustomary a b c d x :=
  rows_run_factory_code posc_annotations_agree r hr a b c d hto hfrom x

theorem annotated_row_roundtrip {db : Db} (hann : ∀ r ∈ db.units, r.annAgree = true)
    (r : UnitRow) (hr : r ∈ db.units) (a b c d : Rat)
    (hto : r.annTo = some (a, b, c, d)) (hfrom : r.annFrom = some (a, b, c, d))
    (hdet : b * c - a * d ≠ 0) (x : Rat) (hden : c + d * x ≠ 0) :
    r.fromBase.eval (r.toBase.eval x) = x := by
  rw [(rows_run_factory_code hann r hr a b c d hto hfrom x).1,
      (rows_run_factory_code hann r hr a b c d hto hfrom _).2]
  exact customary_roundtrip a b c d x hdet hden

end Barril.Bridge.PoscTable
