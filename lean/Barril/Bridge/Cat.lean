/-
Bridge theorems for `UnitDatabase.AddCategory` (generated: `Barril/Gen/CodeCat.lean`, regenerated from the source text of
/repo on every run by `harness/pycode.py`).  The function is translated in STRETCHES (the generated doc comments name the
first and last statement of each); covered here:

* `addCategoryPrefix` = from the first statement to `assert quantity_type is not None` (`CheckType`, the three guards, the
  `if from_category:` block, the assertion) is `prefixModel`, and `Reg.addCategory` is `prefixModel` followed by
  `buildInfo` and the store: the order of the guards, their error classes and what is inherited are tied to the code's text;
* `addCategoryDefaultValue` = the statement `if default_value is None: … else: …` is `Reg.resolveDefaultValue`;
* `addCategoryDefaultUnit` = the statement `if default_unit is None: … else: …` is `Reg.resolveDefaultUnit`.
NOT covered by a generated definition: the `valid_units` loop (`resolveValid`), the
caption (`titleCaption`), the `CategoryInfo` construction and the store; the flags / caption given as explicit `None`
(`inheritFlags`).  Core Lean only.
-/
import Barril.Gen.CodeCat
import Barril.Model.Reg

namespace Barril.Bridge.Cat
open Barril.Reg Barril.Gen.Code

/-- the part of `Reg.addCategory` before `buildInfo` -/
def prefixModel (r : Registry) (a : CatArgs) : Except ErrKind (Sym × CatArgs) :=
  match a.category with
  | .none => .error .type
  | .bad => .error .type
  | .str c =>
    if truthy a.fromCat && truthy a.qtype then .error .value
    else if !a.override && (catGet r.cats c).isSome then .error .units
    else if limitsInverted a.minV a.maxV then .error .value
    else
      match inheritFrom r a with
      | .error e => .error e
      | .ok a1 =>
        match a1.qtype with
        | none => .error .assertion
        | some qt => .ok (qt, a1)

theorem addCategory_eq_prefix (lg : List (Sym × Sym)) (r : Registry) (a : CatArgs) :
    addCategory lg r a = (match prefixModel r a with
      | .error e => (r, .error e)
      | .ok (qt, a1) =>
        match buildInfo lg r (catArgStr a.category) qt a1 with
        | .error e => (r, .error e)
        | .ok info => (⟨r.types, r.index, catSet r.cats info⟩, .ok info)) := by
  unfold addCategory prefixModel
  cases hc : a.category with
  | none => rfl
  | bad => rfl
  | str c =>
    simp only [catArgStr]
    split
    · rfl
    split
    · rfl
    split
    · rfl
    cases inheritFrom r a with
    | error e => rfl
    | ok a1 =>
      simp only
      cases a1.qtype <;> rfl

/-- what the generated prefix returns for the arguments after inheritance -/
def resultOf (p : Sym × CatArgs) : Sym × Option (List Sym) × Option Sym × Option Rat × Option Rat × Option Rat :=
  (p.1, p.2.validUnits, p.2.defaultUnit, p.2.defaultValue, p.2.minV, p.2.maxV)

theorem addCategoryPrefix_eq_model (r : Registry) (a : CatArgs) :
    addCategoryPrefix r a.category a.qtype a.validUnits a.override a.defaultUnit a.defaultValue a.minV a.maxV a.minExcl
        a.maxExcl a.caption a.fromCat
      = (match prefixModel r a with
         | .error e => .error e
         | .ok p => .ok (resultOf p)) := by
  obtain ⟨category, qtype, validUnits, override, defaultUnit, defaultValue, minV, maxV, minExcl, maxExcl, caption, fromCat⟩ := a
  unfold addCategoryPrefix prefixModel inheritFrom resultOf
  cases category with
  | none => rfl
  | bad => rfl
  | str c =>
    simp only [checkStr, catArgStr]
    by_cases h1 : truthy fromCat = true ∧ truthy qtype = true
    · simp [h1]
    · have h1' : (truthy fromCat && truthy qtype) = false := by
        cases hA : truthy fromCat <;> cases hB : truthy qtype <;> simp_all
      simp only [h1, h1', if_false, Bool.false_eq_true]
      by_cases h2 : (¬ override = true) ∧ (catGet r.cats c).isSome = true
      · have h2' : (!override && (catGet r.cats c).isSome) = true := by cases override <;> simp_all
        simp [h2]
      · have h2' : (!override && (catGet r.cats c).isSome) = false := by
          cases override <;> cases hh : (catGet r.cats c).isSome <;> simp_all
        simp only [h2, h2', if_false, Bool.false_eq_true]
        -- the generated text holds one copy of the rest (limits guard, `if from_category:` block, assertion) per shape
        -- of (min_value, max_value); in every copy an argument left at None is read from the source category, which
        -- is `orElseO` on the model's side, so each leaf closes by evaluating both sides on constructors
        cases minV <;> cases maxV <;> simp only [limitsInverted, Bool.false_eq_true, if_false, decide_eq_true_eq] <;>
          (try (rename_i lo hi; by_cases h3 : hi < lo <;> simp only [h3, if_true, if_false])) <;>
          (first
            | rfl
            | (by_cases hf : truthy fromCat = true
               · simp only [hf, if_true]
                 cases getCategoryInfo r (fromCat.getD 0) <;> simp only [] <;>
                   first
                   | rfl
                   | (cases validUnits <;> cases defaultUnit <;> cases defaultValue <;> simp [orElseO])
               · simp only [hf, if_false, Bool.false_eq_true]
                 cases qtype <;> simp))

theorem addCategoryDefaultValue_eq_model (c : SArg) (qt : Option Sym) (vu : Option (List Sym)) (ov : Bool) (du : Option Sym)
    (dv lo hi : Option Rat) (loX hiX : Bool) (cap : Sym) (fc : Option Sym) :
    addCategoryDefaultValue c qt vu ov du dv lo hi loX hiX cap fc = resolveDefaultValue lo hi loX hiX dv := by
  unfold addCategoryDefaultValue resolveDefaultValue minOk maxOk
  -- both sides are one decision tree over the five arguments and the comparisons of the default with the limits:
  -- with the arguments fixed to constructors the guards of the two sides are compared leaf by leaf
  cases dv <;> cases lo <;> cases hi <;> cases loX <;> cases hiX <;> simp <;>
    (repeat' (first | rfl | split)) <;> simp_all

theorem fixLegacy_of_not_legacy (lg : List (Sym × Sym)) (d : Sym) (h : isLegacy lg d = false) : fixLegacy lg d = d := by
  unfold isLegacy at h
  simpa using h

theorem addCategoryDefaultUnit_eq_model (lg : List (Sym × Sym)) (r : Registry) (c : SArg) (qt : Sym) (vu : Option (List Sym))
    (ov : Bool) (du : Option Sym) (dv lo hi : Option Rat) (loX hiX : Bool) (cap : Sym) (fc : Option Sym) :
    addCategoryDefaultUnit lg r c qt vu ov du dv lo hi loX hiX cap fc = resolveDefaultUnit lg r qt vu du := by
  unfold addCategoryDefaultUnit resolveDefaultUnit
  cases du with
  | some d =>
    simp only []
    cases getUnits r qt with
    | error e => rfl
    | ok qunits =>
      simp only []
      cases hl : isLegacy lg d
      · have hfx := fixLegacy_of_not_legacy lg d hl
        by_cases hm : d ∈ qunits <;> simp [hfx, hm]
      · by_cases hm : fixLegacy lg d ∈ qunits <;> simp [hm]
  | none =>
    simp only []
    cases getBaseUnit r qt with
    | error e => rfl
    | ok b =>
      simp only []
      cases vu with
      | none => simp
      | some l =>
        cases l with
        | nil => simp
        | cons v vs =>
          by_cases hm : b ∈ v :: vs <;> simp [hm, PyRt.pyIndex, PyRt.normIndex]

end Barril.Bridge.Cat
