/-
Bridge theorems for the conversion-formula factories of `posc.py` (generated: `Barril/Gen/CodePosc.lean`).
The definitions `Gen.Code.makeCustomaryToBase` / `makeBaseToCustomary` are regenerated from the source text of
`posc.MakeCustomaryToBase` / `posc.MakeBaseToCustomary` on every run; the theorems below are about THOSE definitions,
for all coefficients and all arguments:

* `customaryToBase_is_mob`, `baseToCustomary_is_mob`: the code of the two factories computes the Möbius maps
  `(a + b x)/(c + d x)` and `(a − c y)/(−b + d y)` the rest of the model is stated over;
* `customary_roundtrip`, `base_roundtrip`: C01's "u → base → u gives back the value" for ALL coefficients with
  `b c ≠ a d` - not only the 1548 rows of today's table;
* `customaryToBase_strictMono`: scale/offset formulas with `b c > 0` are strictly increasing;
* `row_is_factory_code`: a table row that satisfies the annotation predicate (generated table theorems `*_ann`)
  computes exactly what the factories' code computes on the row's coefficients.
-/
import Barril.Gen.CodePosc
import Barril.Model.Conv
import Mathlib.Algebra.Order.Field.Rat
import Mathlib.Tactic.Ring
import Mathlib.Tactic.FieldSimp
import Mathlib.Tactic.Linarith
import Mathlib.Tactic.LinearCombination

namespace Barril.Bridge.Posc
open Barril Barril.Gen.Code

theorem customaryToBase_is_mob (a b c d x : Rat) :
    makeCustomaryToBase a b c d x = (Mob.mk a b c d).eval x := by
  unfold makeCustomaryToBase Mob.eval
  by_cases h : d = 0
  · simp [h]
  · simp [h]

theorem baseToCustomary_is_mob (a b c d y : Rat) :
    makeBaseToCustomary a b c d y = (Mob.mk a (-c) (-b) d).eval y := by
  unfold makeBaseToCustomary Mob.eval
  by_cases h : d = 0
  · simp [h]; ring
  · simp [h]; ring

theorem mob_roundtrip (a b c d x : Rat) (hdet : b * c - a * d ≠ 0) (hden : c + d * x ≠ 0) :
    (a + -c * ((a + b * x) / (c + d * x))) / (-b + d * ((a + b * x) / (c + d * x))) = x := by
  have hY : (a + b * x) / (c + d * x) * (c + d * x) = a + b * x := div_mul_cancel₀ _ hden
  generalize (a + b * x) / (c + d * x) = Y at hY
  have hD : (-b + d * Y) * (c + d * x) = -(b * c - a * d) := by
    linear_combination d * hY
  have hDen : -b + d * Y ≠ 0 := by
    intro h0
    rw [h0, zero_mul] at hD
    exact hdet (by linarith)
  rw [div_eq_iff hDen]
  apply mul_right_cancel₀ hden
  linear_combination (-(c + x * d)) * hY

theorem customary_roundtrip (a b c d x : Rat) (hdet : b * c - a * d ≠ 0) (hden : c + d * x ≠ 0) :
    makeBaseToCustomary a b c d (makeCustomaryToBase a b c d x) = x := by
  rw [customaryToBase_is_mob, baseToCustomary_is_mob]
  exact mob_roundtrip a b c d x hdet hden

theorem base_roundtrip (a b c d y : Rat) (hdet : b * c - a * d ≠ 0) (hden : d * y - b ≠ 0) :
    makeCustomaryToBase a b c d (makeBaseToCustomary a b c d y) = y := by
  rw [customaryToBase_is_mob, baseToCustomary_is_mob]
  -- the from-base map is the to-base map of the coefficients `(a, -c, -b, d)`, and the other way round
  have := mob_roundtrip a (-c) (-b) d y (by intro h; apply hdet; linarith) (by intro h; apply hden; linarith)
  simpa [Mob.eval] using this

theorem customaryToBase_strictMono (a b c x y : Rat) (hpos : 0 < b * c) (hxy : x < y) :
    makeCustomaryToBase a b c 0 x < makeCustomaryToBase a b c 0 y := by
  unfold makeCustomaryToBase
  simp only [if_true]
  have hc : c ≠ 0 := by
    rintro rfl; simp at hpos
  have h : (a + b * y) / c - (a + b * x) / c = (b * c) * (y - x) / (c * c) := by
    field_simp; ring
  have h2 : 0 < (b * c) * (y - x) / (c * c) :=
    div_pos (mul_pos hpos (sub_pos.mpr hxy)) (mul_self_pos.mpr hc)
  linarith

theorem row_is_factory_code (w : UnitRow) (a b c d : Rat) (hto : w.annTo = some (a, b, c, d))
    (hfrom : w.annFrom = some (a, b, c, d)) (hann : w.annAgree = true) (x : Rat) :
    w.toBase.eval x = makeCustomaryToBase a b c d x ∧ w.fromBase.eval x = makeBaseToCustomary a b c d x := by
  unfold UnitRow.annAgree at hann
  rw [hto, hfrom] at hann
  simp only [Bool.and_eq_true, beq_iff_eq] at hann
  rw [customaryToBase_is_mob, baseToCustomary_is_mob, hann.1, hann.2]
  exact ⟨rfl, rfl⟩

end Barril.Bridge.Posc
