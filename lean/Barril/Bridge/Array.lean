/-
Bridge theorems for `Array._DoValidateValues` (generated: `Barril/Gen/CodeArray.lean`, regenerated from the source text
of /repo on every run by `harness/pycode.py`; the two `for` loops over the shared iterator become the structurally
recursive helper definitions `doValidateValues_loop1` (outer: find the first non-NaN value, then `break`) and
`doValidateValues_loop2` (inner: running minimum and maximum, NaN skipped with `continue`)).

* `loop2_eq_scanRest`: the inner loop consumes the whole iterator and ends with exactly `scanRest`'s minimum/maximum;
* `loop1_eq_scan`: the outer loop = `scan`, then `CheckValue(min_value)`, `CheckValue(max_value)` in that order;
* `doValidateValues_flat_eq_model` / `doValidateValues_derived_eq_model`: the generated function equals the model's
  `doValidate` on every flat container (list, tuple, ndarray; any mix of numbers, infinities and NaN; empty too), for
  every quantity - with `quantity.CheckValue` instantiated by the model's `checkValue`;
* `doValidateValues_flat_code`: the same with the GENERATED `Quantity.CheckValue` (`Bridge/Valid`) plugged in, so the
  whole validation path of a flat array is a statement about the current text of both functions.

* `doValidateValuesTuples_eq_model`: the second generated definition (the same Python function specialised to a container
  whose first element is a tuple; loops `for value in values` / `for v in value`) equals `doValidate` on every
  `.nested` container = `checkItems` (elements that are not tuples are passed over, every number of every tuple is
  checked in order, the first failure is the result).

C12's `scan_minmax`, `array_valid_iff_all`, `tuples_branch_spec` are stated over `scan`/`scanRest`/`checkFlat`/`doValidate`.
The two specialisations (`isinstance(values[0], tuple)` False / True, recorded in the generated doc comments) together
cover the function.  Flipping `<`/`>`, dropping a NaN test, initialising from the wrong element, checking only one
end, or `continue` for `break` changes the generated definitions and the proofs stop checking.  Core Lean only.
-/
import Barril.Gen.CodeArray
import Barril.Bridge.Valid

namespace Barril.Bridge.Array
open Barril Barril.Valid Barril.Gen.Code

theorem loop2_eq_scanRest (cv : Val → Except VErr Unit) (d n : Bool) (ci : CatInfo) (vs : List Val) :
    ∀ mx mn, doValidateValues_loop2 cv d n ci mx mn vs = .ok (((scanRest mn mx vs).2, (scanRest mn mx vs).1), []) := by
  induction vs with
  | nil => intro mx mn; rfl
  | cons v vs ih =>
    intro mx mn
    unfold doValidateValues_loop2 scanRest
    by_cases h1 : v.isNan = true
    · simp only [h1, if_true]; exact ih mx mn
    · by_cases h2 : Val.lt v mn = true
      · simp only [h1, h2, if_true]; exact ih mx v
      · by_cases h3 : Val.gt v mx = true
        · simp only [h1, h2, h3, if_true]; exact ih v mn
        · simp only [h1, h2, h3]; exact ih mx mn

/-- `CheckValue(min_value); CheckValue(max_value)` after the scan -/
def checkEnds (cv : Val → Except VErr Unit) : Option (Val × Val) → Except VErr (Unit × List Val)
  | none => .ok ((), [])
  | some (mn, mx) =>
    match cv mn with
    | .error e => .error e
    | .ok _ =>
      match cv mx with
      | .error e => .error e
      | .ok _ => .ok ((), [])

theorem loop1_eq_scan (cv : Val → Except VErr Unit) (d n : Bool) (ci : CatInfo) (isNumpy : Bool) (vs : List Val) :
    doValidateValues_loop1 cv d n ci isNumpy vs = checkEnds cv (scan vs) := by
  induction vs with
  | nil => rfl
  | cons v vs ih =>
    unfold doValidateValues_loop1 scan
    by_cases h1 : v.isNan = true
    · simp only [h1, if_true]; exact ih
    · simp only [h1, loop2_eq_scanRest, checkEnds]
      cases isNumpy <;> simp only [Bool.false_eq_true, if_true, if_false] <;>
        (cases cv (scanRest v v vs).1 <;> simp only []) <;> (cases cv (scanRest v v vs).2 <;> rfl)

theorem checkEnds_eq_checkFlat (g : Reg) (q : Quant) (vs : List Val) :
    (match checkEnds (checkValue g q) (scan vs) with
     | .error e => .error e
     | .ok _ => .ok ()) = checkFlat g q vs := by
  unfold checkFlat checkEnds
  cases scan vs with
  | none => rfl
  | some p =>
    obtain ⟨mn, mx⟩ := p
    simp only []
    cases checkValue g q mn with
    | error e => rfl
    | ok _ => cases checkValue g q mx <;> rfl

theorem doValidateValues_derived_eq_model (g : Reg) (cv : Val → Except VErr Unit) (n : Bool) (ci : CatInfo) (kind : Container)
    (vs : List Val) : doValidateValues cv true n ci vs = doValidate g .derived (.flat kind vs) := by
  unfold doValidateValues doValidate
  simp

theorem doValidateValues_flat_eq_model (g : Reg) (c : CatInfo) (unit : Sym) (this : UnitRow) (kind : Container) (vs : List Val) :
    doValidateValues (checkValue g (.simple c unit this)) false (kind == .ndarray) c vs
      = doValidate g (.simple c unit this) (.flat kind vs) := by
  unfold doValidateValues doValidate CatInfo.limited
  simp only [loop1_eq_scan]
  by_cases hl : c.minV.isSome = true ∨ c.maxV.isSome = true
  · have hl' : (c.minV.isSome || c.maxV.isSome) = true := by simpa using hl
    cases vs with
    | nil => simp [hl, hl', checkFlat, scan]
    | cons v vs =>
      have hpos : (((v :: vs).length : Nat) : Int) > (0 : Int) := by simp
      simp only [Bool.false_eq_true, not_false_eq_true, hl, hl', hpos, if_true, Bool.not_true, if_false]
      rw [← checkEnds_eq_checkFlat]
      cases checkEnds (checkValue g (.simple c unit this)) (scan (v :: vs)) <;> rfl
  · have hl' : (c.minV.isSome || c.maxV.isSome) = false := by
      cases h1 : c.minV.isSome <;> cases h2 : c.maxV.isSome <;> simp_all
    simp [hl, hl']

/-- the same over the generated `Quantity.CheckValue` -/
theorem doValidateValues_flat_code (g : Reg) (c : CatInfo) (unit : Sym) (this : UnitRow) (kind : Container) (vs : List Val) :
    doValidateValues (Gen.Code.checkValue (Bridge.Valid.convertScalarValueOf g c this) false c unit) false (kind == .ndarray) c vs
      = doValidate g (.simple c unit this) (.flat kind vs) := by
  rw [← doValidateValues_flat_eq_model]
  congr 1
  funext v
  exact Bridge.Valid.checkValue_simple_eq_model g c unit this v

theorem tuplesLoop2_eq_checkAll (g : Reg) (q : Quant) (d n : Bool) (ci : CatInfo) (vs : List Val) :
    (match doValidateValuesTuples_loop2 (checkValue g q) d n ci vs with
     | .error e => .error e
     | .ok _ => .ok ()) = checkAll g q vs := by
  induction vs with
  | nil => rfl
  | cons v vs ih =>
    unfold doValidateValuesTuples_loop2 checkAll
    cases checkValue g q v with
    | error e => rfl
    | ok _ => exact ih

theorem tuplesLoop1_eq_checkItems (g : Reg) (q : Quant) (d n : Bool) (ci : CatInfo) (items : List Item) :
    (match doValidateValuesTuples_loop1 (checkValue g q) d n ci items with
     | .error e => .error e
     | .ok _ => .ok ()) = checkItems g q items := by
  induction items with
  | nil => rfl
  | cons it items ih =>
    cases it with
    | num x =>
      unfold doValidateValuesTuples_loop1 checkItems
      simp only [itemIsTuple, Bool.false_eq_true, if_false]
      exact ih
    | tup vs =>
      unfold doValidateValuesTuples_loop1 checkItems
      simp only [itemIsTuple, itemValues, if_true]
      rw [← tuplesLoop2_eq_checkAll g q d n ci vs]
      cases doValidateValuesTuples_loop2 (checkValue g q) d n ci vs with
      | error e => rfl
      | ok _ => exact ih

theorem doValidateValuesTuples_eq_model (g : Reg) (c : CatInfo) (unit : Sym) (this : UnitRow) (kind : Container)
    (n : Bool) (first : List Val) (rest : List Item) :
    doValidateValuesTuples (checkValue g (.simple c unit this)) false n c (.tup first :: rest)
      = doValidate g (.simple c unit this) (.nested kind first rest) := by
  unfold doValidateValuesTuples doValidate CatInfo.limited
  by_cases hl : c.minV.isSome = true ∨ c.maxV.isSome = true
  · have hl' : (c.minV.isSome || c.maxV.isSome) = true := by simpa using hl
    have hpos : (((Item.tup first :: rest).length : Nat) : Int) > (0 : Int) := by simp
    simp only [Bool.false_eq_true, not_false_eq_true, hl, hl', hpos, if_true, Bool.not_true, if_false]
    exact tuplesLoop1_eq_checkItems g (.simple c unit this) false n c (.tup first :: rest)
  · have hl' : (c.minV.isSome || c.maxV.isSome) = false := by
      cases h1 : c.minV.isSome <;> cases h2 : c.maxV.isSome <;> simp_all
    simp [hl, hl']

theorem doValidateValuesTuples_derived (cv : Val → Except VErr Unit) (n : Bool) (ci : CatInfo) (items : List Item) :
    doValidateValuesTuples cv true n ci items = .ok () := by
  unfold doValidateValuesTuples
  simp

end Barril.Bridge.Array
