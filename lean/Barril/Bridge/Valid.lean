/-
Bridge theorems for `Quantity.CheckValue` (generated: `Barril/Gen/CodeValid.lean`, regenerated from the source text of
/repo on every run by `harness/pycode.py`).

`checkValue_simple_eq_model`: the generated definition equals the model's `Valid.checkValue` (over which C12's
`checkValue_spec`, `array_valid_iff_all`, `valid_unit_invariant` … are stated) for ALL categories (every combination of
absent/present limits and exclusivity flags), units, rows and values including the infinities and NaN.
`self.ConvertScalarValue` is the parameter `convertScalarValueOf` (GetInfo of the default unit with `fix_unknown`, then
from-base ∘ to-base on `Val`).  Flipping a comparison (`>` for `>=`), swapping a limit, dropping the conversion or
moving it behind one of the limit tests changes the generated definition and the proof no longer checks.

The translator copies the rest of the function into every branch, so the limit tests occur once behind the conversion
and once without it, and the maximum test once per outcome of the minimum test.  `maxCode` / `limitsCode` name that
shape once; `checkValue_code` (by `rfl`) reads the generated definition in these terms, and two small case analyses
identify them with `checkMax` / `checkLimits`.  Core Lean only.
-/
import Barril.Gen.CodeValid

namespace Barril.Bridge.Valid
open Barril Barril.Valid Barril.Gen.Code

def convertScalarValueOf (g : Reg) (c : CatInfo) (this : UnitRow) (v : Val) (du : Sym) : Except ErrKind Val :=
  match g.db.getInfo c.qtype du true with
  | .error e => .error e
  | .ok other => convRowsV this other v

/-- "checking maximum value" as the code has it: the tests negated, the error first -/
def maxCode (c : CatInfo) (v : Val) : Except VErr Unit :=
  match c.maxV with
  | some M =>
    if c.maxExcl = true then
      if ¬ Val.lt v (.fin M) = true then .error (.validation .lt M v) else .ok ()
    else
      if ¬ Val.le v (.fin M) = true then .error (.validation .le M v) else .ok ()
  | none => .ok ()

/-- both limit checks as the code has them: the maximum check is the continuation of every accepting
branch of the minimum check -/
def limitsCode (c : CatInfo) (v : Val) : Except VErr Unit :=
  match c.minV with
  | some m =>
    if c.minExcl = true then
      if ¬ Val.gt v (.fin m) = true then .error (.validation .gt m v) else maxCode c v
    else
      if ¬ Val.ge v (.fin m) = true then .error (.validation .ge m v) else maxCode c v
  | none => maxCode c v

theorem ite_not_true {α : Sort _} (b : Bool) (x y : α) :
    (if ¬ b = true then x else y) = if b = true then y else x := by
  cases b <;> rfl

theorem maxCode_eq (c : CatInfo) (v : Val) : maxCode c v = checkMax c v := by
  unfold maxCode checkMax
  cases c.maxV <;> simp only [ite_not_true]

theorem limitsCode_eq (c : CatInfo) (v : Val) : limitsCode c v = checkLimits c v := by
  unfold limitsCode checkLimits checkMin
  cases c.minV with
  | none => exact maxCode_eq c v
  | some m =>
    simp only [ite_not_true, maxCode_eq]
    cases c.minExcl
    · cases Val.ge v (.fin m) <;> rfl
    · cases Val.gt v (.fin m) <;> rfl

theorem checkValue_code (conv : Val → Sym → Except ErrKind Val) (c : CatInfo) (unit : Sym) (v : Val) :
    Gen.Code.checkValue conv false c unit v =
      if c.minV.isSome = true ∨ c.maxV.isSome = true then
        if unit ≠ c.defaultUnit then
          match conv v c.defaultUnit with
          | .error e => .error (.other e)
          | .ok w => limitsCode c w
        else limitsCode c v
      else .ok () := rfl

theorem checkValue_simple_eq_model (g : Reg) (c : CatInfo) (unit : Sym) (this : UnitRow) (v : Val) :
    Gen.Code.checkValue (convertScalarValueOf g c this) false c unit v
      = Valid.checkValue g (.simple c unit this) v := by
  rw [checkValue_code]
  simp only [limitsCode_eq, Valid.checkValue, CatInfo.limited, convToDefault, convertScalarValueOf]
  by_cases hl : c.minV.isSome = true ∨ c.maxV.isSome = true
  · have hl' : (c.minV.isSome || c.maxV.isSome) = true := (Bool.or_eq_true _ _).mpr hl
    by_cases hu : unit = c.defaultUnit
    · simp only [hl, hl', hu, ne_eq, not_true_eq_false, beq_self_eq_true, Bool.not_true, Bool.false_eq_true,
        if_true, if_false]
    · have hb : (unit == c.defaultUnit) = false := beq_false_of_ne hu
      simp only [hl, hl', hu, hb, ne_eq, not_false_eq_true, Bool.not_true, Bool.false_eq_true, if_true, if_false]
      rfl
  · have hl' : (c.minV.isSome || c.maxV.isSome) = false := by
      rw [← Bool.not_eq_true, Bool.or_eq_true]; exact hl
    simp only [hl, hl', Bool.not_false, if_true, if_false]

end Barril.Bridge.Valid
