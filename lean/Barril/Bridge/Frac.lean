/-
Bridge theorems for `Fraction.__old_cmp__` (generated: `Barril/Gen/CodeFrac.lean`, regenerated from the source text of
/repo on every run by `harness/pycode.py`), the comparison behind `Fraction.__eq__`, `__lt__` and (through
`functools.total_ordering`) every other ordering operator.

`oldCmp_eq_model` is stated from the model's side: the generated function is specialised to a Fraction operand and has
no error case to wrap.  `oldCmp_sign` is about ANY integers with positive denominators (C18: "comparison agrees with
exact rational arithmetic"), proved about the code's current text.
-/
import Barril.Gen.CodeFrac
import Barril.Model.Frac
import Mathlib.Tactic.Linarith

namespace Barril.Bridge.Frac
open Barril Barril.Frac Barril.Gen.Code

theorem oldCmp_eq_model (s o : Frac) :
    Frac.oldCmp s (.frac o) = .ok (fractionOldCmp s.numerator s.denominator o.numerator o.denominator) := by
  unfold Frac.oldCmp fractionOldCmp
  simp [coerce]

theorem oldCmp_sign (n1 d1 n2 d2 : Int) (h1 : 0 < d1) (h2 : 0 < d2) :
    (fractionOldCmp n1 d1 n2 d2 = -1 ↔ (n1 : Rat) / d1 < (n2 : Rat) / d2) ∧
    (fractionOldCmp n1 d1 n2 d2 = 0 ↔ (n1 : Rat) / d1 = (n2 : Rat) / d2) ∧
    (fractionOldCmp n1 d1 n2 d2 = 1 ↔ (n1 : Rat) / d1 > (n2 : Rat) / d2) := by
  have hd1 : (0 : Rat) < d1 := by exact_mod_cast h1
  have hd2 : (0 : Rat) < d2 := by exact_mod_cast h2
  have hlt : (n1 : Rat) / d1 < (n2 : Rat) / d2 ↔ n1 * d2 - n2 * d1 < 0 := by
    rw [div_lt_div_iff₀ hd1 hd2, ← Int.cast_mul, ← Int.cast_mul, Int.cast_lt, sub_neg]
  have hgt : (n1 : Rat) / d1 > (n2 : Rat) / d2 ↔ n1 * d2 - n2 * d1 > 0 := by
    rw [gt_iff_lt, div_lt_div_iff₀ hd2 hd1, ← Int.cast_mul, ← Int.cast_mul, Int.cast_lt, gt_iff_lt, sub_pos]
  have heq : (n1 : Rat) / d1 = (n2 : Rat) / d2 ↔ n1 * d2 - n2 * d1 = 0 := by
    rw [div_eq_div_iff hd1.ne' hd2.ne', ← Int.cast_mul, ← Int.cast_mul, Int.cast_inj, sub_eq_zero]
  rw [hlt, hgt, heq]
  unfold fractionOldCmp
  simp only []
  generalize n1 * d2 - n2 * d1 = t
  split_ifs <;> simp <;> omega

end Barril.Bridge.Frac
