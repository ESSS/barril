-- GENERATED by harness/translate.py from /repo's current source. Do not edit.
import Barril.Gen.Dbs
import Barril.Model.RegTable
namespace Barril.Gen
open Barril
theorem simpleCats_all_reg14c : simpleCats.all (CatRow.regOk Barril.Gen.simpleDb) = true := by decide +kernel
end Barril.Gen
