-- GENERATED by harness/translate.py from /repo's current source. Do not edit.
import Barril.Gen.ThmLegderPosc
import Barril.Proofs.LegacyTableLemmas
namespace Barril.Gen
open Barril
theorem nocatUnits_all_legder : nocatUnits.all (UnitRow.derivedOk Barril.Gen.nocatDb) = true :=
  UnitRow.derivedOk_of_same_rows (db := poscDb) (db' := nocatDb) rfl rfl poscUnits_all_legder (by decide +kernel)
end Barril.Gen
