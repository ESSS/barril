-- GENERATED by harness/translate.py from /repo's current source. Do not edit.
import Barril.Gen.Consts
import Barril.Gen.Dbs
import Barril.Gen.KnownBad
import Barril.Gen.NocatC00
import Barril.Gen.NocatCats
import Barril.Gen.NocatUnits
import Barril.Gen.PoscB00
import Barril.Gen.PoscB01
import Barril.Gen.PoscBases
import Barril.Gen.PoscC00
import Barril.Gen.PoscC01
import Barril.Gen.PoscC02
import Barril.Gen.PoscC03
import Barril.Gen.PoscCats
import Barril.Gen.PoscCompact
import Barril.Gen.PoscK00
import Barril.Gen.PoscK01
import Barril.Gen.PoscK02
import Barril.Gen.PoscK03
import Barril.Gen.PoscK04
import Barril.Gen.PoscK05
import Barril.Gen.PoscK06
import Barril.Gen.PoscK07
import Barril.Gen.PoscK08
import Barril.Gen.PoscK09
import Barril.Gen.PoscK10
import Barril.Gen.PoscK11
import Barril.Gen.PoscK12
import Barril.Gen.PoscK13
import Barril.Gen.PoscK14
import Barril.Gen.PoscK15
import Barril.Gen.PoscT00
import Barril.Gen.PoscT01
import Barril.Gen.PoscT02
import Barril.Gen.PoscT03
import Barril.Gen.PoscT04
import Barril.Gen.PoscT05
import Barril.Gen.PoscT06
import Barril.Gen.PoscT07
import Barril.Gen.PoscT08
import Barril.Gen.PoscT09
import Barril.Gen.PoscT10
import Barril.Gen.PoscT11
import Barril.Gen.PoscT12
import Barril.Gen.PoscT13
import Barril.Gen.PoscT14
import Barril.Gen.PoscT15
import Barril.Gen.PoscTree
import Barril.Gen.PoscU00
import Barril.Gen.PoscU01
import Barril.Gen.PoscU02
import Barril.Gen.PoscU03
import Barril.Gen.PoscU04
import Barril.Gen.PoscU05
import Barril.Gen.PoscU06
import Barril.Gen.PoscU07
import Barril.Gen.PoscU08
import Barril.Gen.PoscU09
import Barril.Gen.PoscU10
import Barril.Gen.PoscU11
import Barril.Gen.PoscU12
import Barril.Gen.PoscU13
import Barril.Gen.PoscU14
import Barril.Gen.PoscU15
import Barril.Gen.PoscUnits
import Barril.Gen.SimpleC00
import Barril.Gen.SimpleCats
import Barril.Gen.SimpleU00
import Barril.Gen.SimpleUnits
import Barril.Gen.ThmAnnNocat
import Barril.Gen.ThmAnnPosc
import Barril.Gen.ThmAnnSimple
import Barril.Gen.ThmC06Posc
import Barril.Gen.ThmCatplainPosc
import Barril.Gen.ThmCorePosc
import Barril.Gen.ThmDefcatPosc
import Barril.Gen.ThmDefunitPosc
import Barril.Gen.ThmFlat
import Barril.Gen.ThmIdxPosc
import Barril.Gen.ThmLegderNocat
import Barril.Gen.ThmLegderPosc
import Barril.Gen.ThmLegderSimple
import Barril.Gen.ThmLegfixNocat
import Barril.Gen.ThmLegfixPosc
import Barril.Gen.ThmLegfixSimple
import Barril.Gen.ThmNameownPosc
import Barril.Gen.ThmReg14cSimple
import Barril.Gen.ThmReg14ctPosc
import Barril.Gen.ThmReg14uSimple
import Barril.Gen.ThmSymplainPosc
import Barril.Gen.ThmValshapeNocat
import Barril.Gen.ThmValshapePosc
import Barril.Gen.ThmWfNocat
import Barril.Gen.ThmWfPosc
import Barril.Gen.ThmWfSimple
