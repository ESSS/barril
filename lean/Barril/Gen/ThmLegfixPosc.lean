-- GENERATED by harness/translate.py from /repo's current source. Do not edit.
import Barril.Gen.Dbs
import Barril.Gen.Consts
import Barril.Model.LegacyApi
namespace Barril.Gen
open Barril
theorem poscUnits_all_legfix : poscUnits.all (UnitRow.notRewritten Barril.Gen.legacyList) = true := by decide +kernel
end Barril.Gen
