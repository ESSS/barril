-- GENERATED by harness/translate.py from /repo's current source. Do not edit.
import Barril.Gen.Dbs
import Barril.Proofs.CtorTableLemmas
namespace Barril.Gen
open Barril
theorem poscCats_all_defunit : poscCats.all (CatRow.defaultUnitOk Barril.Gen.poscDb) = true :=
  CatRow.all_defaultUnitOk_of_index (db := Barril.Gen.poscDb) (by decide +kernel)
end Barril.Gen
