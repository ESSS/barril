-- GENERATED by harness/translate.py from /repo's current source. Do not edit.
import Barril.Gen.Dbs
import Barril.Model.Valid
namespace Barril.Gen
open Barril
theorem poscUnits_all_valshape : poscUnits.all (UnitRow.valShape) = true := by decide +kernel
end Barril.Gen
