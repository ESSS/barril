-- GENERATED by harness/translate.py from /repo's current source. Do not edit.
import Barril.Gen.PoscTree
import Barril.Gen.PoscBases
import Barril.Gen.ThmCorePosc
import Barril.Proofs.CompoundIndexLemmas
namespace Barril.Gen
open Barril
/-- every row of the table is found in the index -/
theorem poscTree_complete : poscC.all (fun c => poscTree.find c.sym == some c) = true := by decide +kernel
theorem poscTree_size : poscTree.toList.length = poscC.length := by decide +kernel
/-- everything stored in the index is a row of the table -/
theorem poscTree_sound : poscTree.toList.all (fun c => lookL c.sym poscC == some c) = true :=
  tree_sound_of_length poscTree_complete poscC_pos (Nat.le_of_eq poscTree_size)
theorem poscBases_sound : poscBases.all (fun p => baseL p.1 poscC == some p.2) = true :=
  bases_sound_of_index (by decide +kernel)
/-- the first-listed row of every quantity type is an identity -/
theorem poscBases_ident : poscBases.all (fun p => p.2.ident) = true := by decide +kernel
theorem poscBases_complete : poscC.all (fun c => (lookB c.qtype poscBases).isSome) = true := by decide +kernel
end Barril.Gen
