-- GENERATED by harness/translate.py from /repo's current source. Do not edit.
import Barril.Gen.PoscCompact
import Barril.Gen.PoscUnits
namespace Barril.Gen
open Barril
/-- the compact table is the default database's unit table, row by row -/
theorem poscC_core : poscC.map CRow.core = poscUnits.map UnitRow.core := by decide +kernel
/-- every row of the compact table carries its position in the table -/
theorem poscC_pos : poscC.map CRow.pos = List.range poscC.length := by decide +kernel
end Barril.Gen
