-- GENERATED by harness/translate.py from /repo's current source. Do not edit.
import Barril.Gen.Dbs
import Barril.Gen.PoscCompact
namespace Barril.Gen
open Barril
/-! The unit tables with their chunks appended to the right.  `poscUnits` is `(poscU00 ++ poscU01) ++ …`: a
scan by the kernel copies every row once per chunk that follows it.  An example that evaluates a few lookups
rewrites with these before `decide +kernel` (a table theorem scans once and does not need to). -/
theorem poscUnits_flat : poscUnits = poscU00 ++ (poscU01 ++ (poscU02 ++ (poscU03 ++ (poscU04 ++ (poscU05 ++ (poscU06 ++ (poscU07 ++ (poscU08 ++ (poscU09 ++ (poscU10 ++ (poscU11 ++ (poscU12 ++ (poscU13 ++ (poscU14 ++ poscU15)))))))))))))) := by
  simp only [poscUnits, List.append_assoc]
theorem poscDb_flat : poscDb = ⟨poscU00 ++ (poscU01 ++ (poscU02 ++ (poscU03 ++ (poscU04 ++ (poscU05 ++ (poscU06 ++ (poscU07 ++ (poscU08 ++ (poscU09 ++ (poscU10 ++ (poscU11 ++ (poscU12 ++ (poscU13 ++ (poscU14 ++ poscU15)))))))))))))), poscCats, legacyList⟩ :=
  congrArg (Db.mk · poscCats legacyList) poscUnits_flat
theorem nocatDb_flat : nocatDb = ⟨poscU00 ++ (poscU01 ++ (poscU02 ++ (poscU03 ++ (poscU04 ++ (poscU05 ++ (poscU06 ++ (poscU07 ++ (poscU08 ++ (poscU09 ++ (poscU10 ++ (poscU11 ++ (poscU12 ++ (poscU13 ++ (poscU14 ++ poscU15)))))))))))))), nocatCats, legacyList⟩ :=
  congrArg (Db.mk · nocatCats legacyList) poscUnits_flat
theorem poscC_flat : poscC = poscK00 ++ (poscK01 ++ (poscK02 ++ (poscK03 ++ (poscK04 ++ (poscK05 ++ (poscK06 ++ (poscK07 ++ (poscK08 ++ (poscK09 ++ (poscK10 ++ (poscK11 ++ (poscK12 ++ (poscK13 ++ (poscK14 ++ poscK15)))))))))))))) := by
  simp only [poscC, List.append_assoc]
end Barril.Gen
