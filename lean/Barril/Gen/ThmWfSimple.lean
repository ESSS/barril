-- GENERATED by harness/translate.py from /repo's current source. Do not edit.
import Barril.Gen.Dbs
import Barril.Model.Conv
namespace Barril.Gen
open Barril
theorem simpleUnits_all_wf : simpleUnits.all (UnitRow.wf) = true := by decide +kernel
end Barril.Gen
