-- GENERATED by harness/translate.py from /repo's current source. Do not edit.
import Barril.Gen.KnownBad
import Barril.Gen.ThmIdxPosc
namespace Barril.Gen
open Barril
/-- the C06 row predicate, evaluated through the index -/
theorem poscC_all_c06_indexed : poscC.all (compoundOkOrKnownT poscTree poscBases c06KnownBad) = true := by
  decide +kernel
/-- the C06 table theorem, stated through the plain list lookups -/
theorem poscC_all_c06 : poscC.all (compoundOkOrKnown poscC c06KnownBad) = true :=
  compoundOkOrKnown_of_index poscTree_complete poscTree_sound poscBases_sound poscBases_complete
    poscC_all_c06_indexed
end Barril.Gen
