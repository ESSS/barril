-- GENERATED by harness/translate.py from /repo's current source. Do not edit.
import Barril.Gen.Dbs
import Barril.Model.RegIndex
import Barril.Gen.PoscTree
import Barril.Gen.PoscBases
namespace Barril.Gen
open Barril
theorem poscCats_all_reg14ct : poscCats.all (CatRow.regOkT Barril.Gen.poscTree Barril.Gen.poscBases Barril.Gen.poscDb) = true := by decide +kernel
end Barril.Gen
