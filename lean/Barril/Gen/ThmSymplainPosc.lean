-- GENERATED by harness/translate.py from /repo's current source. Do not edit.
import Barril.Gen.Dbs
import Barril.Model.Ctor
namespace Barril.Gen
open Barril
theorem poscUnits_all_symplain : poscUnits.all (UnitRow.symPlain) = true := by decide +kernel
end Barril.Gen
