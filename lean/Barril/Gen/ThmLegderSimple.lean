-- GENERATED by harness/translate.py from /repo's current source. Do not edit.
import Barril.Gen.Dbs
import Barril.Model.LegacyApi
namespace Barril.Gen
open Barril
theorem simpleUnits_all_legder : simpleUnits.all (UnitRow.derivedOk Barril.Gen.simpleDb) = true := by decide +kernel
end Barril.Gen
