-- GENERATED by harness/translate.py from /repo's current source. Do not edit.
import Barril.Gen.Dbs
import Barril.Model.Ctor
namespace Barril.Gen
open Barril
theorem poscCats_all_catplain : poscCats.all (CatRow.namePlain) = true := by decide +kernel
end Barril.Gen
