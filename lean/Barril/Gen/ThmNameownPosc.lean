-- GENERATED by harness/translate.py from /repo's current source. Do not edit.
import Barril.Gen.Dbs
import Barril.Proofs.StrTableLemmas
namespace Barril.Gen
open Barril
theorem poscUnits_all_nameown : poscUnits.all (UnitRow.nameOwnType Barril.Gen.poscDb) = true :=
  nameOwnType_of_index (db := Barril.Gen.poscDb) (by decide +kernel)
end Barril.Gen
