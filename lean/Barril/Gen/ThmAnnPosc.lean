-- GENERATED by harness/translate.py from /repo's current source. Do not edit.
import Barril.Gen.Dbs
import Barril.Model.Conv
namespace Barril.Gen
open Barril
theorem poscUnits_all_ann : poscUnits.all (UnitRow.annAgree) = true := by decide +kernel
end Barril.Gen
