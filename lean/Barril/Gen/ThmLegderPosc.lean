-- GENERATED by harness/translate.py from /repo's current source. Do not edit.
import Barril.Gen.Dbs
import Barril.Model.LegacyApi
namespace Barril.Gen
open Barril
theorem poscUnits_all_legder : poscUnits.all (UnitRow.derivedOk Barril.Gen.poscDb) = true := by decide +kernel
end Barril.Gen
