-- GENERATED by harness/translate.py from /repo's current source. Do not edit.
import Barril.Gen.Dbs
import Barril.Proofs.CtorTableLemmas
namespace Barril.Gen
open Barril
theorem poscUnits_all_defcat : poscUnits.all (UnitRow.defaultCatOk Barril.Gen.poscDb) = true :=
  UnitRow.all_defaultCatOk_of_index (db := Barril.Gen.poscDb) (by decide +kernel)
end Barril.Gen
