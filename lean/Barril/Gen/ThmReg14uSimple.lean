-- GENERATED by harness/translate.py from /repo's current source. Do not edit.
import Barril.Gen.Dbs
import Barril.Model.RegTable
namespace Barril.Gen
open Barril
theorem simpleUnits_all_reg14u : simpleUnits.all (UnitRow.regOk Barril.Gen.simpleDb) = true := by decide +kernel
end Barril.Gen
